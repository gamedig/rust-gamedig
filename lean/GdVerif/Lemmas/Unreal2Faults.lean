import GdVerif.Lemmas.Unreal2Query
import GdVerif.Lemmas.QSteps
import GdVerif.Lemmas.QFlags
import GdVerif.Spec.Unreal2Faults
/-
  The whole Unreal 2 query with faults injected (C10 end to end), in the logic `Steps` of `Lemmas/QSteps.lean`.
  Each unit is `retry_on_timeout` around `exchange1` (request, first reply, no check); the listening loops
  (`recvWhile`) come after the unit and are functions of the queue (`whileOn`).

  The query is followed once, here, on the script of a plan (`query_faulty`: C10).  The theorem on the SPEC's script
  (`query_spec`: C06, C11) is `query_faulty` at the plan without failures (`planOf`): its flags are all `false`, which
  the query cannot tell from the empty flag list of `Net.init … []` (`FlagBlind`, `Lemmas/QFlags.lean`).  A new section
  of the query needs its answer taken apart in `Unreal2Query`, its `steps_…` lemma from `steps_unit`, a `steps_section`
  step in `steps_queryBody`, a `FlagBlind` line in `flagBlind_query`, and its part of `faultyScript` / `faultyFaults` /
  `faultySends` / `faultyExpected` in `Spec/Unreal2Faults.lean` and of `planOf`.
-/
namespace Gd.Unreal2
open Gd Gd.Unreal2.Spec Gd.Faults

theorem steps_recvWhile {σ : Type} (s : Sock) (hudp : s.tcp = false) (body : σ → Bytes → Res (σ × Bool))
    (fs : List Bool) (sn : List (Bytes × Bool)) :
    ∀ (q : List Delivery) (fuel : Nat) (st : σ), q.length < fuel →
      Steps s (recvWhile s body fuel st) (whileOn body st q).1 ⟨q, fs, sn⟩ ⟨(whileOn body st q).2, fs, sn⟩ :=
  ends_recvWhile s body (fun q w => AtS s w ⟨q, fs, sn⟩) (steps_recv_empty s hudp _ fs sn)
    (fun q => steps_recv_silence s _ q fs sn) (fun d q => steps_recv_take s hudp PACKET_SIZE d q fs sn)

theorem whileOn_quiet {σ : Type} (body : σ → Bytes → Res (σ × Bool)) (st : σ) (tail : List Delivery)
    (h : quiet tail = true) : (whileOn body st tail).1 = .ok st := by
  cases tail with
  | nil => rfl
  | cons d q =>
    cases d with
    | silence => rfl
    | data d => simp [quiet] at h

theorem packetKindOf_ok {n : Nat} {k : PacketKind} (h : packetKindOf n = .ok k) : k.code = n := by
  unfold packetKindOf at h
  split at h <;> cases h <;> rfl

/-- the header check rejects a datagram that is too short or carries another kind byte.  The three ways it does, which
are the three cases of the proof and of `malformedError`: fewer than 4 bytes — `move_cursor(4)` fails (`PacketBad`);
exactly 4 — the cursor moves and `read_u8` finds nothing (`PacketUnderflow`); 5 or more with another kind byte — the
kind is unknown or not the expected one (`PacketBad`). -/
theorem consumeHeaders_malformed (k : PacketKind) (m : Bytes) (hm : malformedAt k.code m = true) :
    consumeHeaders k (Buf.new m) = .err (malformedError m) := by
  unfold consumeHeaders malformedError
  by_cases h4 : m.length < 4
  · have hmv : moveCursor 4 (Buf.new m) = .err .packetBad :=
      moveCursor_err (.inr (by simp only [Buf.new, Buf.pos, Buf.len, List.length_nil]; omega))
    rw [Par.bind_err hmv, if_neg (by simp only [beq_iff_eq]; omega)]
  · have hmv : moveCursor 4 (Buf.new m) = .ok ((), ⟨(m.take 4).reverse ++ [], m.drop 4⟩) :=
      moveCursor_forward (by decide) (by simp only [Buf.new, Buf.pos, Buf.len, List.length_nil]; omega)
    rw [Par.bind_ok hmv]
    cases htl : m.drop 4 with
    | nil =>
      have hlen : m.length = 4 := by have := List.drop_eq_nil_iff.mp htl; omega
      have hu : readU8 ⟨(m.take 4).reverse ++ [], []⟩ = .err .packetUnderflow :=
        readUnsigned_err (Nat.zero_lt_one)
      rw [Par.bind_err hu, if_pos (by rw [hlen]; rfl)]
    | cons t tl =>
      have hlen : m.length ≠ 4 := by
        intro h
        rw [List.drop_eq_nil_iff.mpr (Nat.le_of_eq h)] at htl
        cases htl
      obtain ⟨b2, h2, _, _⟩ := decodes_readU8 t ⟨(m.take 4).reverse ++ [], t :: tl⟩ tl rfl
      rw [Par.bind_ok h2, if_neg (by simpa using hlen)]
      have hne : t.toNat ≠ k.code := by
        intro he
        unfold malformedAt at hm
        rw [htl] at hm
        have : t = UInt8.ofNat k.code := by
          apply UInt8.toNat_inj.mp
          rw [he]
          cases k <;> rfl
        simp [this] at hm
      cases hk : packetKindOf t.toNat with
      | crash => unfold packetKindOf at hk; split at hk <;> cases hk
      | err e =>
        have : e = .packetBad := by unfold packetKindOf at hk; split at hk <;> cases hk; rfl
        subst this
        rfl
      | ok kind =>
        have hkk : (kind != k) = true := by
          simp only [bne_iff_ne, ne_eq]
          intro e; subst e; exact hne (packetKindOf_ok hk).symm
        show (if (kind != k) = true then Par.fail .packetBad else pure () : Par Unit) b2 = _
        rw [if_pos hkk]
        rfl

theorem headers_malformed {α : Type} (k : PacketKind) (p : Par α) (m : Bytes) (hm : malformedAt k.code m = true) :
    (consumeHeaders k >>= fun _ => p).run m = .err (malformedError m) := by
  unfold Par.run
  rw [Par.bind_err (consumeHeaders_malformed k m hm)]

theorem malformedError_not_timeout (m : Bytes) : (malformedError m).isTimeout = false := by
  unfold malformedError
  split <;> rfl

theorem requestImpl_exchange1 (s : Sock) (kind : PacketKind) :
    requestImpl s kind = exchange1 s (requestBytes kind) PACKET_SIZE Res.ok := by
  funext w
  unfold requestImpl exchange1
  simp only [Q.bind_apply]
  cases send s (requestBytes kind) w with
  | mk r1 w1 =>
    cases r1 with
    | ok u =>
      simp only
      cases recv s (some PACKET_SIZE) w1 with
      | mk r2 w2 => cases r2 <;> rfl
    | err k => rfl
    | crash => rfl

theorem steps_requestData (s : Sock) (hudp : s.tcp = false) (retries : Nat) (kind : PacketKind) (p : Plan1)
    (hp : p.wf retries PACKET_SIZE = true) (q : List Delivery) (fs : List Bool) (sn : List (Bytes × Bool)) :
    Steps s (requestData s retries kind) (p.outcome Res.ok) ⟨p.deliveries ++ q, p.faults ++ fs, sn⟩
      ⟨q, fs, sn ++ p.sends (request kind.code)⟩ := by
  unfold requestData
  rw [requestImpl_exchange1]
  exact steps_exchange1_plan s hudp _ _ _ retries p hp (fun d k _ h => by cases h) q fs sn

/-- the plan of one unit as a one-exchange plan; `first` = the first datagram of the valid answer -/
def plan1Of (u : UnitPlan) (first : Bytes) : Plan1 :=
  ⟨u.fails, match u.ending with | .valid => some first | .gaveUp => none | .malformed m => some m⟩

/-- what follows the first datagram in the unit's script -/
def tailOf (u : UnitPlan) (rest : List Bytes) (listens : Bool) : List Delivery :=
  match u.ending with
  | .valid => rest.map .data ++ (if listens then [.silence] else [])
  | _ => []

theorem unitScript_cons (u : UnitPlan) (first : Bytes) (rest : List Bytes) (listens : Bool) :
    unitScript u (first :: rest) listens = (plan1Of u first).deliveries ++ tailOf u rest listens := by
  unfold unitScript plan1Of tailOf Plan1.deliveries failDeliveries
  cases u.ending <;> simp

theorem unitFaults_eq (u : UnitPlan) (first : Bytes) : unitFaults u = (plan1Of u first).faults := by
  unfold unitFaults plan1Of Plan1.faults
  cases u.ending <;> rfl

theorem unitSends_eq (kind : Nat) (u : UnitPlan) (first : Bytes) :
    unitSends kind u = (plan1Of u first).sends (request kind) := by
  unfold unitSends plan1Of Plan1.sends
  cases u.ending <;> rfl

theorem plan1Of_wf {retries kind : Nat} {u : UnitPlan} (hu : wfUnit retries kind u = true) (first : Bytes)
    (hf : first.length ≤ PACKET_SIZE) : (plan1Of u first).wf retries PACKET_SIZE = true := by
  unfold wfUnit at hu
  unfold plan1Of Plan1.wf
  cases he : u.ending with
  | valid => rw [he] at hu; simp at hu; simp [hu, hf]
  | gaveUp => rw [he] at hu; simpa using hu
  | malformed m => rw [he] at hu; simp at hu; simp [hu.1.1, hu.2]

/-- the unit's result when its valid answer leads to `v` -/
def unitRes {α : Type} (u : UnitPlan) (v : α) : Res α :=
  match u.error with
  | none => .ok v
  | some k => .err k

/-- A unit followed by its own processing `after` of the first datagram, on the unit's script.  `after first` succeeds
with `v` consuming `tl` — what follows the first datagram of the answer — and leaving `q'` (`hvalid`); it fails on a
datagram the header check rejects (`hbad`). -/
theorem steps_unit {α : Type} (s : Sock) (hudp : s.tcp = false) (retries : Nat) (kind : PacketKind) (u : UnitPlan)
    (hu : wfUnit retries kind.code u = true) (first : Bytes) (rest : List Bytes) (listens : Bool)
    (hf : first.length ≤ PACKET_SIZE) (after : Bytes → Q α) (v : α) (tl q q' : List Delivery) (fs : List Bool)
    (sn : List (Bytes × Bool)) (htl : tl = rest.map .data ++ (if listens then [.silence] else []))
    (hvalid : u.ending = .valid → ∀ sn, Steps s (after first) (.ok v) ⟨tl ++ q, fs, sn⟩ ⟨q', fs, sn⟩)
    (hq' : u.ending ≠ .valid → q' = q)
    (hbad : ∀ m, malformedAt kind.code m = true → ∀ sn, Steps s (after m) (.err (malformedError m)) ⟨q, fs, sn⟩ ⟨q, fs, sn⟩) :
    Steps s (requestData s retries kind >>= after) (unitRes u v)
      ⟨unitScript u (first :: rest) listens ++ q, unitFaults u ++ fs, sn⟩ ⟨q', fs, sn ++ unitSends kind.code u⟩ := by
  subst htl
  have h := steps_requestData s hudp retries kind (plan1Of u first) (plan1Of_wf hu first hf)
    (tailOf u rest listens ++ q) fs sn
  rw [unitScript_cons, unitFaults_eq u first, unitSends_eq kind.code u first, List.append_assoc]
  unfold unitRes UnitPlan.error
  unfold tailOf at h ⊢
  cases he : u.ending with
  | valid =>
    simp only [plan1Of, he, Plan1.outcome] at h ⊢
    exact Steps.bind h (hvalid he _)
  | gaveUp =>
    rw [hq' (by rw [he]; exact Ending.noConfusion)]
    simp only [plan1Of, he, Plan1.outcome, List.nil_append] at h ⊢
    exact Steps.bind_err h
  | malformed m =>
    rw [hq' (by rw [he]; exact Ending.noConfusion)]
    simp only [plan1Of, he, Plan1.outcome, List.nil_append] at h ⊢
    have hm : malformedAt kind.code m = true := by
      unfold wfUnit at hu; rw [he] at hu; simp at hu; exact hu.1.2
    exact Steps.bind h (hbad m hm _)

theorem steps_info (s : Sock) (hudp : s.tcp = false) (cfg : Config) (st : State) (hp : WfParts cfg st) (u : UnitPlan)
    (hu : wfUnit cfg.retries 0 u = true) (q : List Delivery) (fs : List Bool) (sn : List (Bytes × Bool)) :
    Steps s (queryServerInfo s cfg.retries) (unitRes u (infoOf st))
      ⟨unitScript u [infoDatagram st] false ++ q, unitFaults u ++ fs, sn⟩ ⟨q, fs, sn ++ unitSends 0 u⟩ :=
  steps_unit s hudp cfg.retries .serverInfo u hu (infoDatagram st) [] false hp.infoSize
    (fun d => parse (consumeHeaders .serverInfo >>= fun _ => parseServerInfo) d) (infoOf st) [] q q fs sn rfl
    (fun _ sn => (Steps.parse s _ _ _).congrRes (info_run st hp.header hp.info).symm)
    (fun _ => rfl)
    (fun m hm sn => (Steps.parse s _ _ _).congrRes (headers_malformed .serverInfo _ m hm).symm)

theorem steps_rules (s : Sock) (hudp : s.tcp = false) (cfg : Config) (st : State) (hp : WfParts cfg st) (u : UnitPlan)
    (hu : wfUnit cfg.retries 1 u = true) (q : List Delivery) (fs : List Bool) (sn : List (Bytes × Bool)) :
    Steps s (queryRules s cfg.retries) (unitRes u (expectedMR st))
      ⟨unitScript u (rulesDatagrams cfg st) true ++ q, unitFaults u ++ fs, sn⟩ ⟨q, fs, sn ++ unitSends 1 u⟩ := by
  obtain ⟨first, rest, mr0, hdg, hfirst, hrounds⟩ := rules_answer cfg st hp
  have hsz := hp.rulesSize
  rw [hdg] at hsz ⊢
  have hloop := whileOn_rounds hrounds (fun d hd => hsz d (List.mem_cons_of_mem _ hd)) q
  exact steps_unit s hudp cfg.retries .mutatorsAndRules u hu first rest true (hsz _ (List.mem_cons_self ..))
    (fun d => parse (consumeHeaders .mutatorsAndRules >>= fun _ => parseRules .empty) d >>= fun st0 =>
      fun w => recvWhile s rulesRound (queued s w + 1) st0 w) (expectedMR st) (rest.map .data ++ [.silence]) q q fs sn rfl
    (fun _ sn => by
      refine Steps.bind ((Steps.parse s _ _ _).congrRes hfirst.symm) ?_
      have hl := Steps.fuelled (g := fun n => recvWhile s rulesRound n mr0)
        (fun n hn => steps_recvWhile s hudp rulesRound fs sn ((rest.map .data ++ [.silence]) ++ q) n mr0 hn)
      rw [hloop] at hl
      exact hl)
    (fun _ => rfl)
    (fun m hm sn => Steps.bind_err ((Steps.parse s _ _ _).congrRes (headers_malformed .mutatorsAndRules _ m hm).symm))

/-- what `query_players` does with the first datagram: the loop's first round, then the loop -/
theorem steps_playersAfter (s : Sock) (hudp : s.tcp = false) (n : Nat) (d : Bytes) (hd : d.length ≤ PACKET_SIZE)
    (q : List Delivery) (fs : List Bool) (sn : List (Bytes × Bool)) :
    Steps s (Q.lift (playersRound n .empty d) >>= fun x =>
        match x with
        | (st0, more) => if more then (fun w => recvWhile s (playersRound n) (queued s w + 1) st0 w) else pure st0)
      (whileOn (playersRound n) .empty (.data d :: q)).1 ⟨q, fs, sn⟩
      ⟨(whileOn (playersRound n) .empty (.data d :: q)).2, fs, sn⟩ := by
  unfold whileOn
  rw [List.take_of_length_le hd]
  cases playersRound n .empty d with
  | crash => exact Steps.bind_crash (Steps.lift s _ _)
  | err k => exact Steps.bind_err (Steps.lift s _ _)
  | ok x =>
    obtain ⟨st0, more⟩ := x
    cases more with
    | false => exact Steps.bind (Steps.lift s _ _) (Steps.pure s st0 _)
    | true =>
      exact Steps.bind (Steps.lift s _ _) (Steps.fuelled (g := fun k => recvWhile s (playersRound n) k st0)
        (fun k hk => steps_recvWhile s hudp (playersRound n) fs sn q k st0 hk))

theorem playersRound_malformed (n : Nat) (m : Bytes) (hm : malformedAt 2 m = true) :
    playersRound n .empty m = .err (malformedError m) := by
  unfold playersRound
  rw [headers_malformed .players _ m hm]

theorem playersRound_more {n : Nat} {st st' : Players} {d : Bytes} (h : playersRound n st d = .ok (st', true)) :
    st'.totalLen < n := by
  unfold playersRound at h
  split at h
  · simp only [Res.ok.injEq, Prod.mk.injEq, decide_eq_true_eq] at h
    rw [← h.1]
    exact h.2
  · cases h
  · cases h

/-- the whole players answer on the queue: the SPEC's players, whatever follows — provided that, when the announced
number is not reached, the client's listening ends there (nothing, or a silence) -/
theorem whileOn_playersAnswer (cfg : Config) (st : State) (hp : WfParts cfg st) (q : List Delivery)
    (hq : st.players.length < st.numPlayers → quiet q = true) :
    (whileOn (playersRound st.numPlayers) .empty ((playersDatagrams cfg st).map .data ++ q)).1
      = .ok (expectedPlayers st) := by
  have hr : RoundsStop (playersRound st.numPlayers) .empty (playersDatagrams cfg st) (expectedPlayers st) :=
    players_answer st cfg.playersCuts hp.header hp.players (by simpa [playersAnnounced] using hp.announced)
  rcases whileOn_roundsStop hr hp.playersSize q with e | ⟨hlast, e⟩
  · rw [e]
  · rw [e]
    refine whileOn_quiet _ _ q (hq ?_)
    -- the loop went on after the last datagram: fewer players than announced were there
    rcases hlast with hnil | ⟨st1, d, hb⟩
    · obtain ⟨first, rest, hdg⟩ := playersDatagrams_cons cfg st
      rw [hdg] at hnil
      cases hnil
    · have := playersRound_more hb
      rwa [← expectedPlayers_eq, totalLen_foldl, show Players.empty.totalLen = 0 from rfl, Nat.zero_add] at this

theorem steps_players (s : Sock) (hudp : s.tcp = false) (cfg : Config) (st : State) (hp : WfParts cfg st) (u : UnitPlan)
    (hu : wfUnit cfg.retries 2 u = true) (q : List Delivery)
    (hq : u.ending = .valid → st.players.length < st.numPlayers → quiet q = true)
    (fs : List Bool) (sn : List (Bytes × Bool)) :
    Steps s (queryPlayers s cfg.retries st.numPlayers) (unitRes u (expectedPlayers st))
      ⟨unitScript u (playersDatagrams cfg st) false ++ q, unitFaults u ++ fs, sn⟩
      ⟨if u.ending = .valid then
          (whileOn (playersRound st.numPlayers) .empty ((playersDatagrams cfg st).map .data ++ q)).2 else q,
        fs, sn ++ unitSends 2 u⟩ := by
  obtain ⟨first, rest, hdg⟩ := playersDatagrams_cons cfg st
  have hf : first.length ≤ PACKET_SIZE := hp.playersSize first (by rw [hdg]; exact List.mem_cons_self ..)
  have hval := whileOn_playersAnswer cfg st hp q
  rw [hdg] at hval ⊢
  exact steps_unit s hudp cfg.retries .players u hu first rest false hf
    (fun d => Q.lift (playersRound st.numPlayers .empty d) >>= fun x =>
      match x with
      | (st0, more) =>
        if more then (fun w => recvWhile s (playersRound st.numPlayers) (queued s w + 1) st0 w) else pure st0)
    (expectedPlayers st) (rest.map .data) q _ fs sn (List.append_nil _).symm
    (fun he sn => by
      rw [if_pos he, ← hval (hq he)]
      exact steps_playersAfter s hudp st.numPlayers first hf (rest.map .data ++ q) fs sn)
    (fun hne => if_neg hne)
    (fun m hm sn => Steps.bind_err ((Steps.lift s _ _).congrRes (playersRound_malformed _ m hm).symm))

theorem error_valid {u : UnitPlan} (h : u.ending = .valid) : u.error = none := by simp [UnitPlan.error, h]

theorem error_of_not_valid {u : UnitPlan} (h : u.ending ≠ .valid) : ∃ k, u.error = some k := by
  unfold UnitPlan.error
  cases he : u.ending with
  | valid => exact absurd he h
  | gaveUp => exact ⟨_, rfl⟩
  | malformed m => exact ⟨_, rfl⟩

theorem gatherRes_unitRes {α : Type} (t : Toggle) (ht : t ≠ .skip) (u : UnitPlan) (v : α) :
    Steps.gatherRes t (unitRes u v) = sectionRes t u v := by
  unfold unitRes sectionRes Steps.gatherRes
  cases t <;> cases u.error <;> simp_all

theorem sectionRes_skip {α : Type} (u : UnitPlan) (v : α) : sectionRes .skip u v = .ok none := by
  unfold sectionRes
  cases u.error <;> rfl

/-- A section `f` gathered under its toggle `t`.  `b` says whether it is asked for: its script `sc`, its send flags
`fl` and its requests `sd` are there exactly then, and then `f` runs as `h` says. -/
theorem steps_section {α : Type} {s : Sock} {f : Q α} (t : Toggle) (b : Bool) (hb : b = (t != .skip)) (u : UnitPlan)
    (v : α) (sc : List Delivery) (fl : List Bool) (sd : List (Bytes × Bool)) (q q' : List Delivery) (fs : List Bool)
    (sn : List (Bytes × Bool))
    (h : t ≠ .skip → Steps s f (unitRes u v) ⟨sc ++ q, fl ++ fs, sn⟩ ⟨q', fs, sn ++ sd⟩) :
    Steps s (maybeGather t f) (sectionRes t u v)
      ⟨(if b then sc else []) ++ q, (if b then fl else []) ++ fs, sn⟩
      ⟨if b then q' else q, fs, sn ++ (if b then sd else [])⟩ := by
  subst hb
  by_cases ht : t = .skip
  · subst ht
    rw [sectionRes_skip]
    simp only [bne_self_eq_false, Bool.false_eq_true, ↓reduceIte, List.nil_append, List.append_nil]
    exact Steps.gather_skip s _ _
  · have hne : (t != .skip) = true := by simpa using ht
    rw [← gatherRes_unitRes t ht]
    simp only [hne, ↓reduceIte]
    exact Steps.gather (h ht) t ht

theorem sectionRes_ne_crash {α : Type} (t : Toggle) (u : UnitPlan) (v : α) : sectionRes t u v ≠ .crash := by
  unfold sectionRes
  cases t <;> cases u.error <;> simp

theorem sectionRes_enforce {α : Type} {u : UnitPlan} {k : ErrKind} (hk : u.error = some k) (v : α) :
    sectionRes .enforce u v = .err k := by
  unfold sectionRes
  rw [hk]

theorem sectionRes_of_rulesStops {α : Type} {cfg : Config} {plan : Plan} (h : rulesStops cfg plan = true) (v : α) :
    ∃ k, sectionRes cfg.gather.mutatorsAndRules plan.rules v = .err k := by
  simp only [rulesStops, Bool.and_eq_true, beq_iff_eq, bne_iff_ne, ne_eq] at h
  obtain ⟨k, hk⟩ := error_of_not_valid h.2
  exact ⟨k, by rw [h.1]; exact sectionRes_enforce hk v⟩

theorem sectionRes_of_not_rulesStops {α : Type} {cfg : Config} {plan : Plan} (h : rulesStops cfg plan = false) (v : α) :
    ∃ o, sectionRes cfg.gather.mutatorsAndRules plan.rules v = .ok o := by
  unfold rulesStops at h
  cases ht : cfg.gather.mutatorsAndRules with
  | skip => exact ⟨none, sectionRes_skip _ _⟩
  | try_ =>
    unfold sectionRes
    cases plan.rules.error with
    | none => exact ⟨_, rfl⟩
    | some k => exact ⟨_, rfl⟩
  | enforce =>
    have he : plan.rules.ending = .valid := by simpa [ht] using h
    unfold sectionRes
    rw [error_valid he]
    exact ⟨_, rfl⟩

theorem infoOk_eq (plan : Plan) : infoOk plan = plan.info.error.isNone := by
  unfold infoOk UnitPlan.error
  cases plan.info.ending <;> rfl

theorem steps_queryBody (s : Sock) (hudp : s.tcp = false) (cfg : Config) (st : State) (hp : WfParts cfg st)
    (plan : Plan) (hplan : wfPlan cfg plan = true) (restQ : List Delivery) (restF : List Bool)
    (hrest : stillListening cfg st plan = true → quiet restQ = true) (sn : List (Bytes × Bool)) :
    ∃ q', Steps s (queryBody s cfg.gather cfg.retries) (faultyExpected cfg st plan)
      ⟨faultyScript cfg st plan ++ restQ, faultyFaults cfg plan ++ restF, sn⟩
      ⟨q', restF, sn ++ faultySends cfg plan⟩ := by
  simp only [wfPlan, Bool.and_eq_true, Bool.or_eq_true, Bool.not_eq_true'] at hplan
  obtain ⟨⟨hinfo, hrules⟩, hplayers⟩ := hplan
  -- script, send flags and requests unit by unit, each behind the others
  rw [show faultyScript cfg st plan ++ restQ = unitScript plan.info [infoDatagram st] false ++
        ((if rulesReached cfg plan then unitScript plan.rules (rulesDatagrams cfg st) true else []) ++
          ((if playersReached cfg plan then unitScript plan.players (playersDatagrams cfg st) false else []) ++ restQ))
      by simp only [faultyScript, List.append_assoc],
    show faultyFaults cfg plan ++ restF = unitFaults plan.info ++
        ((if rulesReached cfg plan then unitFaults plan.rules else []) ++
          ((if playersReached cfg plan then unitFaults plan.players else []) ++ restF))
      by simp only [faultyFaults, List.append_assoc],
    show sn ++ faultySends cfg plan = ((sn ++ unitSends 0 plan.info) ++
        (if rulesReached cfg plan then unitSends 1 plan.rules else [])) ++
        (if playersReached cfg plan then unitSends 2 plan.players else [])
      by simp only [faultySends, List.append_assoc]]
  have hio := infoOk_eq plan
  unfold queryBody faultyExpected
  cases hie : plan.info.error with
  | some k =>
    -- the server info unit fails: nothing else is asked for
    rw [hie] at hio
    have hr : rulesReached cfg plan = false := by simp [rulesReached, hio]
    have hpl : playersReached cfg plan = false := by simp [playersReached, hio]
    simp only [hr, hpl, Bool.false_eq_true, ↓reduceIte, List.nil_append, List.append_nil]
    exact ⟨restQ, Steps.bind_err
      ((steps_info s hudp cfg st hp plan.info hinfo restQ restF sn).congrRes (by simp [unitRes, hie]))⟩
  | none =>
    rw [hie] at hio
    have hrr : rulesReached cfg plan = (cfg.gather.mutatorsAndRules != .skip) := by simp [rulesReached, hio]
    have h1 := fun q fs => (steps_info s hudp cfg st hp plan.info hinfo q fs sn).congrRes
      (show .ok (infoOf st) = unitRes plan.info (infoOf st) by simp [unitRes, hie])
    have h2 := steps_section cfg.gather.mutatorsAndRules (rulesReached cfg plan) hrr plan.rules (expectedMR st)
      _ _ _ _ _ _ _ (fun ht => steps_rules s hudp cfg st hp plan.rules (hrules.resolve_left (by rw [hrr]; simpa using ht))
        ((if playersReached cfg plan then unitScript plan.players (playersDatagrams cfg st) false else []) ++ restQ)
        ((if playersReached cfg plan then unitFaults plan.players else []) ++ restF) (sn ++ unitSends 0 plan.info))
    rw [ite_self] at h2
    cases hst : rulesStops cfg plan with
    | true =>
      obtain ⟨k, hR⟩ := sectionRes_of_rulesStops hst (expectedMR st)
      have hpl : playersReached cfg plan = false := by simp [playersReached, hst]
      rw [hR] at h2 ⊢
      simp only [hpl, Bool.false_eq_true, ↓reduceIte, List.nil_append, List.append_nil] at h2 ⊢
      exact ⟨restQ, Steps.bind (h1 _ _) (Steps.bind_err h2)⟩
    | false =>
      obtain ⟨mro, hR⟩ := sectionRes_of_not_rulesStops hst (expectedMR st)
      have hpr : playersReached cfg plan = (cfg.gather.players != .skip) := by simp [playersReached, hio, hst]
      rw [hR] at h2 ⊢
      have h3 := steps_section cfg.gather.players (playersReached cfg plan) hpr plan.players (expectedPlayers st)
        _ _ _ _ _ _ _ (fun ht => steps_players s hudp cfg st hp plan.players
          (hplayers.resolve_left (by rw [hpr]; simpa using ht)) restQ
          (fun he hlt => hrest (by
            have : (cfg.gather.players != .skip) = true := by simpa using ht
            simp [stillListening, hpr, this, he, hlt])) restF
          ((sn ++ unitSends 0 plan.info) ++ (if rulesReached cfg plan then unitSends 1 plan.rules else [])))
      apply Exists.intro
      refine Steps.bind (h1 _ _) (Steps.bind h2 ?_)
      dsimp only
      rw [applyPassword_eq (infoOf st) (mro.getD .empty) rfl]
      cases hP : sectionRes cfg.gather.players plan.players (expectedPlayers st) with
      | crash => exact absurd hP (sectionRes_ne_crash _ _ _)
      | err k =>
        rw [hP] at h3
        exact Steps.bind_err h3
      | ok plo =>
        rw [hP] at h3
        exact Steps.bind h3 (Steps.pure s _ _)

/-- the whole query on the script of a plan (followed by anything that ends the client's listening) -/
theorem query_faulty (cfg : Config) (st : State) (hwf : wf cfg st = true) (port : Nat) (plan : Plan)
    (hplan : wfPlan cfg plan = true) (restQ : List Delivery) (restF : List Bool)
    (hrest : stillListening cfg st plan = true → quiet restQ = true) :
    (query port cfg.gather cfg.retries
        (Net.init [.opened (faultyScript cfg st plan ++ restQ)] (faultyFaults cfg plan ++ restF))).1
      = faultyExpected cfg st plan
    ∧ sentOf (query port cfg.gather cfg.retries
        (Net.init [.opened (faultyScript cfg st plan ++ restQ)] (faultyFaults cfg plan ++ restF))).2.log
      = faultySends cfg plan := by
  obtain ⟨q', h⟩ := steps_queryBody ⟨0, port, false⟩ rfl cfg st (wf_parts cfg st hwf) plan hplan restQ restF hrest []
  have := openUdp_outcome port (fun s => queryBody s cfg.gather cfg.retries) _ _ _ _ h
  simp only [List.nil_append] at this
  exact this

theorem unitSends_length (kind : Nat) (u : UnitPlan) : (unitSends kind u).length = u.attempts := by
  unfold unitSends UnitPlan.attempts
  cases u.ending <;> simp

theorem unitSends_kind (kind : Nat) (u : UnitPlan) : ∀ e ∈ unitSends kind u, e.1 = request kind := by
  intro e he
  unfold unitSends at he
  rcases List.mem_append.mp he with h | h
  · obtain ⟨f, _, rfl⟩ := List.mem_map.mp h; rfl
  · cases hu : u.ending <;> rw [hu] at h <;> simp at h <;> (subst h; rfl)

theorem lastError_class (fails : List Bool) (h : fails ≠ []) :
    lastError attemptError fails = .packetReceive ∨ lastError attemptError fails = .packetSend :=
  lastError_recv_or_send _ attemptError_class fails

theorem attemptsOf_append (sec : Section) (a b : List (Bytes × Bool)) :
    attemptsOf sec (a ++ b) = attemptsOf sec a + attemptsOf sec b := by
  simp [attemptsOf]

theorem attemptsOf_nil (sec : Section) : attemptsOf sec [] = 0 := rfl

theorem request_beq (a b : Section) : (request a.kind == request b.kind) = decide (a = b) := by
  cases a <;> cases b <;> decide

theorem attemptsOf_unitSends (sec of : Section) (u : UnitPlan) :
    attemptsOf sec (unitSends of.kind u) = if of = sec then u.attempts else 0 := by
  unfold attemptsOf
  by_cases hk : of = sec
  · rw [if_pos hk, List.filter_eq_self.mpr, unitSends_length]
    intro e he
    rw [unitSends_kind of.kind u e he, hk]
    simp
  · rw [if_neg hk, List.filter_eq_nil_iff.mpr]
    · rfl
    · intro e he
      rw [unitSends_kind of.kind u e he, request_beq]
      simp [hk]

theorem attemptsOf_faultySends (cfg : Config) (plan : Plan) (sec : Section) :
    attemptsOf sec (faultySends cfg plan) = if reached cfg plan sec then (plan.unit sec).attempts else 0 := by
  unfold faultySends
  rw [attemptsOf_append, attemptsOf_append]
  have h0 := attemptsOf_unitSends sec .info plan.info
  have h1 := attemptsOf_unitSends sec .rules plan.rules
  have h2 := attemptsOf_unitSends sec .players plan.players
  simp only [Section.kind] at h0 h1 h2
  cases sec <;> cases hr : rulesReached cfg plan <;> cases hpl : playersReached cfg plan <;>
    simp [h0, h1, h2, reached, Plan.unit, attemptsOf_nil, hr, hpl]

/-! ### the prescribed outcome in the cases C10 names -/

theorem wfUnit_of_reached {cfg : Config} {plan : Plan} (hplan : wfPlan cfg plan = true) (sec : Section)
    (hreach : reached cfg plan sec = true) : wfUnit cfg.retries sec.kind (plan.unit sec) = true := by
  simp only [wfPlan, Bool.and_eq_true, Bool.or_eq_true, Bool.not_eq_true'] at hplan
  cases sec with
  | info => exact hplan.1.1
  | rules => exact hplan.1.2.resolve_left (by rw [show rulesReached cfg plan = true from hreach]; exact Bool.noConfusion)
  | players => exact hplan.2.resolve_left (by rw [show playersReached cfg plan = true from hreach]; exact Bool.noConfusion)

theorem stillListening_true {cfg : Config} {st : State} {plan : Plan} (h : stillListening cfg st plan = true) :
    cfg.gather.players ≠ .skip ∧ plan.players.ending = .valid ∧ st.players.length < st.numPlayers := by
  simp only [stillListening, playersReached, Bool.and_eq_true, bne_iff_ne, ne_eq, beq_iff_eq, decide_eq_true_eq] at h
  exact ⟨h.1.1.2, h.1.2, h.2⟩

theorem reached_after_fatal {cfg : Config} {plan : Plan} {sec later : Section} (ht : toggleOf cfg sec = .enforce)
    (hend : (plan.unit sec).ending ≠ .valid) (hlt : sec.kind < later.kind) : reached cfg plan later = false := by
  cases sec with
  | info =>
    have hio : infoOk plan = false := by simpa [infoOk] using (show plan.info.ending ≠ .valid from hend)
    cases later with
    | info => exact absurd hlt (Nat.lt_irrefl _)
    | rules => simp [reached, rulesReached, hio]
    | players => simp [reached, playersReached, hio]
  | rules =>
    have hst : rulesStops cfg plan = true := by
      simpa [rulesStops, show cfg.gather.mutatorsAndRules = .enforce from ht] using
        (show plan.rules.ending ≠ .valid from hend)
    cases later with
    | players => simp [reached, playersReached, hst]
    | info => cases hlt
    | rules => exact absurd hlt (Nat.lt_irrefl _)
  | players => cases later <;> simp [Section.kind] at hlt

theorem kind_lt_players {sec : Section} (h : sec ≠ .players) : sec.kind < Section.players.kind := by
  cases sec <;> simp [Section.kind] at h ⊢

theorem stillListening_fatal {cfg : Config} {plan : Plan} {sec : Section} (st : State) (ht : toggleOf cfg sec = .enforce)
    (hend : (plan.unit sec).ending ≠ .valid) : stillListening cfg st plan = false := by
  by_cases hs : sec = .players
  · subst hs
    simp [stillListening, show plan.players.ending ≠ .valid from hend]
  · have : playersReached cfg plan = false := reached_after_fatal (later := .players) ht hend (kind_lt_players hs)
    simp [stillListening, this]

theorem faultyExpected_answered (cfg : Config) (st : State) (plan : Plan) (hi : plan.info.ending = .valid)
    (hr : plan.rules.ending = .valid) (hpl : plan.players.ending = .valid) :
    faultyExpected cfg st plan = expected cfg.answered st := by
  unfold faultyExpected expected sectionRes sectionResult Config.answered
  rw [error_valid hi, error_valid hr, error_valid hpl]
  cases cfg.gather.mutatorsAndRules <;> cases cfg.gather.players <;> rfl

theorem faultyExpected_stops (cfg : Config) (st : State) (plan : Plan) (sec : Section) (k : ErrKind)
    (hreach : reached cfg plan sec = true) (ht : toggleOf cfg sec = .enforce) (hk : (plan.unit sec).error = some k) :
    faultyExpected cfg st plan = .err k := by
  cases sec with
  | info =>
    simp only [Plan.unit] at hk
    simp [faultyExpected, hk]
  | rules =>
    simp only [Plan.unit] at hk
    simp only [toggleOf] at ht
    simp only [reached, rulesReached, infoOk, Bool.and_eq_true, beq_iff_eq] at hreach
    simp [faultyExpected, error_valid hreach.1, sectionRes, ht, hk]
  | players =>
    simp only [Plan.unit] at hk
    simp only [toggleOf] at ht
    simp only [reached, playersReached, infoOk, Bool.and_eq_true, beq_iff_eq, Bool.not_eq_true'] at hreach
    obtain ⟨mro, hR⟩ := sectionRes_of_not_rulesStops hreach.1.2 (expectedMR st)
    unfold faultyExpected
    rw [error_valid hreach.1.1, hR, ht, sectionRes_enforce hk]
    rfl

theorem faultyExpected_rules_tried (cfg : Config) (st : State) (plan : Plan) (hi : plan.info.ending = .valid)
    (ht : cfg.gather.mutatorsAndRules = .try_) (k : ErrKind) (hk : plan.rules.error = some k)
    (hpl : plan.players.ending = .valid) :
    faultyExpected cfg st plan = expected { cfg.answered with rulesOutcome := .silent } st := by
  unfold faultyExpected expected sectionRes sectionResult Config.answered
  rw [error_valid hi, error_valid hpl, hk, ht]
  cases cfg.gather.players <;> rfl

theorem faultyExpected_players_tried (cfg : Config) (st : State) (plan : Plan) (hi : plan.info.ending = .valid)
    (hr : plan.rules.ending = .valid) (ht : cfg.gather.players = .try_) (k : ErrKind)
    (hk : plan.players.error = some k) :
    faultyExpected cfg st plan = expected { cfg.answered with playersOutcome := .silent } st := by
  unfold faultyExpected expected sectionRes sectionResult Config.answered
  rw [error_valid hi, error_valid hr, hk, ht]
  cases cfg.gather.mutatorsAndRules <;> rfl

/-! ### the fault-free query: the plan without failures

`Spec.script` is the script of the plan in which no send fails, an answered section is answered at once and a section
that is not answered times out `retries + 1` times; its flags are all `false`, which the query cannot tell from no
flags at all (`FlagBlind`). -/

theorem flagBlind_recvWhile {σ : Type} (s : Sock) (body : σ → Bytes → Res (σ × Bool)) :
    ∀ (fuel : Nat) (st : σ), FlagBlind (recvWhile s body fuel st)
  | 0, _ => fun _ h => ⟨rfl, h⟩
  | fuel + 1, st => by
    intro w hw
    obtain ⟨e, h1⟩ := FlagBlind.recv s (some PACKET_SIZE) w hw
    simp only [recvWhile, e]
    cases hr : recv s (some PACKET_SIZE) w with
    | mk r w1 =>
      rw [hr] at h1
      cases r with
      | err k => exact ⟨rfl, h1⟩
      | crash => exact ⟨rfl, h1⟩
      | ok data =>
        simp only
        cases body st data with
        | err k => exact ⟨rfl, h1⟩
        | crash => exact ⟨rfl, h1⟩
        | ok p =>
          obtain ⟨st', more⟩ := p
          cases more with
          | false => exact ⟨rfl, h1⟩
          | true => exact flagBlind_recvWhile s body fuel st' w1 h1

theorem flagBlind_requestData (s : Sock) (r : Nat) (kind : PacketKind) : FlagBlind (requestData s r kind) :=
  .retry (.bind (.send _ _) fun _ => .recv _ _) r

theorem flagBlind_query (port : Nat) (g : Gather) (r : Nat) : FlagBlind (query port g r) :=
  .bind (.openSock false port) fun s =>
    .bind (.bind (flagBlind_requestData s r .serverInfo) fun _ => .parse _ _) fun _ =>
      .bind (.maybeGather (.bind (flagBlind_requestData s r .mutatorsAndRules) fun _ => .bind (.parse _ _) fun _ =>
        .fuelled (s := s) fun n => flagBlind_recvWhile s rulesRound n _) _) fun _ =>
      .bind (.maybeGather (.bind (flagBlind_requestData s r .players) fun _ => .bind (.lift _) fun x =>
        match x with
        | (_, _) => .ite (.fuelled (s := s) fun n => flagBlind_recvWhile s (playersRound _) n _) (.pure _)) _) fun _ =>
      .pure _

/-- the unit plan of a section the server treats as `o` says -/
def unitOf (r : Nat) : Outcome → UnitPlan
  | .valid => ⟨[], .valid⟩
  | .silent => ⟨List.replicate (r + 1) false, .gaveUp⟩
  | .malformed => ⟨[], .malformed malformedDatagram⟩

def planOf (cfg : Config) : Plan :=
  ⟨⟨[], .valid⟩, unitOf cfg.retries cfg.rulesOutcome, unitOf cfg.retries cfg.playersOutcome⟩

theorem wfUnit_unitOf (r kind : Nat) (o : Outcome) : wfUnit r kind (unitOf r o) = true := by
  cases o <;> simp [unitOf, wfUnit, malformedAt, malformedDatagram, PACKET_SIZE]

theorem unitFaults_unitOf (r : Nat) (o : Outcome) : ∀ b ∈ unitFaults (unitOf r o), b = false := by
  cases o <;> simp [unitOf, unitFaults]

theorem failDeliveries_replicate (n : Nat) : failDeliveries (List.replicate n false) = List.replicate n .silence := by
  induction n with
  | zero => rfl
  | succ n ih => simp only [List.replicate_succ, failDeliveries, List.flatMap_cons] at ih ⊢; rw [ih]; rfl

theorem unitScript_unitOf (t : Toggle) (o : Outcome) (r : Nat) (dgs : List Bytes) (listens : Bool) :
    (if t != .skip then unitScript (unitOf r o) dgs listens else []) = sectionScript t o r dgs listens := by
  have h0 : failDeliveries [] = [] := rfl
  cases t <;> cases o <;> simp [unitOf, unitScript, sectionScript, failDeliveries_replicate, h0]

theorem sectionRes_unitOf {α : Type} (t : Toggle) (o : Outcome) (r : Nat) (v : α) :
    sectionRes t (unitOf r o) v = sectionResult t o v := by
  have hl : lastError attemptError (List.replicate (r + 1) false) = .packetReceive := by
    rw [List.replicate_succ', lastError_attempt]; rfl
  cases t <;> cases o <;> simp [unitOf, sectionRes, sectionResult, UnitPlan.error, hl, malformedError, malformedDatagram]

theorem rulesStops_planOf (cfg : Config) : rulesStops cfg (planOf cfg) = rulesFatal cfg := by
  unfold rulesStops rulesFatal planOf
  cases cfg.rulesOutcome <;> rfl

/-- The whole query on the SPEC's script, for every configuration of the format's domain: every
toggle pair, every section outcome, every number of datagrams per list. -/
theorem query_spec (cfg : Config) (st : State) (hwf : wf cfg st = true) (port : Nat) :
    (query port cfg.gather cfg.retries (Net.init [.opened (script cfg st)] [])).1 = expected cfg st := by
  have hio : infoOk (planOf cfg) = true := rfl
  have hplan : wfPlan cfg (planOf cfg) = true := by
    simp only [wfPlan, planOf, wfUnit_unitOf, Bool.or_true, Bool.and_true]
    rfl
  have hscript : faultyScript cfg st (planOf cfg) = script cfg st := by
    simp only [faultyScript, script, rulesReached, playersReached, hio, rulesStops_planOf, Bool.true_and,
      rulesSection, playersSection, ← unitScript_unitOf]
    cases rulesFatal cfg <;> simp [planOf, unitScript, failDeliveries]
  have hexp : faultyExpected cfg st (planOf cfg) = expected cfg st := by
    simp only [faultyExpected, expected, planOf, UnitPlan.error, sectionRes_unitOf]
  have hflags : ∀ b ∈ faultyFaults cfg (planOf cfg), b = false := by
    intro b hb
    simp only [faultyFaults, List.mem_append] at hb
    rcases hb with (hb | hb) | hb
    · simpa [planOf, unitFaults] using hb
    · split at hb
      · exact unitFaults_unitOf _ _ b hb
      · cases hb
    · split at hb
      · exact unitFaults_unitOf _ _ b hb
      · cases hb
  have h := (query_faulty cfg st hwf port (planOf cfg) hplan [] [] (fun _ => rfl)).1
  rw [List.append_nil, List.append_nil, hscript, hexp] at h
  rw [← h]
  exact ((flagBlind_query port cfg.gather cfg.retries).init _ _ hflags).1

end Gd.Unreal2
