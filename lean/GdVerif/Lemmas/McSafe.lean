import GdVerif.Lemmas.QLogic
import GdVerif.Lemmas.VarInt
import GdVerif.Proto.Minecraft
/-
  Crash-freedom of the Minecraft model: every parser is `Safe`, every query is crash-free on every
  transport state, and everything it logs is of the expected shape (used by C01 and C09).
-/
namespace Gd.Mc
open Gd

theorem errorByExpectedSize_ne (a b : Nat) : errorByExpectedSize a b ≠ .crash :=
  Res.ite_ne_crash nofun (Res.ite_ne_crash nofun nofun)

theorem errorByExpectedSize_ok {a b : Nat} (h : errorByExpectedSize a b = .ok ()) : b = a := by
  unfold errorByExpectedSize at h
  split at h
  · cases h
  · split at h
    · cases h
    · omega

theorem extractPlayer_ne (p : Json) : extractPlayer p ≠ .crash := by
  unfold extractPlayer
  exact Res.bind_ne_crash (okOr_ne_crash _ _) fun _ => Res.bind_ne_crash (okOr_ne_crash _ _) fun _ => by simp

theorem extractPlayers_ne (ps : List Json) : extractPlayers ps ≠ .crash := by
  induction ps with
  | nil => simp [extractPlayers]
  | cons p r ih =>
    simp only [extractPlayers]
    exact Res.bind_ne_crash (extractPlayer_ne p) fun _ => Res.bind_ne_crash ih fun _ => by simp

theorem extractSample_ne (s : Json) : extractSample s ≠ .crash := by
  unfold extractSample
  split
  · simp
  · exact Res.bind_ne_crash (okOr_ne_crash _ _) fun _ => Res.bind_ne_crash (extractPlayers_ne _) fun _ => by simp

/-- whatever JSON value the external parser returns, the field extraction does not crash -/
theorem javaExtract_ne (ext : Ext) (v : Json) : javaExtract ext v ≠ .crash := by
  unfold javaExtract
  exact Res.bind_ne_crash (okOr_ne_crash _ _) fun _ => Res.bind_ne_crash (okOr_ne_crash _ _) fun _ => Res.bind_ne_crash (okOr_ne_crash _ _) fun _ =>
    Res.bind_ne_crash (okOr_ne_crash _ _) fun _ => Res.bind_ne_crash (extractSample_ne _) fun _ => by simp

theorem javaDecode_ne (ext : Ext) (text : Bytes) : javaDecode ext text ≠ .crash := by
  unfold javaDecode
  split
  · simp
  · exact javaExtract_ne ext _

theorem fromBedrock_ne (v : Bytes) : GameMode.fromBedrock v ≠ .crash :=
  Res.ite_ne_crash nofun (Res.ite_ne_crash nofun (Res.ite_ne_crash nofun (Res.ite_ne_crash nofun (Res.ite_ne_crash nofun nofun))))

theorem bedrockGameMode_ne (o : Option Bytes) : bedrockGameMode o ≠ .crash := by
  cases o with
  | none => simp [bedrockGameMode]
  | some v =>
    simp only [bedrockGameMode]
    exact Res.bind_ne_crash (fromBedrock_ne v) fun _ => by simp

theorem bedrockStatus_ne (s : Bytes) : bedrockStatus s ≠ .crash := by
  unfold bedrockStatus
  split
  · exact Res.bind_ne_crash (okOr_ne_crash _ _) fun _ => Res.bind_ne_crash (okOr_ne_crash _ _) fun _ => Res.bind_ne_crash (bedrockGameMode_ne _) fun _ => by simp
  · simp

theorem safe_javaUnframe : Safe javaUnframe := by
  unfold javaUnframe
  exact Safe.bind safe_getVarint fun _ => safe_remainingBytes

theorem safe_javaStatusText : Safe javaStatusText := by
  unfold javaStatusText
  exact Safe.bind safe_getVarint fun _ => Safe.ite (Safe.fail _) safe_getString

theorem safe_javaParse (ext : Ext) : Safe (javaParse ext) := by
  unfold javaParse
  exact Safe.bind safe_javaStatusText fun _ => Safe.lift_ne _ (javaDecode_ne ext _)

theorem safe_bedrockBody (n : Nat) : Safe (bedrockBody n) := by
  unfold bedrockBody
  exact Safe.bind safe_remainingLength fun _ =>
    Safe.bind (Safe.lift_ne _ (errorByExpectedSize_ne _ _)) fun _ =>
    Safe.bind safe_readCStr fun _ => Safe.lift_ne _ (bedrockStatus_ne _)

theorem safe_bedrockLength : Safe bedrockLength := by
  unfold bedrockLength
  exact Safe.bind (safe_switchEndianChunk _) fun _ => Safe.lift_ne _ (Safe.run_ne_crash (safe_readUnsigned _ _) _)

theorem safe_bedrockParse : Safe bedrockParse := by
  unfold bedrockParse
  exact Safe.bind safe_readU8 fun _ => Safe.ite (Safe.fail _) <|
    Safe.bind (safe_readUnsigned _ _) fun _ => Safe.ite (Safe.fail _) <|
    Safe.bind (safe_moveCursor _) fun _ => Safe.bind (safe_readUnsigned _ _) fun _ => Safe.ite (Safe.fail _) <|
    Safe.bind (safe_readUnsigned _ _) fun _ => Safe.ite (Safe.fail _) <|
    Safe.bind safe_bedrockLength fun _ => safe_bedrockBody _

theorem safe_legacyHeader (n : Nat) : Safe (legacyHeader n) := by
  unfold legacyHeader
  exact Safe.bind safe_readU8 fun _ => Safe.ite (Safe.fail _) <|
    Safe.bind (safe_readUnsigned _ _) fun _ => Safe.lift_ne _ (errorByExpectedSize_ne _ _)

theorem safe_isProtocol16 : Safe isProtocol16 := by
  unfold isProtocol16
  exact Safe.bind safe_remainingBytes fun _ => Safe.ite (Safe.bind (safe_moveCursor _) fun _ => Safe.pure _) (Safe.pure _)

theorem safe_legacy16Response : Safe legacy16Response := by
  unfold legacy16Response
  exact Safe.bind (safe_readUtf16 _) fun _ => Safe.bind (Safe.lift_ne _ (okOr_ne_crash _ _)) fun _ =>
    Safe.bind (safe_readUtf16 _) fun _ => Safe.bind (safe_readUtf16 _) fun _ =>
    Safe.bind (safe_readUtf16 _) fun _ => Safe.bind (Safe.lift_ne _ (okOr_ne_crash _ _)) fun _ =>
    Safe.bind (safe_readUtf16 _) fun _ => Safe.bind (Safe.lift_ne _ (okOr_ne_crash _ _)) fun _ => Safe.pure _

/-- the `split[i]` indexing after `error_by_expected_size(3, split.len())` is in bounds -/
theorem safe_legacySplitResponse (g : LegacyGroup) (v : Bytes) : Safe (legacySplitResponse g v) := by
  unfold legacySplitResponse
  refine Safe.bind (safe_readUtf16 _) fun s => ?_
  intro b
  refine Post.bind (Safe.lift_ne _ (errorByExpectedSize_ne _ _) b) ?_
  intro u b1 hsz
  have hlen : (splitChar 0xA7 s).length = 3 := by
    unfold Par.lift at hsz
    cases he : errorByExpectedSize 3 (splitChar 0xA7 s).length with
    | ok x => exact errorByExpectedSize_ok he
    | err k => rw [he] at hsz; cases hsz
    | crash => rw [he] at hsz; cases hsz
  match hs : splitChar 0xA7 s, hlen with
  | [d, o, m], _ =>
    simp only
    exact (Safe.bind (Safe.lift_ne _ (okOr_ne_crash _ _)) fun _ => Safe.bind (Safe.lift_ne _ (okOr_ne_crash _ _)) fun _ => Safe.pure _) b1

theorem safe_legacyParse (g : LegacyGroup) (n : Nat) : Safe (legacyParse g n) := by
  cases g with
  | v1_6 =>
    simp only [legacyParse, legacy16Parse]
    exact Safe.bind (safe_legacyHeader n) fun _ => Safe.bind safe_isProtocol16 fun _ =>
      Safe.ite (Safe.fail _) safe_legacy16Response
  | v1_4 =>
    simp only [legacyParse, legacy14Parse]
    exact Safe.bind (safe_legacyHeader n) fun _ => Safe.bind safe_isProtocol16 fun _ =>
      Safe.ite safe_legacy16Response (safe_legacySplitResponse _ _)
  | vb1_8 =>
    simp only [legacyParse, legacyB18Parse]
    exact Safe.bind (safe_legacyHeader n) fun _ => safe_legacySplitResponse _ _

end Gd.Mc

namespace Gd.Mc
open Gd

/-- what a whole unit (socket `id` of the given transport to `port`) may log -/
def UnitEv (tcp : Bool) (port : Nat) (allowed : Bytes → Prop) (id : Nat) : Ev → Prop
  | .opened c t p _ => c = id ∧ t = tcp ∧ p = port
  | .send c p d _ => c = id ∧ p = port ∧ allowed d
  | .recv c size _ => c = id ∧ size = none

theorem openThen_safe {α : Type} (tcp : Bool) (port : Nat) (allowed : Bytes → Prop) (body : Sock → Q α)
    (hbody : ∀ s : Sock, s.port = port → QSafe s (UnitEv s.tcp s.port allowed s.id) (body s)) (w : Net) :
    ((openSock tcp port >>= body) w).1 ≠ .crash
    ∧ ∃ added, ((openSock tcp port >>= body) w).2.log = w.log ++ added
        ∧ ∀ e ∈ added, UnitEv tcp port allowed w.conns.length e :=
  Gd.openThen_safe tcp port (UnitEv tcp port allowed) (fun _ _ => ⟨rfl, rfl, rfl⟩)
    (fun s hp ht => by rw [← hp, ← ht]; exact hbody s hp) w

/-- the three packets of a status query, as the model frames them -/
def JavaAllowed (st : RequestSettings) (port : Nat) (d : Bytes) : Prop :=
  (∃ payload, javaHandshakePayload st port = .ok payload ∧ d = asVarint (payload.length % 2 ^ 32) ++ payload)
  ∨ d = asVarint (1 % 2 ^ 32) ++ [0x00] ∨ d = asVarint (1 % 2 ^ 32) ++ [0x01]

theorem qsafe_javaReceive (s : Sock) (allowed : Bytes → Prop) : QSafe s (UnitEv s.tcp s.port allowed s.id) (javaReceive s) := by
  unfold javaReceive
  exact QSafe.bind (QSafe.recv s _ none fun _ => ⟨rfl, rfl⟩) fun _ => QSafe.parse _ _ safe_javaUnframe _

theorem qsafe_javaSendHandshake (s : Sock) (st : RequestSettings) :
    QSafe s (UnitEv s.tcp s.port (JavaAllowed st s.port) s.id) (javaSendHandshake s st) := by
  unfold javaSendHandshake
  cases h : javaHandshakePayload st s.port with
  | ok payload =>
    show QSafe s _ (javaSend s payload)
    exact QSafe.send s _ _ fun _ => ⟨rfl, rfl, Or.inl ⟨payload, h, rfl⟩⟩
  | err k => exact QSafe.fail _ _ k
  | crash =>
    exfalso
    unfold javaHandshakePayload asString at h
    split at h <;> cases h

theorem qsafe_javaGetInfoImpl (ext : Ext) (s : Sock) (st : RequestSettings) :
    QSafe s (UnitEv s.tcp s.port (JavaAllowed st s.port) s.id) (javaGetInfoImpl ext s st) := by
  unfold javaGetInfoImpl
  refine QSafe.bind (qsafe_javaSendHandshake s st) fun _ => ?_
  refine QSafe.bind (QSafe.send s _ _ fun _ => ⟨rfl, rfl, Or.inr (Or.inl rfl)⟩) fun _ => ?_
  refine QSafe.bind (QSafe.send s _ _ fun _ => ⟨rfl, rfl, Or.inr (Or.inr rfl)⟩) fun _ => ?_
  exact QSafe.bind (qsafe_javaReceive s _) fun _ => QSafe.parse _ _ (safe_javaParse ext) _

theorem queryJava_safe (ext : Ext) (port : Nat) (st : RequestSettings) (r : Nat) (w : Net) :
    (queryJava ext port st r w).1 ≠ .crash
    ∧ ∃ added, (queryJava ext port st r w).2.log = w.log ++ added
        ∧ ∀ e ∈ added, UnitEv true port (JavaAllowed st port) w.conns.length e :=
  openThen_safe true port (JavaAllowed st port) (fun s => retryOnTimeout r (javaGetInfoImpl ext s st))
    (fun s hp => by rw [← hp]; exact QSafe.retry (qsafe_javaGetInfoImpl ext s st) r) w

theorem qsafe_bedrockGetInfoImpl (s : Sock) : QSafe s (UnitEv s.tcp s.port (· = bedrockRequest) s.id) (bedrockGetInfoImpl s) := by
  unfold bedrockGetInfoImpl
  exact QSafe.bind (QSafe.send s _ _ fun _ => ⟨rfl, rfl, rfl⟩) fun _ =>
    QSafe.bind (QSafe.recv s _ none fun _ => ⟨rfl, rfl⟩) fun _ => QSafe.parse _ _ safe_bedrockParse _

theorem queryBedrock_safe (port r : Nat) (w : Net) :
    (queryBedrock port r w).1 ≠ .crash
    ∧ ∃ added, (queryBedrock port r w).2.log = w.log ++ added
        ∧ ∀ e ∈ added, UnitEv false port (· = bedrockRequest) w.conns.length e :=
  openThen_safe false port _ (fun s => retryOnTimeout r (bedrockGetInfoImpl s))
    (fun s _ => QSafe.retry (qsafe_bedrockGetInfoImpl s) r) w

theorem qsafe_legacyGetInfoImpl (g : LegacyGroup) (s : Sock) :
    QSafe s (UnitEv s.tcp s.port (· = legacyRequest g) s.id) (legacyGetInfoImpl g s) := by
  unfold legacyGetInfoImpl
  exact QSafe.bind (QSafe.send s _ _ fun _ => ⟨rfl, rfl, rfl⟩) fun _ =>
    QSafe.bind (QSafe.recv s _ none fun _ => ⟨rfl, rfl⟩) fun d => QSafe.parse _ _ (safe_legacyParse g _) _

theorem queryLegacySpecific_safe (g : LegacyGroup) (port r : Nat) (w : Net) :
    (queryLegacySpecific g port r w).1 ≠ .crash
    ∧ ∃ added, (queryLegacySpecific g port r w).2.log = w.log ++ added
        ∧ ∀ e ∈ added, UnitEv true port (· = legacyRequest g) w.conns.length e :=
  openThen_safe true port _ (fun s => retryOnTimeout r (legacyGetInfoImpl g s))
    (fun s _ => QSafe.retry (qsafe_legacyGetInfoImpl g s) r) w

theorem LogSafe.orElse {P : Ev → Prop} {first : Q α} {f : α → β} {rest : Q β}
    (h1 : LogSafe P first) (h2 : LogSafe P rest) : LogSafe P (orElse first f rest) := by
  intro w
  obtain ⟨hc, added, hlog, hall⟩ := h1 w
  unfold Mc.orElse
  cases hf : first w with
  | mk res w1 =>
    rw [hf] at hc hlog
    cases res with
    | ok a => exact ⟨by simp, added, hlog, hall⟩
    | crash => exact absurd rfl hc
    | err k =>
      obtain ⟨hc2, added2, hlog2, hall2⟩ := h2 w1
      refine ⟨hc2, added ++ added2, ?_, ?_⟩
      · show (rest w1).2.log = _
        rw [hlog2]
        simp only at hlog
        rw [hlog, List.append_assoc]
      · intro e he
        rcases List.mem_append.mp he with h | h
        · exact hall e h
        · exact hall2 e h

/-- what the auto-detecting query may log: sockets to the given port only, requests of the five variants
only, receives with the default buffer -/
def AutoEv (port : Nat) (allowed : Bytes → Prop) : Ev → Prop
  | .opened _ _ p _ => p = port
  | .send _ p d _ => p = port ∧ allowed d
  | .recv _ size _ => size = none

theorem UnitEv.toAuto {tcp : Bool} {port : Nat} {a b : Bytes → Prop} {id : Nat} {e : Ev}
    (h : UnitEv tcp port a id e) (hab : ∀ d, a d → b d) : AutoEv port b e := by
  cases e with
  | opened c t p r => exact h.2.2
  | send c p d f => exact ⟨h.2.1, hab d h.2.2⟩
  | recv c s g => exact h.2

def LegacyAllowed (d : Bytes) : Prop := ∃ g, d = legacyRequest g

def AutoAllowed (st : RequestSettings) (port : Nat) (d : Bytes) : Prop :=
  JavaAllowed st port d ∨ d = bedrockRequest ∨ LegacyAllowed d

theorem logSafe_of_unit {tcp : Bool} {port : Nat} {a b : Bytes → Prop} {q : Q α}
    (h : ∀ w, (q w).1 ≠ .crash ∧ ∃ added, (q w).2.log = w.log ++ added ∧ ∀ e ∈ added, UnitEv tcp port a w.conns.length e)
    (hab : ∀ d, a d → b d) : LogSafe (AutoEv port b) q := by
  intro w
  obtain ⟨hc, added, hlog, hall⟩ := h w
  exact ⟨hc, added, hlog, fun e he => (hall e he).toAuto hab⟩

theorem queryLegacy_safe (port r : Nat) : LogSafe (AutoEv port LegacyAllowed) (queryLegacy port r) := by
  unfold queryLegacy
  exact LogSafe.orElse (logSafe_of_unit (queryLegacySpecific_safe .v1_6 port r) fun d h => ⟨_, h⟩) <|
    LogSafe.orElse (logSafe_of_unit (queryLegacySpecific_safe .v1_4 port r) fun d h => ⟨_, h⟩) <|
    LogSafe.orElse (logSafe_of_unit (queryLegacySpecific_safe .vb1_8 port r) fun d h => ⟨_, h⟩) <|
    LogSafe.fail _ _

theorem AutoEv.mono {port : Nat} {a b : Bytes → Prop} (hab : ∀ d, a d → b d) (e : Ev) (h : AutoEv port a e) : AutoEv port b e := by
  cases e with
  | opened c t p r => exact h
  | send c p d f => exact ⟨h.1, hab d h.2⟩
  | recv c s g => exact h

theorem queryAuto_safe (ext : Ext) (port : Nat) (st : RequestSettings) (r : Nat) :
    LogSafe (AutoEv port (AutoAllowed st port)) (queryAuto ext port st r) := by
  unfold queryAuto
  exact LogSafe.orElse (logSafe_of_unit (queryJava_safe ext port st r) fun d h => Or.inl h) <|
    LogSafe.orElse (logSafe_of_unit (queryBedrock_safe port r) fun d h => Or.inr (Or.inl h)) <|
    LogSafe.orElse (LogSafe.mono (queryLegacy_safe port r) (AutoEv.mono fun d h => Or.inr (Or.inr h))) <|
    LogSafe.fail _ _

end Gd.Mc
