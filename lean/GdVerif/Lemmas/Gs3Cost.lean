import GdVerif.Lemmas.QBounds
import GdVerif.Lemmas.Gs3Safe
/-
  What one attempt of the GameSpy 3 exchange adds to the log, for any additive measure (`Bounded`), and
  from it how many datagrams the exchange sends.  One attempt = handshake request, challenge reply, data
  request, data packets.  Two judgements hold and neither implies the other: `Sends 2` (two requests per
  attempt, absolutely) and `Cost 1 1` (one request per attempt plus one per datagram received: the data
  request is only sent after the challenge reply has been received).
-/
namespace Gd.Gs3
open Gd

/-! ### one attempt, for a measure that adds up over the log

`so`/`se` bound a `send` (when it succeeds / fails), `ro`/`re` a `recv`; a successful receive adds nothing
(`ro ≤ 0`), so the receive loop, however long, stays within `0` / `re`. -/

section attempt
variable {m : List Ev → Int} {so se ro re : Int}

theorem bounded_receive (hm : ∀ a b, m (a ++ b) = m a + m b) (hrecv : ∀ (s : Sock) (sz : Option Nat), Bounded m ro re (recv s sz))
    (hro : ro ≤ 0) (hre : 0 ≤ re) (s : Sock) (size : Option Nat) (kind : Nat) : Bounded m ro re (receive s size kind) := by
  unfold receive
  exact ((hrecv s _).bind hm fun d => Bounded.lift hm ((readHeader kind).run d)).weaken (by omega) (by omega)

/-- the loop out of fuel is `Q.lift .crash`: nothing is added -/
theorem bounded_recvPackets (hm : ∀ a b, m (a ++ b) = m a + m b) (hrecv : ∀ (s : Sock) (sz : Option Nat), Bounded m ro re (recv s sz))
    (hro : ro ≤ 0) (hre : 0 ≤ re) (s : Sock) : ∀ (fuel : Nat) (a : Acc), Bounded m 0 re (recvPackets s fuel a) := by
  intro fuel
  induction fuel with
  | zero => exact fun a => (Bounded.lift hm Res.crash).weaken (Int.le_refl 0) hre
  | succ fuel ih =>
    intro a
    unfold recvPackets
    split
    · exact ((bounded_receive hm hrecv hro hre s none 0).bind hm fun data =>
        (Bounded.lift hm (readFrag.run data)).bind hm fun f =>
          (Bounded.lift hm (accept a f)).bind hm fun a' => ih a').weaken (by omega) (by omega)
    · exact (Bounded.lift hm (finish a)).weaken (Int.le_refl 0) hre

/-- One attempt stays within `ko` when it succeeds and `ke` when it fails, as soon as these bound the sums
along its five ways to end: after the second send and all receives; at the first send, the handshake
receive, the second send, a later receive. -/
theorem bounded_getServerPacketsImpl (hm : ∀ a b, m (a ++ b) = m a + m b)
    (hsend : ∀ (s : Sock) (d : Bytes), Bounded m so se (send s d))
    (hrecv : ∀ (s : Sock) (sz : Option Nat), Bounded m ro re (recv s sz)) (hro : ro ≤ 0) (hre : 0 ≤ re)
    {ko ke : Int} (hko : so + ro + so ≤ ko) (h1 : se ≤ ke) (h2 : so + re ≤ ke) (h3 : so + ro + se ≤ ke)
    (h4 : so + ro + so + re ≤ ke) (s : Sock) (payload : Bytes) (single : Bool) :
    Bounded m ko ke (getServerPacketsImpl s payload single) := by
  have htail : Bounded m 0 re (attemptTail s single) := by
    unfold attemptTail
    split
    · exact ((bounded_receive hm hrecv hro hre s none 0).bind hm fun data =>
        (Bounded.lift hm (readSingle.run data)).bind hm fun rest => Bounded.lift hm (.ok [rest])).weaken
          (by omega) (by omega)
    · exact fun w => bounded_recvPackets hm hrecv hro hre s (queued s w + 1) Acc.init w
  have hshake : Bounded m (so + ro) ke (makeInitialHandshake s) :=
    ((hsend s _).bind hm fun _ => (bounded_receive hm hrecv hro hre s (some 16) 9).bind hm fun d =>
      Bounded.lift hm (parseChallenge.run d)).weaken (by omega) (by omega)
  have hrest : ∀ ch, Bounded m so (max se (so + re)) (sendDataRequest s payload ch >>= fun _ => attemptTail s single) :=
    fun ch => ((hsend s _).bind hm fun _ => htail).weaken (by omega) (Int.le_refl _)
  rw [getServerPacketsImpl_eq]
  exact (hshake.bind hm hrest).weaken hko (by omega)

end attempt

theorem sends_getServerPacketsImpl (s : Sock) (payload : Bytes) (single : Bool) :
    Sends 2 (getServerPacketsImpl s payload single) :=
  Sends.iff_bounded.2 (bounded_getServerPacketsImpl nSends_cast_append (fun s d => Sends.iff_bounded.1 (Sends.send s d))
    (fun s sz => Sends.iff_bounded.1 (Sends.recv s sz)) (by omega) (by omega) (by omega) (by omega) (by omega) (by omega)
    (by omega) s payload single)

theorem sends_getServerPackets (s : Sock) (retries : Nat) (payload : Bytes) (single : Bool) :
    Sends (2 * (retries + 1)) (getServerPackets s retries payload single) :=
  Sends.retry (sends_getServerPacketsImpl s payload single) retries

/-- `query` and `query_vars` differ only in what they do with the packets (`post`), which sends nothing -/
theorem sends_exchange (port retries : Nat) (payload : Bytes) (single : Bool) (post : List Bytes → Res α) :
    Sends (2 * (retries + 1)) (exchange port retries payload single post) := by
  unfold exchange
  have h := Sends.bind (Sends.openSock false port) fun s =>
    Sends.bind (k2 := 0) (sends_getServerPackets s retries payload single) fun p => Sends.lift (post p)
  exact h.weaken (by omega)

theorem sends_query (port retries : Nat) : Sends (2 * (retries + 1)) (query port retries) :=
  sends_exchange port retries DEFAULT_PAYLOAD false buildResponse

theorem sends_queryVars (port retries : Nat) : Sends (2 * (retries + 1)) (queryVars port retries) :=
  sends_exchange port retries DEFAULT_PAYLOAD false buildVars

theorem cost_getServerPacketsImpl (s : Sock) (payload : Bytes) (single : Bool) :
    Cost 1 1 (getServerPacketsImpl s payload single) :=
  Cost.iff_bounded.2 (bounded_getServerPacketsImpl unpaid_append (fun s d => Cost.iff_bounded.1 (Cost.send s d))
    (fun s sz => Cost.iff_bounded.1 (Cost.recv s sz)) (by omega) (by omega) (by omega) (by omega) (by omega) (by omega)
    (by omega) s payload single)

theorem cost_getServerPackets (s : Sock) (retries : Nat) (payload : Bytes) (single : Bool) :
    Cost ((retries + 1 : Nat) : Int) ((retries + 1 : Nat) : Int) (getServerPackets s retries payload single) := by
  have := Cost.retry (k := 1) (cost_getServerPacketsImpl s payload single) retries
  simpa [getServerPackets] using this

theorem cost_exchange (port retries : Nat) (payload : Bytes) (single : Bool) (post : List Bytes → Res α) :
    Cost ((retries + 1 : Nat) : Int) ((retries + 1 : Nat) : Int) (exchange port retries payload single post) := by
  unfold exchange
  have h := Cost.bind (Cost.openSock false port) fun s =>
    Cost.bind (cost_getServerPackets s retries payload single) fun p => Cost.lift (post p)
  exact h.weaken (by omega) (by omega)

theorem cost_query (port retries : Nat) :
    Cost ((retries + 1 : Nat) : Int) ((retries + 1 : Nat) : Int) (query port retries) :=
  cost_exchange port retries DEFAULT_PAYLOAD false buildResponse

theorem cost_queryVars (port retries : Nat) :
    Cost ((retries + 1 : Nat) : Int) ((retries + 1 : Nat) : Int) (queryVars port retries) :=
  cost_exchange port retries DEFAULT_PAYLOAD false buildVars

end Gd.Gs3
