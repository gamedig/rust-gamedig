import GdVerif.Lemmas.QBounds
import GdVerif.Proto.Minecraft
/-
  Blocking steps of the Minecraft queries that can run into their timeout, and the silent server.
  Java, Bedrock and each legacy variant: one socket (TCP connect for Java / legacy: a refused or
  timed-out connect is a blocked step and ends the variant), then one retried unit whose every failed
  attempt runs into one timeout.  The fall-through queries try their variants one after the other,
  each on a new socket; a variant that failed contributed at most `retries + 1` timeouts.
-/
namespace Gd

/-- `if let Ok(r) = first { return … }; rest`: a failed `first` has cost its failure bound -/
theorem Block.orElse {first : Q α} {f : α → β} {rest : Q β} {ko1 ke1 ko2 ke2 : Nat}
    (h1 : Block ko1 ke1 first) (h2 : Block ko2 ke2 rest) :
    Block (max ko1 (ke1 + ko2)) (ke1 + ke2) (Mc.orElse first f rest) := by
  intro w
  obtain ⟨a1, hl1, hc1⟩ := h1 w
  unfold Mc.orElse
  cases hqw : first w with
  | mk res w1 =>
    rw [hqw] at hl1 hc1
    cases res with
    | ok a => exact ⟨a1, hl1, by simp only at hc1 ⊢; omega⟩
    | crash => exact ⟨a1, hl1, by simp only at hc1 ⊢; omega⟩
    | err k =>
      obtain ⟨a2, hl2, hc2⟩ := h2 w1
      refine ⟨a1 ++ a2, by simp only; rw [hl2, hl1, List.append_assoc], ?_⟩
      simp only at hc1 ⊢
      rw [nBlocked_append]
      cases hr : (rest w1).1 <;> rw [hr] at hc2 <;> simp only at hc2 ⊢ <;> omega

theorem SilentOutcomeN.orElse {first : Q α} {f : α → β} {rest : Q β} {w : Net} {e1 e2 : ErrKind}
    {n1 k1 b1 n2 k2 b2 : Nat} (h1 : SilentOutcomeN w (first w) e1 n1 k1 b1)
    (h2 : SilentOutcomeN (first w).2 (rest (first w).2) e2 n2 k2 b2) :
    SilentOutcomeN w (Mc.orElse first f rest w) e2 (n1 + n2) (k1 + k2) (b1 + b2) := by
  have e : Mc.orElse first f rest w = rest (first w).2 := by
    unfold Mc.orElse
    have hr := h1.result
    cases hqw : first w with
    | mk res w1 =>
      rw [hqw] at hr
      simp only at hr
      subst hr
      rfl
  rw [e]
  exact h1.append h2

namespace Mc

theorem block_javaSend (s : Sock) (data : Bytes) : Block 0 1 (javaSend s data) := Block.send s _

theorem block_javaSendHandshake (s : Sock) (st : RequestSettings) : Block 0 1 (javaSendHandshake s st) := by
  unfold javaSendHandshake
  exact (Block.bind (Block.lift (javaHandshakePayload st s.port)) fun p => block_javaSend s p).weaken
    (by omega) (by omega)

theorem block_javaReceive (s : Sock) : Block 0 1 (javaReceive s) := by
  unfold javaReceive
  exact (Block.bind (Block.recv s none) fun d => Block.parse javaUnframe d).weaken (by omega) (by omega)

/-- one attempt (three writes, one read): the first step that fails ends it -/
theorem block_javaGetInfoImpl (ext : Ext) (s : Sock) (st : RequestSettings) : Block 0 1 (javaGetInfoImpl ext s st) := by
  unfold javaGetInfoImpl javaSendStatusRequest javaSendPingRequest
  have h := Block.bind (block_javaSendHandshake s st) fun _ =>
    Block.bind (block_javaSend s [0x00]) fun _ =>
      Block.bind (block_javaSend s [0x01]) fun _ =>
        Block.bind (block_javaReceive s) fun sd => Block.parse (javaParse ext) sd
  exact h.weaken (by omega) (by omega)

theorem block_queryJava (ext : Ext) (port : Nat) (st : RequestSettings) (r : Nat) :
    Block r (r + 1) (queryJava ext port st r) := by
  unfold queryJava
  have h := Block.bind (Block.openSock true port) fun s => Block.retrySharp (block_javaGetInfoImpl ext s st) r
  exact h.weaken (by omega) (by omega)

theorem block_bedrockGetInfoImpl (s : Sock) : Block 0 1 (bedrockGetInfoImpl s) := by
  unfold bedrockGetInfoImpl
  have h := Block.bind (Block.send s bedrockRequest) fun _ =>
    Block.bind (Block.recv s none) fun d => Block.parse bedrockParse d
  exact h.weaken (by omega) (by omega)

theorem block_queryBedrock (port r : Nat) : Block r (r + 1) (queryBedrock port r) := by
  unfold queryBedrock
  have h := Block.bind (Block.openSock false port) fun s => Block.retrySharp (block_bedrockGetInfoImpl s) r
  exact h.weaken (by omega) (by omega)

theorem block_legacyGetInfoImpl (g : LegacyGroup) (s : Sock) : Block 0 1 (legacyGetInfoImpl g s) := by
  unfold legacyGetInfoImpl
  have h := Block.bind (Block.send s (legacyRequest g)) fun _ =>
    Block.bind (Block.recv s none) fun d => Block.parse (legacyParse g d.length) d
  exact h.weaken (by omega) (by omega)

theorem block_queryLegacySpecific (g : LegacyGroup) (port r : Nat) :
    Block r (r + 1) (queryLegacySpecific g port r) := by
  unfold queryLegacySpecific
  have h := Block.bind (Block.openSock true port) fun s => Block.retrySharp (block_legacyGetInfoImpl g s) r
  exact h.weaken (by omega) (by omega)

theorem block_queryLegacy (port r : Nat) : Block (3 * (r + 1)) (3 * (r + 1)) (queryLegacy port r) := by
  unfold queryLegacy
  have h := Block.orElse (f := id) (block_queryLegacySpecific .v1_6 port r) <|
    Block.orElse (f := id) (block_queryLegacySpecific .v1_4 port r) <|
      Block.orElse (f := id) (block_queryLegacySpecific .vb1_8 port r) (Block.fail .autoQuery)
  exact h.weaken (by omega) (by omega)

theorem block_queryAuto (ext : Ext) (port : Nat) (st : RequestSettings) (r : Nat) :
    Block (5 * (r + 1)) (5 * (r + 1)) (queryAuto ext port st r) := by
  unfold queryAuto
  have h := Block.orElse (f := id) (block_queryJava ext port st r) <|
    Block.orElse (f := JavaResponse.fromBedrock) (block_queryBedrock port r) <|
      Block.orElse (f := id) (block_queryLegacy port r) (Block.fail .autoQuery)
  exact h.weaken (by omega) (by omega)

theorem silent_javaSend (s : Sock) (data : Bytes) : SilentSends s 1 (javaSend s data) := SilentSends.send s _

/-- one Java attempt against a server that accepts the connection and never writes: handshake, status
request and ping are written, the read times out (a host name of 2³¹ bytes or more is refused before
anything is sent: `InvalidInput`) -/
theorem silent_javaGetInfoImpl (ext : Ext) (s : Sock) (st : RequestSettings) (hh : st.hostname.length < 2 ^ 31) :
    SilentAttempt s 3 (javaGetInfoImpl ext s st) := by
  unfold javaGetInfoImpl javaSendHandshake javaSendStatusRequest javaSendPingRequest javaReceive
  have hp : javaHandshakePayload st s.port
      = .ok ([0x00] ++ asVarint (ofSigned 32 st.protocolVersion) ++ (asVarint st.hostname.length ++ st.hostname)
          ++ natBE 2 s.port ++ [0x01]) := by
    simp only [javaHandshakePayload, asString, hh, ↓reduceIte]
    rfl
  have h1 : SilentSends s 1 (Q.lift (javaHandshakePayload st s.port) >>= fun p => javaSend s p) := by
    have := SilentSends.bind (SilentSends.lift s hp) fun p => silent_javaSend s p
    simpa using this
  exact SilentAttempt.seq (k1 := 1) (k2 := 2) h1 fun _ =>
    SilentAttempt.seq (k1 := 1) (k2 := 1) (silent_javaSend s _) fun _ =>
      SilentAttempt.seq (k1 := 1) (k2 := 0) (silent_javaSend s _) fun _ =>
        ((SilentAttempt.recv s none).bind_left _).bind_left _

theorem silent_queryJava (ext : Ext) (port : Nat) (st : RequestSettings) (r : Nat) (hh : st.hostname.length < 2 ^ 31)
    (w : Net) (hf : w.faults = []) (hp : PendingSilent true (r + 1) w.pending) :
    SilentOutcome w (queryJava ext port st r w) (3 * (r + 1)) (r + 1) := by
  unfold queryJava
  exact SilentRun.openSock (fun s _ => (silent_javaGetInfoImpl ext s st hh).retry r) port w hf hp

theorem silent_bedrockGetInfoImpl (s : Sock) : SilentAttempt s 1 (bedrockGetInfoImpl s) := by
  unfold bedrockGetInfoImpl
  exact SilentAttempt.seq (k2 := 0) (SilentSends.send s _) fun _ => (SilentAttempt.recv s _).bind_left _

theorem silent_queryBedrock (port r : Nat) (w : Net) (hf : w.faults = [])
    (hp : PendingSilent false (r + 1) w.pending) :
    SilentOutcome w (queryBedrock port r w) (r + 1) (r + 1) := by
  unfold queryBedrock
  exact SilentRun.openSock (fun s _ => (silent_bedrockGetInfoImpl s).retry1 r) port w hf hp

theorem silent_legacyGetInfoImpl (g : LegacyGroup) (s : Sock) : SilentAttempt s 1 (legacyGetInfoImpl g s) := by
  unfold legacyGetInfoImpl
  exact SilentAttempt.seq (k2 := 0) (SilentSends.send s _) fun _ => (SilentAttempt.recv s _).bind_left _

theorem silent_queryLegacySpecific (g : LegacyGroup) (port r : Nat) (w : Net) (hf : w.faults = [])
    (hp : PendingSilent true (r + 1) w.pending) :
    SilentOutcome w (queryLegacySpecific g port r w) (r + 1) (r + 1) := by
  unfold queryLegacySpecific
  exact SilentRun.openSock (fun s _ => (silent_legacyGetInfoImpl g s).retry1 r) port w hf hp

theorem silent_fail (w : Net) (hf : w.faults = []) (e : ErrKind) :
    SilentOutcomeN w ((Q.fail e : Q α) w) e 0 0 0 :=
  ⟨rfl, rfl, hf, [], by simp [Q.fail], rfl, rfl, rfl, rfl⟩

/-- three silent TCP peers: every legacy variant is tried on its own connection, `AutoQuery` -/
theorem silent_queryLegacy (port r : Nat) (w : Net) (hf : w.faults = [])
    (hp : AllSilent (r + 1) [true, true, true] w.pending) :
    SilentOutcomeN w (queryLegacy port r w) .autoQuery 3 (3 * (r + 1)) (3 * (r + 1)) := by
  obtain ⟨p1, p2, p3, _⟩ := hp
  unfold queryLegacy
  have o1 := silent_queryLegacySpecific .v1_6 port r w hf p1
  have o2 := silent_queryLegacySpecific .v1_4 port r _ o1.faults (by rw [o1.pending]; exact p2)
  have o3 := silent_queryLegacySpecific .vb1_8 port r _ o2.faults (by rw [o2.pending, o1.pending]; exact p3)
  have h := SilentOutcomeN.orElse (f := id) o1.toN <|
    SilentOutcomeN.orElse (f := id) o2.toN <|
      SilentOutcomeN.orElse (f := id) o3.toN (silent_fail (α := JavaResponse) _ o3.faults .autoQuery)
  have e1 : r + 1 + (r + 1 + (r + 1 + 0)) = 3 * (r + 1) := by omega
  rw [e1] at h
  exact h

/-- five silent peers (TCP, UDP, TCP, TCP, TCP): Java, Bedrock and the three legacy variants are
tried in this order, each on its own socket, `AutoQuery` -/
theorem silent_queryAuto (ext : Ext) (port : Nat) (st : RequestSettings) (r : Nat) (hh : st.hostname.length < 2 ^ 31)
    (w : Net) (hf : w.faults = []) (hp : AllSilent (r + 1) [true, false, true, true, true] w.pending) :
    SilentOutcomeN w (queryAuto ext port st r w) .autoQuery 5 (7 * (r + 1)) (5 * (r + 1)) := by
  obtain ⟨p1, p2, p345⟩ := hp
  unfold queryAuto
  have o1 := silent_queryJava ext port st r hh w hf p1
  have o2 := silent_queryBedrock port r _ o1.faults (by rw [o1.pending]; exact p2)
  have o3 := silent_queryLegacy port r _ o2.faults (by rw [o2.pending, o1.pending]; exact p345)
  have h := SilentOutcomeN.orElse (f := id) o1.toN <|
    SilentOutcomeN.orElse (f := JavaResponse.fromBedrock) o2.toN <|
      SilentOutcomeN.orElse (f := id) o3 (silent_fail (α := JavaResponse) _ o3.faults .autoQuery)
  have e1 : 3 * (r + 1) + (r + 1 + (3 * (r + 1) + 0)) = 7 * (r + 1) := by omega
  have e2 : r + 1 + (r + 1 + (3 * (r + 1) + 0)) = 5 * (r + 1) := by omega
  rw [e1, e2] at h
  exact h

end Mc
end Gd
