import GdVerif.Lemmas.McUnits
import GdVerif.Lemmas.QStepsN
import GdVerif.Spec.McFaults
/-
  The Minecraft units in the shape of `Lemmas/QStepsN.lean` (`queryN`: open a socket, `retry_on_timeout` around "all
  requests, one read, decode"), and what their decoders make of the malformed replies of `Spec/McFaults.lean`.
-/
namespace Gd.Mc
open Gd Gd.Mc.Spec Gd.Faults

def legacyCheck (g : LegacyGroup) (d : Bytes) : Res JavaResponse := (legacyParse g d.length).run d

theorem queryBedrock_queryN (port r : Nat) :
    queryBedrock port r = queryN false port r [bedrockRequest] none bedrockParse.run := by
  unfold queryN
  simp only [← bedrock_exchangeN]
  rfl

theorem queryLegacy_queryN (g : LegacyGroup) (port r : Nat) :
    queryLegacySpecific g port r = queryN true port r [legacyRequest g] none (legacyCheck g) := by
  unfold queryN legacyCheck
  simp only [← legacy_exchangeN]
  rfl

theorem sent_one {l : List (Bytes × Bool)} {req : Bytes} {fails : List AttemptN} (hfails : ∀ a ∈ fails, a.wf 1 = true)
    (h : l = fails.flatMap (AttemptN.sends [req]) ++ [req].map (·, false)) :
    l = fails.map (fun a => (req, a.sendFault)) ++ [(req, false)] ∧ l.length = fails.length + 1 := by
  rw [sends_one_flatMap _ _ hfails] at h
  subst h
  exact ⟨rfl, by simp⟩

theorem queryJava_queryN (ext : Ext) (port : Nat) (st : RequestSettings) (r : Nat) (hh : st.hostname.length < 2 ^ 31) :
    queryJava ext port st r = queryN true port r (javaRequests st port) none (javaDec ext) := by
  rw [← javaReqs_eq st port hh, queryJava_eq]
  unfold queryN
  apply openSock_congr
  intro s hs
  rw [java_exchangeN ext s st _ (by rw [hs]; exact javaHandshakePayload_ok st port hh)]

theorem bedrock_malformed (m : Bytes) (h : malformedBedrock m = true) :
    bedrockParse.run m = .err (malformedBedrockError m) := by
  unfold Par.run bedrockParse
  cases m with
  | nil =>
    rw [Par.bind_err (k := .packetUnderflow) (by simp [readU8, readUnsigned, Buf.new, Buf.remaining])]
    rfl
  | cons b r =>
    have hb : b ≠ 0x1c := by simpa [malformedBedrock] using h
    obtain ⟨h1, _⟩ := readU8_cons b r (Buf.new (b :: r)) rfl
    rw [Par.bind_ok h1]
    have hne : (b.toNat != 0x1c) = true := by
      simp only [bne_iff_ne, ne_eq]
      exact toNat_ne_of_ne hb
    simp [hne, malformedBedrockError]

theorem malformedBedrockError_not_timeout (m : Bytes) : (malformedBedrockError m).isTimeout = false := by
  unfold malformedBedrockError; split <;> rfl

theorem legacyHeader_malformed (m : Bytes) (h : malformedLegacy m = true) :
    legacyHeader m.length (Buf.new m) = .err (malformedLegacyError m) := by
  unfold legacyHeader
  cases m with
  | nil =>
    rw [Par.bind_err (k := .packetUnderflow) (by simp [readU8, readUnsigned, Buf.new, Buf.remaining])]
    rfl
  | cons b r =>
    obtain ⟨h1, hr1⟩ := readU8_cons b r (Buf.new (b :: r)) rfl
    rw [Par.bind_ok h1]
    by_cases hb : b = 0xFF
    · subst hb
      have hlen : r.length < 2 := by
        simp only [malformedLegacy, List.head?_cons, bne_self_eq_false, Bool.false_or, List.length_cons,
          decide_eq_true_eq] at h
        omega
      have hu : readUnsigned .big 2 ((Buf.new (0xFF :: r)).advance 1) = .err .packetUnderflow := by
        simp only [readUnsigned, Buf.remaining, hr1]
        rw [if_pos hlen]
      simp only [show (0xFF : UInt8).toNat = 0xFF from rfl, bne_self_eq_false, Bool.false_eq_true, ↓reduceIte]
      rw [Par.bind_err hu]
      rfl
    · have hne : (b.toNat != 0xFF) = true := by
        simp only [bne_iff_ne, ne_eq]
        exact toNat_ne_of_ne hb
      have hne' : (b != 0xFF) = true := by simpa using hb
      simp [hne, malformedLegacyError, hne']

theorem legacy_malformed (g : LegacyGroup) (m : Bytes) (h : malformedLegacy m = true) :
    legacyCheck g m = .err (malformedLegacyError m) := by
  have hh := legacyHeader_malformed m h
  unfold legacyCheck Par.run
  cases g <;> simp only [legacyParse, legacy16Parse, legacy14Parse, legacyB18Parse] <;> rw [Par.bind_err hh]

theorem malformedLegacyError_not_timeout (m : Bytes) : (malformedLegacyError m).isTimeout = false := by
  unfold malformedLegacyError
  split
  · rfl
  · split <;> rfl

theorem java_malformed (ext : Ext) (m : Bytes) (h : malformedJava m = true) : javaDec ext m = .err .packetUnderflow := by
  simp only [malformedJava, Bool.and_eq_true, decide_eq_true_eq, List.all_eq_true, bne_iff_ne, ne_eq] at h
  have hv : getVarint (Buf.new m) = .err .packetUnderflow :=
    getVarintFrom_short m 5 0 0 (Buf.new m) rfl (by omega) (by omega) h.2
  unfold javaDec Par.run javaUnframe
  rw [Par.bind_err hv]
  rfl

end Gd.Mc
