import GdVerif.Base
/-
  Unsigned decimal text: Rust's `to_string()` of an unsigned integer (`natDec`) is non-empty, all digits, and parsed back
  by `str::parse::<uN>()` (`parseUnsigned`).  Splitting on a delimiter.  ASCII strings as bytes, and small facts
  about `mapM` and bytes for the HTTP and CLI models.  (Signed numbers: `Lemmas/Decimal.lean`.)
-/
namespace Gd

theorem digitsVal_append_singleton (xs : Bytes) (d : UInt8) :
    digitsVal (xs ++ [d]) = digitsVal xs * 10 + (d.toNat - 48) := by
  simp [digitsVal, List.foldl_append]

theorem ofNat_digit_toNat (d : Nat) (h : d < 10) : (UInt8.ofNat (48 + d)).toNat = 48 + d := by
  simp [UInt8.toNat_ofNat']; omega

theorem digit_byte (d : Nat) (h : d < 10) :
    isDigit (UInt8.ofNat (48 + d)) = true ∧ (UInt8.ofNat (48 + d)).toNat - 48 = d := by
  rw [isDigit, inRange, ofNat_digit_toNat d h, Nat.add_sub_cancel_left]
  exact ⟨by simp only [Nat.le_add_right, decide_true, Bool.true_and, decide_eq_true_eq]; omega, rfl⟩

theorem natDecAux_spec (f : Nat) : ∀ n, n < f →
    (natDecAux f n).all isDigit = true ∧ natDecAux f n ≠ [] ∧ digitsVal (natDecAux f n) = n := by
  induction f with
  | zero => intro n h; omega
  | succ f ih =>
    intro n h
    rw [natDecAux]
    split
    · rename_i hlt
      obtain ⟨h1, h2⟩ := digit_byte n hlt
      exact ⟨by rw [List.all_cons, h1]; rfl, List.cons_ne_nil _ _, (Nat.zero_add _).trans h2⟩
    · rename_i hge
      have hdiv : n / 10 < n := Nat.div_lt_self (by omega) (by decide)
      obtain ⟨g1, _, g3⟩ := ih (n / 10) (Nat.lt_of_lt_of_le hdiv (Nat.le_of_lt_succ h))
      obtain ⟨h1, h2⟩ := digit_byte (n % 10) (Nat.mod_lt _ (by omega))
      refine ⟨by rw [List.all_append, g1, List.all_cons, h1]; rfl,
        List.append_ne_nil_of_right_ne_nil _ (List.cons_ne_nil _ _), ?_⟩
      rw [digitsVal_append_singleton, g3, h2]
      exact Nat.div_add_mod' n 10
theorem natDec_spec (n : Nat) : (natDec n).all isDigit = true ∧ natDec n ≠ [] ∧ digitsVal (natDec n) = n :=
  natDecAux_spec (n + 1) n (by omega)

theorem natDec_all_digits (n : Nat) : (natDec n).all isDigit = true := (natDec_spec n).1
theorem natDec_ne_nil (n : Nat) : natDec n ≠ [] := (natDec_spec n).2.1
theorem digitsVal_natDec (n : Nat) : digitsVal (natDec n) = n := (natDec_spec n).2.2

theorem natDec_isEmpty (n : Nat) : (natDec n).isEmpty = false := by
  cases h : natDec n with
  | nil => exact absurd h (natDec_ne_nil n)
  | cons _ _ => rfl

theorem forall_uint8 {P : UInt8 → Prop} (h : ∀ n, n < 256 → P (UInt8.ofNat n)) (b : UInt8) : P b := by
  have := h b.toNat b.toNat_lt
  simpa using this

theorem head_of_all {p : UInt8 → Bool} {l : Bytes} (hne : l ≠ []) (hall : l.all p = true) : ∃ b r, l = b :: r ∧ p b = true := by
  cases l with
  | nil => exact absurd rfl hne
  | cons b r =>
    simp only [List.all_cons, Bool.and_eq_true] at hall
    exact ⟨b, r, rfl, hall.1⟩

theorem natDec_head (n : Nat) : ∃ d r, natDec n = d :: r ∧ isDigit d = true :=
  head_of_all (natDec_ne_nil n) (natDec_all_digits n)

theorem natDec_head_ne_plus (n : Nat) : ∀ r, natDec n ≠ 43 :: r := by
  intro r h
  have := (natDec_spec n).1
  rw [h] at this
  simp [isDigit, inRange] at this

theorem parseUnsigned_natDec (bits n : Nat) (h : n < 2 ^ bits) : parseUnsigned bits (natDec n) = some n := by
  obtain ⟨h1, h2, h3⟩ := natDec_spec n
  unfold parseUnsigned
  have hds : stripPlus (natDec n) = natDec n := by
    unfold stripPlus
    split
    · rename_i r heq; exact absurd heq (natDec_head_ne_plus n r)
    · rfl
  simp only [hds]
  simp [natDec_isEmpty, h1, h3, h]

theorem not_mem_seps (c d : UInt8) (hc : c ≠ d) (ts : List Bytes) (h : ∀ t ∈ ts, c ∉ t) :
    c ∉ (ts.map (d :: ·)).flatten := by
  intro hmem
  obtain ⟨l, hl, hcl⟩ := List.mem_flatten.mp hmem
  obtain ⟨t, ht, rfl⟩ := List.mem_map.mp hl
  rcases List.mem_cons.mp hcl with rfl | hct
  · exact hc rfl
  · exact h t ht hct

theorem splitOn_ne_nil (d : UInt8) (l : Bytes) : splitOn d l ≠ [] := by
  cases l with
  | nil => simp [splitOn]
  | cons b r =>
    simp only [splitOn]
    split
    · simp
    · split <;> simp

theorem splitOn_not_mem (d : UInt8) (s : Bytes) (h : d ∉ s) : splitOn d s = [s] := by
  induction s with
  | nil => rfl
  | cons b r ih =>
    simp only [List.mem_cons, not_or] at h
    have hb : (b == d) = false := by
      rw [beq_eq_false_iff_ne]; exact fun e => h.1 e.symm
    simp [splitOn, hb, ih h.2]

theorem splitOn_append_delim (d : UInt8) (s rest : Bytes) (h : d ∉ s) :
    splitOn d (s ++ d :: rest) = s :: splitOn d rest := by
  induction s with
  | nil => simp [splitOn]
  | cons b r ih =>
    simp only [List.mem_cons, not_or] at h
    have hb : (b == d) = false := by
      rw [beq_eq_false_iff_ne]; exact fun e => h.1 e.symm
    simp [splitOn, hb, ih h.2]

theorem splitOn_tokens (d : UInt8) (first : Bytes) (toks : List Bytes) (hf : d ∉ first)
    (ht : ∀ t ∈ toks, d ∉ t) : splitOn d (first ++ (toks.map (d :: ·)).flatten) = first :: toks := by
  induction toks generalizing first with
  | nil => simpa using splitOn_not_mem d first hf
  | cons t r ih =>
    simp only [List.map_cons, List.flatten_cons, List.cons_append]
    rw [splitOn_append_delim d first _ hf, ih t (ht t (by simp)) (fun x hx => ht x (by simp [hx]))]

theorem asciiBytes_append (s t : String) : asciiBytes (s ++ t) = asciiBytes s ++ asciiBytes t := by
  simp [asciiBytes, String.toList_append]

theorem asciiBytes_inj {s t : String} (hs : ∀ c ∈ s.toList, c.toNat < 128) (ht : ∀ c ∈ t.toList, c.toNat < 128)
    (h : asciiBytes s = asciiBytes t) : s = t := by
  apply String.ext
  unfold asciiBytes at h
  generalize s.toList = a at hs h
  generalize t.toList = b at ht h
  induction a generalizing b with
  | nil => cases b with
    | nil => rfl
    | cons d r' => cases h
  | cons c r ih =>
    cases b with
    | nil => cases h
    | cons d r' =>
      simp only [List.map_cons, List.cons.injEq] at h
      have hc := hs c (by simp)
      have hd := ht d (by simp)
      have hcd : c.toNat = d.toNat := by
        have := congrArg UInt8.toNat h.1
        rw [UInt8.toNat_ofNat', UInt8.toNat_ofNat'] at this
        omega
      rw [Char.toNat_inj.mp hcd, ih (fun x hx => hs x (by simp [hx])) r' (fun x hx => ht x (by simp [hx])) h.2]

theorem mapM_option_length {α β : Type} (f : α → Option β) : ∀ (l : List α) (r : List β), l.mapM f = some r → r.length = l.length
  | [], r, h => by simp at h; subst h; rfl
  | a :: l, r, h => by
    simp only [List.mapM_cons] at h
    cases hf : f a with
    | none => rw [hf] at h; simp at h
    | some y =>
      cases hl : l.mapM f with
      | none => rw [hf, hl] at h; simp at h
      | some ys =>
        rw [hf, hl] at h
        simp at h
        subst h
        simp [mapM_option_length f l ys hl]

end Gd
