import GdVerif.Proto.ArmsSem
import GdVerif.Lemmas.Dispatch
/-
  Lemmas about the translated glue (`Gen/Arms.lean` evaluated by `Proto/ArmsSem.lean`): for EVERY argument value the
  evaluated translation is the call the hand-written `Dispatch.generic` makes.  The generated tables are closed terms:
  which arm (or macro rule) applies is computed, and its terms are taken apart by the equations of the evaluator, the
  conversions by the lemmas `convOf_*`.  So the proofs go through whatever the translator emitted on this run — when the
  source's arm changes, the generated term changes and the goal of that arm is not closed.
-/
namespace Gd.Arms
open Gd Gd.Dispatch

theorem convOf_valve (e : Extra) : convOf .valveGather (encExtra e) = some (encValveGather e.toValve) := by
  obtain ⟨h, pv, gp, gr, ca⟩ := e
  cases gp <;> cases gr <;> cases ca <;> rfl

theorem convOf_unreal2 (e : Extra) : convOf .unreal2Gather (encExtra e) = some (encUnreal2Gather e.toUnreal2) := by
  obtain ⟨h, pv, gp, gr, ca⟩ := e
  cases gp <;> cases gr <;> rfl

theorem convOf_minecraft (e : Extra) : convOf .mcRequestSettings (encExtra e) = some (encMcSettings e.toMinecraft) := by
  obtain ⟨h, pv, gp, gr, ca⟩ := e
  cases h <;> cases pv <;> rfl

theorem convOf_eco (e : Extra) : convOf .ecoRequestSettings (encExtra e) = some (encEcoSettings e.toEco) := by
  obtain ⟨h, pv, gp, gr, ca⟩ := e
  cases h <;> rfl

theorem dfltOf_all :
    dfltOf .extra = some (encExtra ⟨none, none, none, none, none⟩)
    ∧ dfltOf .valveGather = some (encValveGather Valve.Gather.default)
    ∧ dfltOf .unreal2Gather = some (encUnreal2Gather Unreal2.Gather.default)
    ∧ dfltOf .mcRequestSettings = some (encMcSettings Mc.RequestSettings.default)
    ∧ dfltOf .ecoRequestSettings = some (encEcoSettings EcoSettings.default) :=
  ⟨rfl, rfl, rfl, rfl, rfl⟩

theorem encOpt_none (f : α → Val) : encOpt f none = .none_ := rfl
theorem encOpt_some (f : α → Val) (a : α) : encOpt f (some a) = .some_ (f a) := rfl

theorem decOpt_none (f : Val → Option α) : decOpt f .none_ = some none := rfl

theorem decOpt_some (f : Val → Option α) (v : Val) : decOpt f (.some_ v) = (f v).map some := by
  simp only [decOpt]
  cases f v <;> rfl

theorem decOpt_encOpt {enc : α → Val} {dec : Val → Option α} (h : ∀ a, dec (enc a) = some a) (o : Option α) :
    decOpt dec (encOpt enc o) = some o := by
  cases o with
  | none => rfl
  | some a => rw [encOpt_some, decOpt_some, h]; rfl

theorem decOpt_str (b : Option Bytes) : decOpt decStr (encOpt .str b) = some b :=
  decOpt_encOpt (enc := .str) (fun _ => rfl) b

theorem decOpt_timeout (t : Option Settings.Timeout) : decOpt decTimeout (encOpt .timeout t) = some t :=
  decOpt_encOpt (enc := .timeout) (fun _ => rfl) t

theorem decOpt_num (p : Option Nat) : decOpt decNum (encOpt .num p) = some p :=
  decOpt_encOpt (enc := .num) (fun _ => rfl) p

theorem decExtra_enc (e : Extra) : decExtra (encExtra e) = some e := by
  simp only [decExtra, encExtra, Fields.get, reduceCtorEq, ↓reduceIte, decOpt_str,
    decOpt_encOpt (enc := .int) (dec := decInt) fun _ => rfl, decOpt_encOpt (enc := .tog) (dec := decTog) fun _ => rfl,
    decOpt_encOpt (enc := .bool) (dec := decBool) fun _ => rfl]

theorem decValveGather_enc (g : Valve.Gather) : decValveGather (encValveGather g) = some g := rfl
theorem decUnreal2Gather_enc (g : Unreal2.Gather) : decUnreal2Gather (encUnreal2Gather g) = some g := rfl
theorem decMcSettings_enc (s : Mc.RequestSettings) : decMcSettings (encMcSettings s) = some s := rfl
theorem decEcoSettings_enc (s : EcoSettings) : decEcoSettings (encEcoSettings s) = some s := by
  simp only [decEcoSettings, encEcoSettings, Fields.get, ↓reduceIte, decOpt_str]

/-- `SocketAddr::new(*address, port.unwrap_or(d))` -/
theorem evalTm_socketAddr (cx : Sem) {env : Env} {d : Tm} (port : Option Nat) (dp : Nat) (ha : env .address = some .addr)
    (hp : env .port = some (encOpt .num port)) (hd : evalTm cx env d = some (.num dp)) :
    evalTm cx env (.sockAddr (.var .address) (.unwrapOr (.var .port) d)) = some (.sock (port.getD dp)) := by
  cases port <;> simp only [evalTm, ha, hp, hd, encOpt_none, encOpt_some, Option.getD]

theorem translatedCall_eq (game : Game) (port : Option Nat) (timeout : Option Settings.Timeout) (extra : Option Extra) :
    translatedCall game port timeout extra = some (genericCall game port timeout extra) := by
  obtain ⟨dp, proto, rs⟩ := game
  unfold translatedCall
  rcases proto with e | (_ | _ | _) | (_ | _ | _) | _ | (_ | _ | _ | _ | _ | (_ | (_ | _ | g)) | _)
  -- which arm of the table is selected is a closed computation
  all_goals conv in selectArm _ _ => whnf
  -- the arms that read the extra settings convert them when there are any
  case' valve | unreal2 | proprietary.eco | proprietary.minecraft.none | proprietary.minecraft.some.java => cases extra
  -- the `let` (`↓`: as a whole, before the equations take it apart), the arguments by the evaluator's equations, the
  -- conversions as `convOf_*` say
  all_goals
    simp only [↓evalTm_socketAddr sem port dp, evalArm, evalLets, evalArgs, evalTm, bindAll, baseEnv, Env.extend, encGame,
      encOpt_none, encOpt_some, Fields.get, reduceCtorEq, ↓reduceIte, sem, convOf_valve, convOf_unreal2, convOf_minecraft,
      convOf_eco, dfltOf_all, Call.decode, decOpt_timeout, decOpt_num, decOpt_none, decOpt_some, decValveGather_enc,
      decUnreal2Gather_enc, decMcSettings_enc, decEcoSettings_enc, genericCall, Option.orElse, Option.map,
      Option.getD_none, Option.getD_some]

theorem generic_eq_run (ext : Ext) (game : Game) (port : Option Nat) (timeout : Option Settings.Timeout)
    (extra : Option Extra) : generic ext game port timeout extra = (genericCall game port timeout extra).run ext := by
  obtain ⟨dp, e | (_ | _ | _) | v | _ | (_ | _ | _ | _ | _ | (_ | (_ | _ | g)) | _), rs⟩ := game <;> rfl

theorem countArms_eq_one (p : Protocol) : countArms Gen.Arms.arms (encProtocol p) = 1 := by
  rcases p with e | (_ | _ | _) | (_ | _ | _) | _ | (_ | _ | _ | _ | _ | (_ | (_ | _ | g)) | _) <;> rfl

/-! ### the `game_query_fn!` bodies -/

/-- the call a macro-generated module makes (read off `Dispatch.moduleQuery`) -/
def moduleCall : Module → Option Nat → Option Call
  | .valve defaultPort engine gather, port => some (.valveQuery (port.getD defaultPort) engine (some gather) none)
  | .gamespy .one defaultPort, port => some (.gs1Query (port.getD defaultPort) none)
  | .gamespy .two defaultPort, port => some (.gs2Query (port.getD defaultPort) none)
  | .gamespy .three defaultPort, port => some (.gs3Query (port.getD defaultPort) none)
  | .quake v defaultPort, port => some (.quakeQuery v (port.getD defaultPort) none)
  | .unreal2 defaultPort, port => some (.unreal2Query (port.getD defaultPort) Unreal2.Gather.default none)
  | _, _ => none

/-- which macro rule a module kind is an instance of: (family, version) -/
def moduleRule : Module → Option (String × Option String)
  | .valve _ _ _ => some ("valve", none)
  | .gamespy .one _ => some ("gamespy", some "one")
  | .gamespy .two _ => some ("gamespy", some "two")
  | .gamespy .three _ => some ("gamespy", some "three")
  | .quake .one _ => some ("quake", some "one")
  | .quake .two _ => some ("quake", some "two")
  | .quake .three _ => some ("quake", some "three")
  | .unreal2 _ => some ("unreal2", none)
  | _ => none

def findModArm (fam : String) (ver : Option String) :
    Option (String × Option String × Callee × List Tm × Option String) :=
  Gen.Arms.modArms.find? fun m => m.1 == fam && m.2.1 == ver

/-- the macro parameters of a module kind: default port, engine, gathering settings (the last two only read by the
Valve rule) -/
def moduleParams : Module → Nat × Valve.Engine × Valve.Gather
  | .valve p e g => (p, e, g)
  | .gamespy _ p | .quake _ p | .unreal2 p => (p, .goldSrc false, Valve.Gather.default)
  | _ => (0, .goldSrc false, Valve.Gather.default)

/-- the translated macro body of a module's rule, evaluated on the module's parameters, and whether the rule converts
the result with `new_from_valve_response` -/
def translatedModuleCall (m : Module) (port : Option Nat) : Option (Call × Bool) :=
  match moduleRule m with
  | some (fam, ver) =>
    match findModArm fam ver with
    | some arm =>
      match evalModArm arm port (moduleParams m).1 (moduleParams m).2.1 (moduleParams m).2.2 with
      | some c => some (c, arm.2.2.2.2 == some "new_from_valve_response")
      | none => none
    | none => none
  | none => none

theorem translatedModuleCall_eq (m : Module) (port : Option Nat) (c : Call) (hc : moduleCall m port = some c) :
    translatedModuleCall m port = some (c, match m with | .valve _ _ _ => true | _ => false) := by
  unfold translatedModuleCall
  rcases m with ⟨p, e, g⟩ | ⟨_ | _ | _, p⟩ | ⟨_ | _ | _, p⟩ | p | _ | _ | _ | _ | _ | _ | _ | _
  all_goals cases hc
  -- one goal per rule of the macros; its body is found in the table by a closed computation
  all_goals
    simp only [moduleRule]
    conv in findModArm _ _ => whnf
    simp only [↓evalTm_socketAddr sem port p, evalModArm, moduleParams, evalArgs, evalTm, Env.extend, reduceCtorEq,
      ↓reduceIte, sem, dfltOf_all, Call.decode, decOpt_none, decOpt_some, decValveGather_enc, decUnreal2Gather_enc,
      Option.map]
    rfl

theorem moduleQuery_eq_run (ext : Ext) (m : Module) (port : Option Nat) (c : Call) (hc : moduleCall m port = some c) :
    moduleQuery ext m port
      = match m with
        | .valve _ _ _ => Games.mapQ Response.view (c.run ext)
        | _ => c.run ext := by
  cases m with
  | valve p e g =>
    cases hc
    simp only [moduleQuery, Call.run, boxed, mapQ_mapQ]
    rfl
  | gamespy v p => cases v <;> cases hc <;> rfl
  | quake v p => cases hc; rfl
  | unreal2 p => cases hc; rfl
  | _ => cases hc

end Gd.Arms
