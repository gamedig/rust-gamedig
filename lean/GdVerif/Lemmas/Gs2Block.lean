import GdVerif.Lemmas.Gs2Cost
import GdVerif.Proto.Gs2
/-
  Blocking steps of the GameSpy 2 query that can run into their timeout, and the silent server.
-/
namespace Gd.Gs2
open Gd

theorem block_requestDataImpl (s : Sock) : Block 0 1 (requestDataImpl s) := by
  rw [requestDataImpl_exchange1]
  exact Block.exchange1 s _ _ _

theorem block_query (port retries : Nat) : Block retries (retries + 1) (query port retries) := by
  unfold query requestData
  refine (Block.bind (ko1 := 0) (ke1 := 1) (ko2 := retries) (ke2 := retries + 1) (Block.openSock false port)
    fun s => ?_).weaken (by omega) (by omega)
  refine (Block.bind (ko2 := 0) (ke2 := 0) (Block.retrySharp (block_requestDataImpl s) retries) fun x => ?_).weaken
    (by omega) (by omega)
  obtain ⟨data, idx⟩ := x
  exact Block.parse _ data

theorem silent_requestDataImpl (s : Sock) : SilentAttempt s 1 (requestDataImpl s) := by
  rw [requestDataImpl_exchange1]
  exact SilentAttempt.exchange1 s _ _ _

theorem silent_query (port retries : Nat) (w : Net) (hf : w.faults = [])
    (hp : PendingSilent false (retries + 1) w.pending) :
    SilentOutcome w (query port retries w) (retries + 1) (retries + 1) := by
  unfold query requestData
  exact SilentRun.openSock (fun s _ => ((silent_requestDataImpl s).retry1 retries).bind_left _) port w hf hp

end Gd.Gs2
