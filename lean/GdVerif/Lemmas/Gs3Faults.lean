import GdVerif.Lemmas.Gs3Whole
import GdVerif.Lemmas.Gs3Extra
import GdVerif.Lemmas.QSteps
import GdVerif.Spec.Gs3Faults
/-
  The whole GameSpy 3 query with faults injected (C10 end to end), in the logic `Steps` of `Lemmas/QSteps.lean`.
  The retried unit is `get_server_packets_impl`: handshake, data request, receive loop.
-/
namespace Gd.Gs3
open Gd Gd.Gs3.Spec Gd.Faults

theorem sentOf_fst : ∀ log : List Ev, sentOf log = (Gd.sentOf log).map (·.1)
  | [] => rfl
  | .send _ _ d _ :: r => congrArg (d :: ·) (sentOf_fst r)
  | .opened .. :: r => sentOf_fst r
  | .recv .. :: r => sentOf_fst r

theorem steps_receive (s : Sock) (hudp : s.tcp = false) (size : Option Nat) (kind : Nat) (d : Bytes)
    (q : List Delivery) (fs : List Bool) (sn : List (Bytes × Bool)) :
    Steps s (receive s size kind) ((readHeader kind).run (d.take (size.getD PACKET_SIZE)))
      ⟨.data d :: q, fs, sn⟩ ⟨q, fs, sn⟩ := by
  unfold receive
  exact Steps.bind (steps_recv_take s hudp _ d q fs sn) (Steps.parse s _ _ _)

theorem steps_receive_silence (s : Sock) (size : Option Nat) (kind : Nat) (q : List Delivery) (fs : List Bool)
    (sn : List (Bytes × Bool)) :
    Steps s (receive s size kind) (.err .packetReceive) ⟨.silence :: q, fs, sn⟩ ⟨q, fs, sn⟩ := by
  unfold receive
  exact Steps.bind_err (steps_recv_silence s _ q fs sn)

theorem readHeader_malformed (stage : Stage) (m : Bytes) (n : Nat) (hn : 0 < n) (h : malformedAt stage m = true) :
    (readHeader stage.kind.toNat).run (m.take n) = .err (malformedError m) := by
  cases m with
  | nil =>
    unfold Par.run readHeader
    rw [Par.bind_err (k := .packetUnderflow) (by simp [readU8, readUnsigned, Buf.new, Buf.remaining])]
    rfl
  | cons b r =>
    obtain ⟨n', rfl⟩ : ∃ n', n = n' + 1 := ⟨n - 1, by omega⟩
    have hb : b ≠ stage.kind := by simpa [malformedAt] using h
    obtain ⟨b1, hb1, _, _⟩ := decodes_readU8 b (Buf.new ((b :: r).take (n' + 1))) (r.take n') (by simp [Buf.new])
    unfold Par.run readHeader
    rw [Par.bind_ok hb1]
    have hne : (b.toNat != stage.kind.toNat) = true := by
      simp only [bne_iff_ne, ne_eq]
      intro h0
      exact hb (UInt8.toNat_inj.mp h0)
    simp only [hne, ↓reduceIte, Par.fail, malformedError, List.isEmpty_cons, Bool.false_eq_true]

theorem malformedError_not_timeout (m : Bytes) : (malformedError m).isTimeout = false := by
  unfold malformedError
  split <;> rfl

theorem steps_receive_malformed (s : Sock) (hudp : s.tcp = false) (stage : Stage) (size : Option Nat)
    (hsize : 0 < size.getD PACKET_SIZE) (m : Bytes) (hm : malformedAt stage m = true) (q : List Delivery)
    (fs : List Bool) (sn : List (Bytes × Bool)) :
    Steps s (receive s size stage.kind.toNat) (.err (malformedError m)) ⟨.data m :: q, fs, sn⟩ ⟨q, fs, sn⟩ := by
  have hr := steps_receive s hudp size stage.kind.toNat m q fs sn
  rwa [readHeader_malformed stage m _ hsize hm] at hr

theorem steps_receive_bad (s : Sock) (hudp : s.tcp = false) (m : Bytes) (hm : malformedAt .data m = true)
    (q : List Delivery) (fs : List Bool) (sn : List (Bytes × Bool)) :
    Steps s (receive s none 0) (.err (malformedError m)) ⟨.data m :: q, fs, sn⟩ ⟨q, fs, sn⟩ :=
  steps_receive_malformed s hudp .data none (by decide) m hm q fs sn

/-- the challenge the client keeps: the text `0` means none -/
def challengeOf (c : Int) : Option Int := if c = 0 then none else some c

theorem steps_handshake_ok (s : Sock) (hudp : s.tcp = false) (c : Int) (hlo : -(2 ^ 31 : Int) ≤ c) (hhi : c < 2 ^ 31)
    (q : List Delivery) (fs : List Bool) (sn : List (Bytes × Bool)) :
    Steps s (makeInitialHandshake s) (.ok (challengeOf c))
      ⟨.data (handshakeReply c) :: q, false :: fs, sn⟩ ⟨q, fs, sn ++ [(handshakeRequest, false)]⟩ := by
  unfold makeInitialHandshake
  rw [handshakeRequest_eq]
  obtain ⟨d, hh, hdec⟩ := Res.bind_eq_ok (handshake_decoded c hlo hhi)
  have hr := steps_receive s hudp (some 16) 9 (handshakeReply c) q fs (sn ++ [(handshakeRequest, false)])
  rw [Option.getD_some, hh] at hr
  exact Steps.bind (steps_send_ok s _ _ fs sn) (Steps.bind hr ((Steps.parse s _ _ _).congrRes hdec.symm))

theorem steps_handshake_err (s : Sock) {e : ErrKind} {x : Delivery} (q : List Delivery) (fs : List Bool)
    (sn : List (Bytes × Bool))
    (hx : Steps s (receive s (some 16) 9) (.err e) ⟨x :: q, fs, sn ++ [(handshakeRequest, false)]⟩
      ⟨q, fs, sn ++ [(handshakeRequest, false)]⟩) :
    Steps s (makeInitialHandshake s) (.err e) ⟨x :: q, false :: fs, sn⟩ ⟨q, fs, sn ++ [(handshakeRequest, false)]⟩ := by
  unfold makeInitialHandshake
  rw [handshakeRequest_eq]
  exact Steps.bind (steps_send_ok s _ _ fs sn) (Steps.bind_err hx)

theorem steps_handshake_fault (s : Sock) (q : List Delivery) (fs : List Bool) (sn : List (Bytes × Bool)) :
    Steps s (makeInitialHandshake s) (.err .packetSend) ⟨q, true :: fs, sn⟩ ⟨q, fs, sn ++ [(handshakeRequest, true)]⟩ := by
  unfold makeInitialHandshake
  rw [handshakeRequest_eq]
  exact Steps.bind_err (steps_send_fault s _ q fs sn)

/-- how many of the arriving packets the loop reads before it stops of itself: one for each packet it accepts while its
condition holds (meant for runs on which `feed` succeeds: a rejected packet counts 0) -/
def consumed : Acc → List (Res Frag) → Nat
  | _, [] => 0
  | a, f :: r =>
    if a.more then
      match f >>= accept a with
      | .ok a' => consumed a' r + 1
      | _ => 0
    else 0

theorem steps_recvPackets_over (s : Sock) (fuel : Nat) {a : Acc} (hm : a.more = false) (l : List (Res Frag))
    (ds : List Bytes) (q : List Delivery) (fs : List Bool) (sn : List (Bytes × Bool)) :
    Steps s (recvPackets s (fuel + 1) a) (feed a l) ⟨ds.map .data ++ q, fs, sn⟩
      ⟨(ds.drop (consumed a l)).map .data ++ q, fs, sn⟩ := by
  have h1 : feed a l = finish a := by cases l <;> simp only [feed, hm, Bool.false_eq_true, ↓reduceIte]
  have h2 : consumed a l = 0 := by cases l <;> simp only [consumed, hm, Bool.false_eq_true, ↓reduceIte]
  unfold recvPackets
  rw [h1, h2, if_neg (by rw [hm]; exact Bool.false_ne_true)]
  exact Steps.lift s _ _

theorem steps_recvPackets_fail (s : Sock) (fuel : Nat) {a : Acc} (hm : a.more = true) {e : ErrKind} {σ σ' : St}
    (hx : Steps s (receive s none 0) (.err e) σ σ') : Steps s (recvPackets s (fuel + 1) a) (.err e) σ σ' := by
  unfold recvPackets
  rw [if_pos hm]
  exact Steps.bind_err hx

theorem steps_recvPackets_round (s : Sock) (hudp : s.tcp = false) (fuel : Nat) {a a' : Acc} (hm : a.more = true)
    {d : Bytes} {fr : Frag} (hd : decodeFrag d = .ok fr) (hacc : accept a fr = .ok a') {r : Res (List Bytes)}
    {q : List Delivery} {fs : List Bool} {sn : List (Bytes × Bool)} {σ' : St}
    (hrest : Steps s (recvPackets s fuel a') r ⟨q, fs, sn⟩ σ') :
    Steps s (recvPackets s (fuel + 1) a) r ⟨.data d :: q, fs, sn⟩ σ' := by
  obtain ⟨p, hh, hf⟩ := Res.bind_eq_ok hd
  have hr := steps_receive s hudp none 0 d q fs sn
  rw [Option.getD_none, hh] at hr
  unfold recvPackets
  rw [if_pos hm]
  exact Steps.bind hr (Steps.bind ((Steps.parse s readFrag p _).congrRes hf.symm)
    (Steps.bind ((Steps.lift s (accept a fr) _).congrRes hacc.symm) hrest))

/-- on datagrams for which the loop's run (`feed`) succeeds, the loop returns that result having read a prefix of
them — the rest, and whatever follows, stays queued -/
theorem steps_recvPackets (s : Sock) (hudp : s.tcp = false) (q : List Delivery) (fs : List Bool)
    (sn : List (Bytes × Bool)) :
    ∀ (ds : List Bytes) (a : Acc) (res : List Bytes) (fuel : Nat),
      feed a (ds.map decodeFrag) = .ok res → ds.length < fuel →
      Steps s (recvPackets s fuel a) (.ok res) ⟨ds.map .data ++ q, fs, sn⟩
        ⟨(ds.drop (consumed a (ds.map decodeFrag))).map .data ++ q, fs, sn⟩ := by
  intro ds
  induction ds with
  | nil =>
    intro a res fuel hfeed hfuel
    obtain ⟨f, rfl⟩ := Nat.exists_eq_add_one_of_ne_zero (Nat.ne_zero_of_lt hfuel)
    cases hm : a.more with
    | false => exact hfeed ▸ steps_recvPackets_over s f hm [] [] q fs sn
    | true => simp [feed, hm] at hfeed
  | cons d r ih =>
    intro a res fuel hfeed hfuel
    obtain ⟨f, rfl⟩ := Nat.exists_eq_add_one_of_ne_zero (Nat.ne_zero_of_lt hfuel)
    cases hm : a.more with
    | false => exact hfeed ▸ steps_recvPackets_over s f hm _ (d :: r) q fs sn
    | true =>
      simp only [List.map_cons, feed, consumed, hm, ↓reduceIte] at hfeed ⊢
      cases hd : decodeFrag d >>= accept a with
      | err k => rw [hd] at hfeed; cases hfeed
      | crash => rw [hd] at hfeed; cases hfeed
      | ok a' =>
        rw [hd] at hfeed
        obtain ⟨fr, hfr, hacc⟩ := Res.bind_eq_ok hd
        exact steps_recvPackets_round s hudp f hm hfr hacc (ih a' res f hfeed (Nat.lt_of_succ_lt_succ hfuel))

theorem acc_init_more : Acc.init.more = true := rfl

theorem steps_recvAll_ok (s : Sock) (hudp : s.tcp = false) (q : List Delivery) (fs : List Bool)
    (sn : List (Bytes × Bool)) (ds : List Bytes) (res : List Bytes)
    (hfeed : feed Acc.init (ds.map decodeFrag) = .ok res) :
    Steps s (recvAll s) (.ok res) ⟨ds.map .data ++ q, fs, sn⟩
      ⟨(ds.drop (consumed Acc.init (ds.map decodeFrag))).map .data ++ q, fs, sn⟩ :=
  Steps.fuelled (g := fun n => recvPackets s n Acc.init) fun n hn =>
    steps_recvPackets s hudp q fs sn ds Acc.init res n hfeed
      (Nat.lt_of_le_of_lt (by rw [List.length_append, List.length_map]; exact Nat.le_add_right _ _) hn)

theorem steps_recvAll_fail (s : Sock) {e : ErrKind} {σ σ' : St} (hx : Steps s (receive s none 0) (.err e) σ σ') :
    Steps s (recvAll s) (.err e) σ σ' :=
  fun w hw => steps_recvPackets_fail s (queued s w) acc_init_more hx w hw

theorem steps_recvAll_silent (s : Sock) (q : List Delivery) (fs : List Bool) (sn : List (Bytes × Bool)) :
    Steps s (recvAll s) (.err .packetReceive) ⟨.silence :: q, fs, sn⟩ ⟨q, fs, sn⟩ :=
  steps_recvAll_fail s (steps_receive_silence s none 0 q fs sn)

theorem steps_recvAll_bad (s : Sock) (hudp : s.tcp = false) (m : Bytes) (hm : malformedAt .data m = true)
    (q : List Delivery) (fs : List Bool) (sn : List (Bytes × Bool)) :
    Steps s (recvAll s) (.err (malformedError m)) ⟨.data m :: q, fs, sn⟩ ⟨q, fs, sn⟩ :=
  steps_recvAll_fail s (steps_receive_bad s hudp m hm q fs sn)

/-! ### a reply that stops half way: some of the data packets, then something on which `receive` fails -/

theorem selects_frags (unknown : List Nat) (ps : List Bytes) (hcount : ps.length ≤ 128)
    (hsize : ∀ d ∈ packetsFrom unknown ps.length 0 ps, d.length ≤ PACKET_SIZE) (got : List Bytes)
    (h : selects got (packetsFrom unknown ps.length 0 ps) = true) :
    ∃ G : List Frag, got.map decodeFrag = G.map .ok ∧ (ids G).Nodup ∧ (∀ f ∈ G, IsFragOf ps f)
      ∧ G.length < ps.length := by
  obtain ⟨more, hne, hp⟩ := selects_perm got _ h
  have hdec : (got.map decodeFrag ++ more.map decodeFrag).Perm ((frags ps).map .ok) := by
    have := hp.map decodeFrag
    rwa [wire_packets _ _ _ 0 (by omega) hsize, List.map_append] at this
  -- the decoded packets are an arrangement `G ++ M` of the response's, `M` (what did not arrive) not empty
  obtain ⟨L, hperm, hL⟩ := perm_map_inv Res.ok hdec
  obtain ⟨G, M, rfl, hG, hM⟩ := List.map_eq_append_iff.mp hL.symm
  have hids : (ids G ++ ids M).Perm (List.range ps.length) := by
    have hids : ids (G ++ M) = ids G ++ ids M := List.map_append
    rw [← ids_frags, ← hids]
    exact hperm.map _
  refine ⟨G, hG.symm, (List.nodup_append.mp (hids.symm.nodup List.nodup_range)).1,
    fun f hf => (mem_frags ps f).mp (hperm.subset (List.mem_append_left M hf)), ?_⟩
  have hlen : G.length + M.length = ps.length := by
    have := hids.length_eq
    rwa [List.length_append, List.length_range, ids, ids, List.length_map, List.length_map] at this
  have hM' : M.length = more.length := by
    have := congrArg List.length hM
    rwa [List.length_map, List.length_map] at this
  have := List.length_pos_iff.mpr hne
  omega

/-- the receive loop after the packets `P`, on further packets `G` of the response — still fewer than it has — followed
by a delivery `x` on which `GameSpy3::receive` fails with `e`: the loop fails with `e` -/
theorem steps_recvPackets_stop (s : Sock) (hudp : s.tcp = false) (ps : List Bytes) (e : ErrKind) (x : Delivery)
    (q : List Delivery)
    (hx : ∀ fs sn, Steps s (receive s none 0) (.err e) ⟨x :: q, fs, sn⟩ ⟨q, fs, sn⟩) :
    ∀ (ds : List Bytes) (G P : List Frag) (a : Acc) (fuel : Nat),
      ds.map decodeFrag = G.map .ok → Rep ps P a → (ids (P ++ G)).Nodup →
      (∀ f ∈ P ++ G, IsFragOf ps f) → (P ++ G).length < ps.length → ds.length < fuel → ∀ fs sn,
      Steps s (recvPackets s fuel a) (.err e) ⟨ds.map .data ++ x :: q, fs, sn⟩ ⟨q, fs, sn⟩ := by
  intro ds
  induction ds with
  | nil =>
    intro G P a fuel _ hrep _ _ hlt hfuel fs sn
    obtain ⟨f, rfl⟩ := Nat.exists_eq_add_one_of_ne_zero (Nat.ne_zero_of_lt hfuel)
    exact steps_recvPackets_fail s f (hrep.more (Nat.lt_of_le_of_lt (List.length_append ▸ Nat.le_add_right _ _) hlt)) (hx fs sn)
  | cons d r ih =>
    intro G P a fuel hdec hrep hnd hfr hlt hfuel fs sn
    obtain ⟨f, rfl⟩ := Nat.exists_eq_add_one_of_ne_zero (Nat.ne_zero_of_lt hfuel)
    cases G with
    | nil => cases hdec
    | cons g G' =>
      obtain ⟨hdg, hdec'⟩ := List.cons.inj hdec
      have hm := hrep.more (Nat.lt_of_le_of_lt (List.length_append ▸ Nat.le_add_right _ _) hlt)
      have hids : ids (P ++ g :: G') = ids P ++ g.id :: ids G' := List.map_append
      have hnew : g.id ∉ ids P := fun hmem =>
        (List.nodup_append.mp (hids ▸ hnd)).2.2 _ hmem g.id List.mem_cons_self rfl
      obtain ⟨a', hacc, hrep'⟩ := hrep.accept (hfr g (List.mem_append_right P List.mem_cons_self)) hnew
      have hassoc : (P ++ [g]) ++ G' = P ++ g :: G' := List.append_cons P g G' ▸ rfl
      exact steps_recvPackets_round s hudp f hm hdg hacc
        (ih G' (P ++ [g]) a' f hdec' hrep' (hassoc ▸ hnd) (hassoc ▸ hfr) (hassoc ▸ hlt)
          (Nat.lt_of_succ_lt_succ hfuel) fs sn)

theorem steps_recvAll_stop (s : Sock) (hudp : s.tcp = false) (unknown : List Nat) (ps : List Bytes)
    (hcount : ps.length ≤ 128) (hsize : ∀ d ∈ packetsFrom unknown ps.length 0 ps, d.length ≤ PACKET_SIZE)
    (e : ErrKind) (x : Delivery) (q : List Delivery)
    (hx : ∀ fs sn, Steps s (receive s none 0) (.err e) ⟨x :: q, fs, sn⟩ ⟨q, fs, sn⟩)
    (got : List Bytes) (hgot : partOf got (packetsFrom unknown ps.length 0 ps) = true) (fs : List Bool)
    (sn : List (Bytes × Bool)) :
    Steps s (recvAll s) (.err e) ⟨got.map .data ++ x :: q, fs, sn⟩ ⟨q, fs, sn⟩ := by
  cases got with
  | nil => exact steps_recvAll_fail s (hx fs sn)
  | cons d r =>
    have hsel : selects (d :: r) (packetsFrom unknown ps.length 0 ps) = true := by simpa [partOf] using hgot
    obtain ⟨G, hdec, hnd, hfr, hlt⟩ := selects_frags unknown ps hcount hsize (d :: r) hsel
    exact Steps.fuelled (g := fun n => recvPackets s n Acc.init) fun n hn =>
      steps_recvPackets_stop s hudp ps e x q hx (d :: r) G [] Acc.init n hdec (Rep.init ps) hnd hfr hlt
        (Nat.lt_of_le_of_lt (by rw [List.length_append, List.length_map]; exact Nat.le_add_right _ _) hn) fs sn

/-- handshake, data request, then `tail`: the receive loop, or the one receive of single-packet mode -/
def attemptOf (s : Sock) (payload : Bytes) (tail : Q (List Bytes)) : Q (List Bytes) :=
  makeInitialHandshake s >>= fun ch => sendDataRequest s payload ch >>= fun _ => tail

/-- single-packet mode: one receive, the split header skipped -/
def recvOne (s : Sock) : Q (List Bytes) :=
  receive s none 0 >>= fun data => parse readSingle data >>= fun rest => pure [rest]

theorem impl_eq (s : Sock) (payload : Bytes) :
    getServerPacketsImpl s payload false = attemptOf s payload (recvAll s) := by
  unfold getServerPacketsImpl attemptOf
  simp

theorem impl_eq_single (s : Sock) (payload : Bytes) :
    getServerPacketsImpl s payload true = attemptOf s payload (recvOne s) := by
  unfold getServerPacketsImpl attemptOf recvOne
  simp

/-- what the receiving stage does, after some (not all) of the data packets `pool` of the reply — or none —, on a silence
and on a datagram of the wrong kind -/
structure TailOk (s : Sock) (pool : List Bytes) (tail : Q (List Bytes)) : Prop where
  lost : ∀ got, partOf got pool = true → ∀ q fs sn,
    Steps s tail (.err .packetReceive) ⟨got.map .data ++ .silence :: q, fs, sn⟩ ⟨q, fs, sn⟩
  bad : ∀ got m, partOf got pool = true → malformedAt .data m = true → ∀ q fs sn,
    Steps s tail (.err (malformedError m)) ⟨got.map .data ++ .data m :: q, fs, sn⟩ ⟨q, fs, sn⟩

theorem tailOk_recvAll (s : Sock) (hudp : s.tcp = false) (unknown : List Nat) (ps : List Bytes)
    (hcount : ps.length ≤ 128) (hsize : ∀ d ∈ packetsFrom unknown ps.length 0 ps, d.length ≤ PACKET_SIZE) :
    TailOk s (packetsFrom unknown ps.length 0 ps) (recvAll s) :=
  ⟨fun got hgot q fs sn => steps_recvAll_stop s hudp unknown ps hcount hsize .packetReceive .silence q
      (fun fs sn => steps_receive_silence s none 0 q fs sn) got hgot fs sn,
   fun got m hgot hm q fs sn => steps_recvAll_stop s hudp unknown ps hcount hsize (malformedError m) (.data m) q
      (fun fs sn => steps_receive_bad s hudp m hm q fs sn) got hgot fs sn⟩

/-- the one receive of the single-packet mode: of a reply of one packet nothing short of all can arrive -/
theorem tailOk_recvOne (s : Sock) (hudp : s.tcp = false) (pool : List Bytes) (hp : pool.length ≤ 1) :
    TailOk s pool (recvOne s) := by
  refine ⟨fun got hgot q fs sn => ?_, fun got m hgot hm q fs sn => ?_⟩
  · rw [partOf_short hgot hp]
    exact Steps.bind_err (steps_receive_silence s none 0 q fs sn)
  · rw [partOf_short hgot hp]
    exact Steps.bind_err (steps_receive_bad s hudp m hm q fs sn)

theorem steps_attemptOf_tail (s : Sock) (hudp : s.tcp = false) (payload : Bytes) (tail : Q (List Bytes)) (c : Int)
    (hlo : -(2 ^ 31 : Int) ≤ c) (hhi : c < 2 ^ 31) (dreq : Bytes)
    (hd : requestBytes 0 (challengeOf c) (some payload) = dreq) {r : Res (List Bytes)} {q q' : List Delivery}
    {fs : List Bool} (ht : ∀ sn, Steps s tail r ⟨q, fs, sn⟩ ⟨q', fs, sn⟩) (sn : List (Bytes × Bool)) :
    Steps s (attemptOf s payload tail) r ⟨.data (handshakeReply c) :: q, false :: false :: fs, sn⟩
      ⟨q', fs, sn ++ [(handshakeRequest, false), (dreq, false)]⟩ := by
  subst hd
  rw [List.append_cons]
  exact Steps.bind (steps_handshake_ok s hudp c hlo hhi q (false :: fs) sn)
    (Steps.bind (steps_send_ok s _ q fs _) (ht _))

/-- a failed attempt of the plan: the attempt's timeout-class error, exactly its deliveries (at the data stage: the
handshake reply, the data packets that still arrive, the silence) and flags consumed, exactly its requests sent -/
theorem steps_attemptOf (s : Sock) (hudp : s.tcp = false) (payload : Bytes) (pool : List Bytes)
    (tail : Q (List Bytes)) (ht : TailOk s pool tail) (c : Int) (hlo : -(2 ^ 31 : Int) ≤ c) (hhi : c < 2 ^ 31)
    (dreq : Bytes) (hd : requestBytes 0 (challengeOf c) (some payload) = dreq) (a : Attempt)
    (ha : a.wf pool = true) (q : List Delivery) (fs : List Bool) (sn : List (Bytes × Bool)) :
    Steps s (attemptOf s payload tail) (.err a.error)
      ⟨a.deliveriesAt c ++ q, a.faults ++ fs, sn⟩ ⟨q, fs, sn ++ a.sendsWith dreq⟩ := by
  obtain ⟨stage, sf, got⟩ := a
  cases stage <;> cases sf
  · obtain rfl := List.isEmpty_iff.mp ha
    exact Steps.bind_err (steps_handshake_err s q fs sn (steps_receive_silence s (some 16) 9 q fs _))
  · obtain rfl := List.isEmpty_iff.mp ha
    exact Steps.bind_err (steps_handshake_fault s q fs sn)
  · simp only [Attempt.deliveriesAt, Bool.false_eq_true, ↓reduceIte, List.append_assoc, List.cons_append,
      List.nil_append]
    exact steps_attemptOf_tail s hudp payload tail c hlo hhi dreq hd (fun sn => ht.lost got ha q fs sn) sn
  · obtain rfl := List.isEmpty_iff.mp ha
    subst hd
    rw [show Attempt.sendsWith _ ⟨.data, true, []⟩ = [(handshakeRequest, false), (_, true)] from rfl, List.append_cons]
    exact Steps.bind (steps_handshake_ok s hudp c hlo hhi q (true :: fs) sn) (Steps.bind_err (steps_send_fault s _ q fs _))

/-- what stays queued when the unit has ended: `q'`, what the receiving stage of the answered attempt left, after a valid
ending; `q`, what follows the plan's script, otherwise -/
def afterOf (plan : Plan) (q' q : List Delivery) : List Delivery :=
  match plan.ending with
  | .valid => q'
  | _ => q

theorem steps_unitOf (s : Sock) (hudp : s.tcp = false) (payload : Bytes) (pool : List Bytes) (tail : Q (List Bytes))
    (ht : TailOk s pool tail) (c : Int) (hlo : -(2 ^ 31 : Int) ≤ c) (hhi : c < 2 ^ 31) (dreq : Bytes)
    (hd : requestBytes 0 (challengeOf c) (some payload) = dreq) (packets good : List Bytes) (q q' : List Delivery)
    (hvalid : ∀ fs sn, Steps s tail (.ok good) ⟨packets.map .data ++ q, fs, sn⟩ ⟨q', fs, sn⟩)
    (retries : Nat) (plan : Plan) (hplan : wfPlan retries pool plan = true) (fs : List Bool)
    (sn : List (Bytes × Bool)) :
    Steps s (retryOnTimeout retries (attemptOf s payload tail)) (packetsOutcome good plan)
      ⟨scriptAt c plan packets ++ q, faultyFaults plan ++ fs, sn⟩
      ⟨afterOf plan q' q, fs, sn ++ sendsWith dreq plan⟩ := by
  have hstep := fun a ha q fs sn => steps_attemptOf s hudp payload pool tail ht c hlo hhi dreq hd a ha q fs sn
  obtain ⟨fails, ending⟩ := plan
  simp only [wfPlan, Bool.and_eq_true, List.all_eq_true] at hplan
  obtain ⟨hfails, hend⟩ := hplan
  rw [scriptAt, faultyFaults, List.append_assoc, List.append_assoc]
  -- an attempt that does not end in a timeout-class error ends the unit, after at most `retries` failed ones
  have hrec := fun (R : Res (List Bytes)) => Steps.retry_recovers_of (fun a : Attempt => a.wf pool = true)
    (Attempt.deliveriesAt c) Attempt.faults (Attempt.sendsWith dreq) Attempt.error (fun a => attemptError_timeout a.sendFault) hstep (R := R)
  cases ending with
  | valid =>
    exact hrec (.ok good) (fun k hk => by cases hk) _ q' _ fs (Ending.valid.sendsWith dreq)
      (fun sn => steps_attemptOf_tail s hudp payload tail c hlo hhi dreq hd (hvalid fs) sn) fails retries sn hfails
      (by simpa using hend)
  | malformed stage got m =>
    have hlen : (fails.length ≤ retries ∧ malformedAt stage m = true) ∧ gotAt pool stage false got = true := by
      simpa using hend
    refine hrec (.err (malformedError m)) (fun k hk => by cases hk; exact malformedError_not_timeout m)
      _ q _ fs ((Ending.malformed stage got m).sendsWith dreq) (fun sn => ?_) fails retries sn hfails hlen.1.1
    -- the attempt that meets the datagram of the wrong kind: as the handshake reply, or after some of the data packets
    cases stage with
    | handshake =>
      obtain rfl := List.isEmpty_iff.mp hlen.2
      exact Steps.bind_err (steps_handshake_err s q fs sn
        (steps_receive_malformed s hudp .handshake (some 16) (by decide) m hlen.1.2 q fs _))
    | data =>
      simp only [Ending.deliveriesAt, List.append_assoc, List.cons_append, List.nil_append]
      exact steps_attemptOf_tail s hudp payload tail c hlo hhi dreq hd (fun sn => ht.bad got m hlen.2 hlen.1.2 q fs sn) sn
  | gaveUp =>
    rw [show sendsWith dreq ⟨fails, .gaveUp⟩ = fails.flatMap (Attempt.sendsWith dreq) from List.append_nil _]
    exact Steps.retry_exhausted_of (fun a : Attempt => a.wf pool = true) (Attempt.deliveriesAt c) Attempt.faults
      (Attempt.sendsWith dreq) Attempt.error (fun a => attemptError_timeout a.sendFault) hstep q fs retries fails sn hfails
      (by simpa using hend)

/-- what is left queued after the valid GameSpy 3 exchange: the packets the loop did not need to read, and whatever
follows -/
def afterValid (arrival : List Bytes) (q : List Delivery) : List Delivery :=
  (arrival.drop (consumed Acc.init (arrival.map decodeFrag))).map .data ++ q

/-- `get_server_packets` of GameSpy 3 (multi-packet mode, the default payload) under a plan, at the level of the wire:
the server answers the handshake with challenge `c` and sends the data packets of ANY non-empty list of non-empty
payloads `ps` (at most 128, each datagram within the client's buffer) — what the payloads carry plays no part in the
retry logic -/
theorem steps_unit_wire (s : Sock) (hudp : s.tcp = false) (c : Int) (hlo : -(2 ^ 31 : Int) ≤ c) (hhi : c < 2 ^ 31)
    (unknown : List Nat) (ps : List Bytes) (hne : ps ≠ []) (hcount : ps.length ≤ 128) (hpay : ∀ p ∈ ps, p ≠ [])
    (hsize : ∀ d ∈ packetsFrom unknown ps.length 0 ps, d.length ≤ PACKET_SIZE)
    (arrival : List Bytes) (harr : arrival.Perm (packetsFrom unknown ps.length 0 ps)) (retries : Nat) (plan : Plan)
    (hplan : wfPlan retries (packetsFrom unknown ps.length 0 ps) plan = true) (q : List Delivery) (fs : List Bool)
    (sn : List (Bytes × Bool)) :
    Steps s (getServerPackets s retries DEFAULT_PAYLOAD false) (packetsOutcome ps plan)
      ⟨scriptAt c plan arrival ++ q, faultyFaults plan ++ fs, sn⟩
      ⟨afterOf plan (afterValid arrival q) q, fs, sn ++ sendsWith (dataRequest c) plan⟩ := by
  unfold getServerPackets
  rw [impl_eq]
  exact steps_unitOf s hudp DEFAULT_PAYLOAD (packetsFrom unknown ps.length 0 ps) (recvAll s)
    (tailOk_recvAll s hudp unknown ps hcount hsize) c hlo hhi
    (dataRequest c) (dataRequest_eq c) arrival ps q (afterValid arrival q)
    (fun fs sn => steps_recvAll_ok s hudp q fs sn arrival ps
      (feed_arrival_ps unknown ps hne hcount hpay hsize arrival harr))
    retries plan hplan fs sn

/-- … for the SPEC's server without extra field sections -/
theorem steps_unit (s : Sock) (hudp : s.tcp = false) (cfg : Config) (st : State) (h : wf cfg st = true)
    (arrival : List Bytes) (harr : arrival.Perm (dataPackets cfg st)) (retries : Nat) (plan : Plan)
    (hplan : wfPlan retries (dataPackets cfg st) plan = true) (q : List Delivery) (fs : List Bool)
    (sn : List (Bytes × Bool)) :
    Steps s (getServerPackets s retries DEFAULT_PAYLOAD false) (faultyPackets cfg st plan)
      ⟨faultyScript cfg plan arrival ++ q, faultyFaults plan ++ fs, sn⟩
      ⟨afterOf plan (afterValid arrival q) q, fs, sn ++ faultySends cfg plan⟩ := by
  obtain ⟨hcount, hpay, hsize, hlo, hhi⟩ := wf_wire cfg st h
  exact steps_unit_wire s hudp cfg.challenge hlo hhi cfg.unknown (payloads cfg st) (payloads_ne_nil cfg st) hcount hpay
    hsize arrival harr retries plan hplan q fs sn

/-- The whole exchange (`query`, `query_vars` = this with their post-processing) on the script of a plan followed by
anything, at the level of the wire (see `steps_unit_wire`): the post-processing is applied to the outcome C10 prescribes
for the packets, and the datagrams sent are the plan's. -/
theorem exchange_faulty_wire (c : Int) (hlo : -(2 ^ 31 : Int) ≤ c) (hhi : c < 2 ^ 31)
    (unknown : List Nat) (ps : List Bytes) (hne : ps ≠ []) (hcount : ps.length ≤ 128) (hpay : ∀ p ∈ ps, p ≠ [])
    (hsize : ∀ d ∈ packetsFrom unknown ps.length 0 ps, d.length ≤ PACKET_SIZE) (port retries : Nat) {α : Type}
    (post : List Bytes → Res α) (arrival : List Bytes) (harr : arrival.Perm (packetsFrom unknown ps.length 0 ps))
    (plan : Plan) (hplan : wfPlan retries (packetsFrom unknown ps.length 0 ps) plan = true) (restQ : List Delivery)
    (restF : List Bool) :
    (exchange port retries DEFAULT_PAYLOAD false post
        (Net.init [.opened (scriptAt c plan arrival ++ restQ)] (faultyFaults plan ++ restF))).1
      = (packetsOutcome ps plan >>= post)
    ∧ Gd.sentOf (exchange port retries DEFAULT_PAYLOAD false post
        (Net.init [.opened (scriptAt c plan arrival ++ restQ)] (faultyFaults plan ++ restF))).2.log
      = sendsWith (dataRequest c) plan :=
  openUdp_outcome port (fun s => getServerPackets s retries DEFAULT_PAYLOAD false >>= fun packets => Q.lift (post packets))
    _ _ _ _ (Steps.bind_res (k := post)
      (steps_unit_wire ⟨0, port, false⟩ rfl c hlo hhi unknown ps hne hcount hpay hsize arrival harr retries plan hplan
        restQ restF [])
      fun a _ => Steps.lift _ _ _)

/-- … for the SPEC's server without extra field sections -/
theorem exchange_faulty (cfg : Config) (st : State) (h : wf cfg st = true) (port retries : Nat) {α : Type}
    (post : List Bytes → Res α) (arrival : List Bytes) (harr : arrival.Perm (dataPackets cfg st))
    (plan : Plan) (hplan : wfPlan retries (dataPackets cfg st) plan = true) (restQ : List Delivery)
    (restF : List Bool) :
    (exchange port retries DEFAULT_PAYLOAD false post
        (Net.init [.opened (faultyScript cfg plan arrival ++ restQ)] (faultyFaults plan ++ restF))).1
      = (faultyPackets cfg st plan >>= post)
    ∧ Gd.sentOf (exchange port retries DEFAULT_PAYLOAD false post
        (Net.init [.opened (faultyScript cfg plan arrival ++ restQ)] (faultyFaults plan ++ restF))).2.log
      = faultySends cfg plan := by
  obtain ⟨hcount, hpay, hsize, hlo, hhi⟩ := wf_wire cfg st h
  exact exchange_faulty_wire cfg.challenge hlo hhi cfg.unknown (payloads cfg st) (payloads_ne_nil cfg st) hcount hpay
    hsize port retries post arrival harr plan hplan restQ restF

theorem faultyExpected_of {good : List Bytes} {st : State} (h : buildResponse good = .ok (expected st)) (plan : Plan) :
    (packetsOutcome good plan >>= buildResponse) = faultyExpected st plan := by
  unfold packetsOutcome faultyExpected
  cases plan.ending with
  | valid => simpa using h
  | gaveUp => rfl
  | malformed stage got m => rfl

theorem faultyExpected_eq (cfg : Config) (st : State) (h : wf cfg st = true) (plan : Plan) :
    (faultyPackets cfg st plan >>= buildResponse) = faultyExpected st plan :=
  faultyExpected_of (buildResponse_spec cfg st h) plan

theorem faulty_toX (cfg : Config) (st : State) (plan : Plan) (arrival : List Bytes) :
    faultyScriptX cfg.toX plan arrival = faultyScript cfg plan arrival
    ∧ faultySendsX cfg.toX plan = faultySends cfg plan
    ∧ faultyPacketsX cfg.toX st plan = faultyPackets cfg st plan
    ∧ dataPacketsX cfg.toX st = dataPackets cfg st := by
  refine ⟨rfl, rfl, ?_, ?_⟩
  · simp only [faultyPacketsX, faultyPackets, payloadsX_toX]
  · simp only [dataPacketsX, dataPackets, payloadsX_toX]
    rfl

/-- the kind byte (the third) tells the two requests apart, whatever the challenge: `00` and `09` -/
theorem dataRequest_ne (c : Int) : (dataRequest c == handshakeRequest) = false := by
  refine beq_eq_false_iff_ne.mpr fun e => ?_
  have h : (some 0x00 : Option UInt8) = some 0x09 := congrArg (·[2]?) e
  exact absurd h (by decide)

theorem attemptsOf_append (a b : List (Bytes × Bool)) : attemptsOf (a ++ b) = attemptsOf a + attemptsOf b := by
  simp [attemptsOf, List.filter_append]

theorem attemptsOf_attempt (dreq : Bytes) (hne : (dreq == handshakeRequest) = false) (a : Attempt) :
    attemptsOf (a.sendsWith dreq) = 1 := by
  obtain ⟨stage, sf, got⟩ := a
  cases stage <;> simp [Attempt.sendsWith, attemptsOf, hne]

theorem attemptsOf_fails (dreq : Bytes) (hne : (dreq == handshakeRequest) = false) (fails : List Attempt) :
    attemptsOf (fails.flatMap (Attempt.sendsWith dreq)) = fails.length := by
  induction fails with
  | nil => rfl
  | cons a r ih =>
    simp only [List.flatMap_cons, attemptsOf_append, attemptsOf_attempt dreq hne, ih, List.length_cons]; omega

theorem attemptsOf_sendsWith (dreq : Bytes) (hne : (dreq == handshakeRequest) = false) (plan : Plan) :
    attemptsOf (sendsWith dreq plan) = plan.attempts := by
  obtain ⟨fails, ending⟩ := plan
  simp only [sendsWith, attemptsOf_append, attemptsOf_fails dreq hne, Plan.attempts]
  cases ending with
  | valid => simp [Ending.sendsWith, attemptsOf, hne]
  | gaveUp => rfl
  | malformed stage got m => cases stage <;> simp [Ending.sendsWith, attemptsOf, hne]

theorem attemptsOf_planX (cfg : ConfigX) (plan : Plan) : attemptsOf (faultySendsX cfg plan) = plan.attempts :=
  attemptsOf_sendsWith _ (dataRequest_ne _) plan

theorem attemptsOf_plan (cfg : Config) (plan : Plan) : attemptsOf (faultySends cfg plan) = plan.attempts :=
  attemptsOf_sendsWith _ (dataRequest_ne cfg.challenge) plan

theorem lastError_class (fails : List Attempt) :
    lastError Attempt.error fails = .packetReceive ∨ lastError Attempt.error fails = .packetSend :=
  lastError_recv_or_send _ (fun a => attemptError_class a.sendFault) fails

/-! ### C10's domain, by the plan's ending -/

theorem wfPlan_valid {retries : Nat} {pool : List Bytes} {fails : List Attempt}
    (hw : ∀ a ∈ fails, a.wf pool = true) (hk : fails.length ≤ retries) : wfPlan retries pool ⟨fails, .valid⟩ = true := by
  simp only [wfPlan, Bool.and_eq_true, List.all_eq_true, decide_eq_true_eq]
  exact ⟨hw, hk⟩

theorem wfPlan_gaveUp {retries : Nat} {pool : List Bytes} {fails : List Attempt}
    (hw : ∀ a ∈ fails, a.wf pool = true) (hk : fails.length = retries + 1) :
    wfPlan retries pool ⟨fails, .gaveUp⟩ = true := by
  simp only [wfPlan, Bool.and_eq_true, List.all_eq_true, beq_iff_eq]
  exact ⟨hw, hk⟩

theorem wfPlan_malformed {retries : Nat} {pool : List Bytes} {fails : List Attempt} {stage : Stage} {got : List Bytes} {m : Bytes}
    (hw : ∀ a ∈ fails, a.wf pool = true) (hk : fails.length ≤ retries) (hgot : gotAt pool stage false got = true)
    (hm : malformedAt stage m = true) : wfPlan retries pool ⟨fails, .malformed stage got m⟩ = true := by
  simp only [wfPlan, Bool.and_eq_true, List.all_eq_true, decide_eq_true_eq]
  exact ⟨hw, ⟨hk, hm⟩, hgot⟩

end Gd.Gs3
