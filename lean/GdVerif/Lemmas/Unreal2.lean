import GdVerif.Lemmas.Unreal2Text
import GdVerif.Lemmas.ReaderU2
import GdVerif.Lemmas.Utf
/-
  Field-by-field decoding lemmas for the Unreal 2 parsers against the SPEC encoders.
-/
namespace Gd.Unreal2
open Gd Gd.Unreal2.Spec

theorem cp1252Char_ne_zero (b : UInt8) (h : b ≠ 0) : cp1252Char b ≠ 0 := by
  unfold cp1252Char
  split
  · rename_i hr
    simp only [Bool.and_eq_true, decide_eq_true_eq] at hr
    have hlen : b.toNat - 0x80 < cp1252High.length := by
      have : cp1252High.length = 32 := by decide
      omega
    rw [List.getD_eq_getElem?_getD, List.getElem?_eq_getElem hlen]
    exact (by decide : ∀ x ∈ cp1252High, x ≠ 0) _ (List.getElem_mem hlen)
  · intro h0
    apply h
    exact UInt8.toNat_inj.mp h0

theorem bytesOfUnits_little_cons (u : Nat) (r : List Nat) :
    bytesOfUnits .little (u :: r) = UInt8.ofNat (u % 256) :: UInt8.ofNat (u / 256 % 256) :: bytesOfUnits .little r :=
  bytesOfUnits_cons .little u r

theorem u8_ne_one {n : Nat} (h : n < 256) (h1 : n ≠ 1) : UInt8.ofNat n ≠ 1 := by
  intro he
  have := congrArg UInt8.toNat he
  rw [toNat_ofNat_lt n h] at this
  exact h1 this

theorem wire_length (s : UStr) : s.wire.length = s.count := rfl

theorem encStr_latin1 {s : UStr} (he : s.enc = .latin1) :
    encStr s = UInt8.ofNat s.count :: s.wire.map UInt8.ofNat := by
  unfold encStr; rw [he]; rfl

theorem encStr_ucs2 {s : UStr} (he : s.enc = .ucs2) :
    encStr s = UInt8.ofNat (0x80 + s.count) :: ((if s.stray then [1] else []) ++ bytesOfUnits .little s.wire) := by
  unfold encStr; rw [he]; rfl

theorem u2Dec_latin1 (s : UStr) (he : s.enc = .latin1) (hw : wfStr s = true) (post : Bytes) :
    u2Dec (encStr s ++ post) = .ok (s.text, (encStr s).length) := by
  simp only [wfStr, he, Bool.and_eq_true, decide_eq_true_eq, List.all_eq_true, Bool.not_eq_true'] at hw
  obtain ⟨hcount, hunits, _⟩ := hw
  have hchars : cp1252Decode (s.wire.map UInt8.ofNat)
      = (s.units.map fun u => cp1252Char (UInt8.ofNat u)) ++ (if s.nul then [0] else []) := by
    simp only [cp1252Decode, UStr.wire, List.map_append, List.map_map]
    congr 1
    cases s.nul <;> rfl
  have hnz : ∀ c ∈ (s.units.map fun u => cp1252Char (UInt8.ofNat u)), c ≠ 0 := by
    intro c hc
    obtain ⟨u, hu, rfl⟩ := List.mem_map.mp hc
    apply cp1252Char_ne_zero
    intro h0
    have := congrArg UInt8.toNat h0
    rw [toNat_ofNat_lt u (hunits u hu).2] at this
    exact Nat.ne_of_gt (hunits u hu).1 this
  have htext : cleanText (cp1252Decode (s.wire.map UInt8.ofNat)) = s.text := by
    rw [hchars, cleanText_eq _ hnz, UStr.text, UStr.chars, he]
  have hl : (UInt8.ofNat s.count).toNat = s.count := toNat_ofNat_lt _ (by omega)
  have hwl : (s.wire.map UInt8.ofNat).length = s.count := List.length_map _
  rw [encStr_latin1 he, List.cons_append,
    u2Dec_latin1_ok (by rw [hl]; exact hcount) (by rw [hl, List.length_append, hwl]; exact Nat.le_add_right _ _),
    hl, List.take_left' hwl, htext, List.length_cons, hwl, Nat.add_comm]

theorem strayOf_cons_one (r : Bytes) : strayOf (1 :: r) = 1 := by simp [strayOf]

theorem strayOf_cons_ne {b : UInt8} (h : b ≠ 1) (r : Bytes) : strayOf (b :: r) = 0 := by simp [strayOf, h]

/-- the stray byte is recognised exactly when it was sent: a string sent without one does not
start with the byte `0x01` -/
theorem strayOf_sent (stray : Bool) (wire : List Nat) (rest : Bytes)
    (h : stray = true ∨ (match wire with
      | [] => false
      | u :: _ => u % 256 != 1) = true) :
    strayOf ((if stray then [1] else []) ++ (bytesOfUnits .little wire ++ rest))
      = (if stray then [1] else [] : Bytes).length := by
  cases stray with
  | true => exact strayOf_cons_one _
  | false =>
    rcases h with h | h
    · cases h
    · cases wire with
      | nil => cases h
      | cons u r =>
        rw [bytesOfUnits_little_cons]
        exact strayOf_cons_ne (u8_ne_one (Nat.mod_lt _ (by decide)) (bne_iff_ne.mp h)) _

theorem u2Dec_ucs2 (s : UStr) (he : s.enc = .ucs2) (hw : wfStr s = true) (post : Bytes) :
    u2Dec (encStr s ++ post) = .ok (s.text, (encStr s).length) := by
  simp only [wfStr, he, Bool.and_eq_true, decide_eq_true_eq, List.all_eq_true, Bool.or_eq_true] at hw
  obtain ⟨hcount, ⟨hunits, hdec⟩, hstray⟩ := hw
  obtain ⟨cs, hcs⟩ := Option.isSome_iff_exists.mp hdec
  have hwirelt : ∀ u ∈ s.wire, u < 65536 := by
    intro u hu
    rcases List.mem_append.mp hu with hu | hu
    · exact (hunits u hu).2
    · cases hn : s.nul <;> rw [hn] at hu <;> cases hu
      · decide
      · rename_i hu; cases hu
  have hnz : ∀ c ∈ cs, c ≠ 0 :=
    utf16Decode_ne_zero s.units (fun u hu => Nat.ne_of_gt (hunits u hu).1) cs hcs
  have hwdec : utf16Decode s.wire = some (cs ++ (if s.nul then [0] else [])) := by
    apply utf16Decode_append _ _ _ _ hcs
    cases s.nul <;> rfl
  have hl : (UInt8.ofNat (0x80 + s.count)).toNat = 0x80 + s.count := toNat_ofNat_lt _ (by omega)
  have hl80 : 0x80 ≤ (UInt8.ofNat (0x80 + s.count)).toNat := by rw [hl]; exact Nat.le_add_right _ _
  have ha : announced (UInt8.ofNat (0x80 + s.count)) = (bytesOfUnits .little s.wire).length := by
    rw [← mod_announced hl80, hl, Nat.add_mod_left, Nat.mod_eq_of_lt hcount, bytesOfUnits_length .little, wire_length,
      Nat.mul_comm]
  rw [encStr_ucs2 he, List.cons_append, List.append_assoc]
  have hso := strayOf_sent s.stray s.wire post hstray
  generalize (if s.stray then [1] else [] : Bytes) = sb at hso ⊢
  rw [u2Dec_ucs2_ok (cs := cs ++ (if s.nul then [0] else [])) hl80
      (by rw [hso, ha, List.length_append, List.length_append]; exact Nat.add_le_add_left (Nat.le_add_right _ _) _)
      (by rw [hso, ha, List.drop_left, List.take_left, unitsOf_bytesOfUnits .little _ hwirelt, hwdec]),
    hso, ha, cleanText_eq _ hnz, UStr.text, UStr.chars, he]
  simp only [hcs, List.length_cons, List.length_append]
  rw [Nat.add_assoc, Nat.add_comm 1]

/-- C06's string theorem on the decoder function: for every string of the format's domain, whatever
follows it in the packet, the decoder returns exactly the SPEC's text and consumes exactly the
string's bytes -/
theorem u2Dec_encStr (s : UStr) (hw : wfStr s = true) (post : Bytes) :
    u2Dec (encStr s ++ post) = .ok (s.text, (encStr s).length) := by
  cases he : s.enc with
  | latin1 => exact u2Dec_latin1 s he hw post
  | ucs2 => exact u2Dec_ucs2 s he hw post

theorem decodes_u2Str (s : UStr) (hw : wfStr s = true) : Decodes readU2Str (encStr s) s.text := by
  intro b post hr
  refine ⟨b.advance (encStr s).length, ?_, Buf.advance_append b _ post hr, by simp⟩
  unfold readU2Str readStringWith
  rw [hr, u2Dec_encStr s hw post]

theorem encStr_ne_nil (s : UStr) : encStr s ≠ [] := by
  unfold encStr
  cases s.enc <;> simp [u8]

theorem packetKindOf_code (k : PacketKind) : packetKindOf k.code = .ok k := by
  cases k <;> rfl

theorem decodes_consumeHeaders (k : PacketKind) (header : Bytes) (hl : header.length = 4) :
    Decodes (consumeHeaders k) (header ++ u8 k.code) () := by
  unfold consumeHeaders
  have hskip : Decodes (moveCursor 4) header () := by
    have := decodes_skip header
    rwa [hl] at this
  refine Decodes.bind hskip ?_
  have hcode : k.code < 256 := by cases k <;> decide
  refine Decodes.bind' (e2 := []) (decodes_u8 k.code hcode) ?_ (by simp [u8])
  rw [packetKindOf_code]
  refine Decodes.bind' (e1 := []) (e2 := []) (Decodes.lift_ok k) ?_ rfl
  simp only [bne_self_eq_false, Bool.false_eq_true, ↓reduceIte]
  exact Decodes.pure _

theorem run_of_decodes {p : Par α} {e : Bytes} {x : α} (h : Decodes p e x) (post : Bytes) :
    p.run (e ++ post) = .ok x := by
  obtain ⟨b', hp, _, _⟩ := h (Buf.new (e ++ post)) post (by simp)
  simp [Par.run, hp]

def infoOf (st : State) : ServerInfo :=
  ⟨st.serverId, st.ip.text, st.gamePort, st.queryPort, st.name.text, st.map.text, st.gameType.text,
   st.numPlayers, st.maxPlayers, false⟩

/-- the part of the info body this client reads -/
def encInfoCore (st : State) : Bytes :=
  le 4 st.serverId ++ encStr st.ip ++ le 4 st.gamePort ++ le 4 st.queryPort ++ encStr st.name ++
  encStr st.map ++ encStr st.gameType ++ le 4 st.numPlayers ++ le 4 st.maxPlayers

theorem encInfo_eq (st : State) : encInfo st = encInfoCore st ++ st.extra := by
  simp [encInfo, encInfoCore, List.append_assoc]

theorem decodes_serverInfo (st : State) (h1 : st.serverId < 2 ^ 32) (h2 : wfStr st.ip = true) (h3 : st.gamePort < 2 ^ 32)
    (h4 : st.queryPort < 2 ^ 32) (h5 : wfStr st.name = true) (h6 : wfStr st.map = true) (h7 : wfStr st.gameType = true)
    (h8 : st.numPlayers < 2 ^ 32) (h9 : st.maxPlayers < 2 ^ 32) :
    Decodes parseServerInfo (encInfoCore st) (infoOf st) := by
  unfold parseServerInfo encInfoCore
  simp only [List.append_assoc]
  refine Decodes.bind (decodes_le 4 _ h1) ?_
  refine Decodes.bind (decodes_u2Str _ h2) ?_
  refine Decodes.bind (decodes_le 4 _ h3) ?_
  refine Decodes.bind (decodes_le 4 _ h4) ?_
  refine Decodes.bind (decodes_u2Str _ h5) ?_
  refine Decodes.bind (decodes_u2Str _ h6) ?_
  refine Decodes.bind (decodes_u2Str _ h7) ?_
  refine Decodes.bind (decodes_le 4 _ h8) ?_
  refine Decodes.bind' (e2 := []) (decodes_le 4 _ h9) ?_ (by simp [le])
  exact Decodes.pure _

theorem decodes_tryRead {p : Par α} {e : Bytes} {x : α} (h : Decodes p e x) : Decodes (tryRead p) e (some x) := by
  intro b post hr
  obtain ⟨b', hp, hr', hd'⟩ := h b post hr
  exact ⟨b', by simp [tryRead, hp], hr', hd'⟩

def addText (st : MutatorsAndRules) (p : UStr × UStr) : MutatorsAndRules := st.add p.1.text (some p.2.text)

theorem decodes_rulesStep (st : MutatorsAndRules) (p : UStr × UStr) (h1 : wfStr p.1 = true) (h2 : wfStr p.2 = true) :
    Decodes (rulesStep st) (encPair p) (addText st p) := by
  unfold rulesStep encPair
  refine Decodes.bind (decodes_u2Str _ h1) ?_
  exact Decodes.bind' (e2 := []) (decodes_tryRead (decodes_u2Str _ h2)) (Decodes.pure _) (by simp)

theorem encPair_ne_nil (p : UStr × UStr) : encPair p ≠ [] := by
  unfold encPair
  intro h
  exact encStr_ne_nil p.1 (List.append_eq_nil_iff.mp h).1

theorem parseRules_body (st : MutatorsAndRules) (ps : List (UStr × UStr))
    (hw : ∀ p ∈ ps, wfStr p.1 = true ∧ wfStr p.2 = true) :
    DecodesEnd (parseRules st) (ps.map encPair).flatten (ps.foldl addText st) :=
  whileRemaining_decodesEnd rulesStep encPair addText ps (fun p _ => encPair_ne_nil p)
    (fun st p hp => decodes_rulesStep st p (hw p hp).1 (hw p hp).2) st

theorem decodes_playerStep (st : Players) (p : SPlayer) (h : wfPlayer p = true) :
    Decodes (playerStep st) (encPlayer p) (st.push (expectedPlayer p)) := by
  simp only [wfPlayer, Bool.and_eq_true, decide_eq_true_eq] at h
  obtain ⟨⟨⟨⟨⟨hid, hname⟩, hping⟩, hlo⟩, hhi⟩, hstats⟩ := h
  unfold playerStep encPlayer
  simp only [List.append_assoc]
  refine Decodes.bind (decodes_le 4 _ hid) ?_
  refine Decodes.bind (decodes_u2Str _ hname) ?_
  refine Decodes.bind (decodes_le 4 _ hping) ?_
  refine Decodes.bind (decodes_signed .little 4 (by omega) p.score hlo hhi) ?_
  refine Decodes.bind' (e2 := []) (decodes_le 4 _ hstats) ?_ (by simp [le])
  exact Decodes.pure _

theorem encPlayer_ne_nil (p : SPlayer) : encPlayer p ≠ [] := by
  unfold encPlayer
  intro h
  have := congrArg List.length h
  simp [le, natLE_length] at this

def pushPlayer (st : Players) (p : SPlayer) : Players := st.push (expectedPlayer p)

theorem parsePlayers_body (st : Players) (ps : List SPlayer) (hw : ∀ p ∈ ps, wfPlayer p = true) :
    DecodesEnd (parsePlayers st) (ps.map encPlayer).flatten (ps.foldl pushPlayer st) :=
  whileRemaining_decodesEnd playerStep encPlayer pushPlayer ps (fun p _ => encPlayer_ne_nil p)
    (fun st p hp => decodes_playerStep st p (hw p hp)) st

theorem foldl_pushPlayer (ps : List SPlayer) (st : Players) :
    ps.foldl pushPlayer st =
      ⟨st.players ++ (ps.filter (·.ping != 0)).map expectedPlayer, st.bots ++ (ps.filter (·.ping == 0)).map expectedPlayer⟩ := by
  induction ps generalizing st with
  | nil => simp
  | cons p r ih =>
    simp only [List.foldl_cons]
    rw [ih]
    by_cases hp : p.ping = 0
    · simp [pushPlayer, Players.push, expectedPlayer, hp]
    · have h1 : (p.ping == 0) = false := by simpa using hp
      simp [pushPlayer, Players.push, expectedPlayer, h1, hp]

theorem mem_firsts (k : Bytes) (l : List Bytes) : k ∈ firsts l ↔ k ∈ l := by
  induction l with
  | nil => simp [firsts]
  | cons a r ih =>
    simp only [firsts, List.mem_cons, List.mem_filter, ih, bne_iff_ne, ne_eq]
    constructor
    · rintro (h | ⟨h, _⟩)
      · exact Or.inl h
      · exact Or.inr h
    · rintro (h | h)
      · exact Or.inl h
      · by_cases hk : k = a
        · exact Or.inl hk
        · exact Or.inr ⟨h, hk⟩

theorem nodup_firsts (l : List Bytes) : (firsts l).Nodup := by
  induction l with
  | nil => simp [firsts]
  | cons a r ih =>
    simp only [firsts, List.nodup_cons, List.mem_filter, bne_iff_ne, ne_eq]
    exact ⟨fun h => h.2 trivial, ih.filter _⟩

theorem firsts_append_singleton (l : List Bytes) (k : Bytes) :
    firsts (l ++ [k]) = if k ∈ l then firsts l else firsts l ++ [k] := by
  induction l with
  | nil => rw [if_neg List.not_mem_nil]; rfl
  | cons a r ih =>
    rw [List.cons_append, firsts, ih, firsts]
    by_cases hkr : k ∈ r
    · rw [if_pos hkr, if_pos (List.mem_cons_of_mem _ hkr)]
    · rw [if_neg hkr, List.filter_append]
      by_cases hka : k = a
      · rw [if_pos (hka ▸ List.mem_cons_self ..), List.filter_cons_of_neg (by rw [hka, bne_self_eq_false]; exact Bool.false_ne_true),
          List.filter_nil, List.append_nil]
      · rw [if_neg (fun h => (List.mem_cons.mp h).elim hka hkr), List.filter_cons_of_pos (p := (· != a)) (bne_iff_ne.mpr hka),
          List.filter_nil, List.cons_append]

theorem filter_append_singleton {α : Type} (f : α → Bool) (l : List α) (x : α) :
    (l ++ [x]).filter f = l.filter f ++ (if f x then [x] else []) := by
  rw [List.filter_append]
  cases h : f x
  · rw [List.filter_cons_of_neg (by rw [h]; exact Bool.false_ne_true)]; rfl
  · rw [List.filter_cons_of_pos h]; rfl

theorem valuesOf_append (rs : List (Bytes × Bytes)) (p : Bytes × Bytes) (k : Bytes) :
    valuesOf (rs ++ [p]) k = valuesOf rs k ++ (if p.1 == k then [p.2] else []) := by
  unfold valuesOf
  rw [filter_append_singleton, List.map_append]
  cases p.1 == k <;> rfl

theorem valuesOf_eq_nil (rs : List (Bytes × Bytes)) (k : Bytes) (h : k ∉ rs.map (·.1)) : valuesOf rs k = [] := by
  unfold valuesOf
  rw [List.map_eq_nil_iff, List.filter_eq_nil_iff]
  intro p hp hk
  exact h (List.mem_map.mpr ⟨p, hp, eq_of_beq hk⟩)

theorem setInsert_firsts (vs : List Bytes) (v : Bytes) : setInsert (firsts vs) v = firsts (vs ++ [v]) := by
  unfold setInsert
  rw [firsts_append_singleton]
  simp only [List.contains_iff_mem, mem_firsts]

theorem rulesAdd_map (ks : List Bytes) (hn : ks.Nodup) (g : Bytes → List Bytes) (key v : Bytes) :
    rulesAdd (ks.map fun k => (k, g k)) key (some v) =
      if key ∈ ks then ks.map (fun k => (k, g k ++ (if key == k then [v] else [])))
      else (ks.map fun k => (k, g k)) ++ [(key, [v])] := by
  induction ks with
  | nil => rfl
  | cons a r ih =>
    obtain ⟨har, hr⟩ := List.nodup_cons.mp hn
    rw [List.map_cons, rulesAdd]
    by_cases ha : a = key
    · subst ha
      rw [if_pos (beq_self_eq_true a), if_pos (List.mem_cons_self ..), List.map_cons, if_pos (beq_self_eq_true a)]
      congr 1
      apply List.map_congr_left
      intro k hk
      -- the key occurs once: the other entries are not touched
      rw [if_neg (fun h => har ((eq_of_beq h : a = k) ▸ hk)), List.append_nil]
    · have h1 : ¬ (a == key) = true := fun h => ha (eq_of_beq h)
      have h2 : ¬ (key == a) = true := fun h => ha (eq_of_beq h).symm
      rw [if_neg h1, ih hr]
      by_cases hk : key ∈ r
      · rw [if_pos hk, if_pos (List.mem_cons_of_mem _ hk), List.map_cons, if_neg h2, List.append_nil]
      · rw [if_neg hk, if_neg (fun h => (List.mem_cons.mp h).elim (fun e => ha e.symm) hk), List.cons_append]

def mrOf (kv : List (Bytes × Bytes)) : MutatorsAndRules := ⟨expectedMutators kv, expectedRules kv⟩

theorem isMutatorKey_eq (k : Bytes) : (asciiLower k == mutatorKey) = isMutatorKey k := rfl

theorem expectedMutators_append (kv : List (Bytes × Bytes)) (p : Bytes × Bytes) :
    expectedMutators (kv ++ [p])
      = if isMutatorKey p.1 then setInsert (expectedMutators kv) p.2 else expectedMutators kv := by
  unfold expectedMutators
  rw [setInsert_firsts, filter_append_singleton, List.map_append]
  cases isMutatorKey p.1
  · exact congrArg firsts (List.append_nil _)
  · rfl

theorem expectedRules_append (kv : List (Bytes × Bytes)) (p : Bytes × Bytes) :
    expectedRules (kv ++ [p])
      = if isMutatorKey p.1 then expectedRules kv else rulesAdd (expectedRules kv) p.1 (some p.2) := by
  unfold expectedRules
  simp only
  rw [filter_append_singleton]
  generalize kv.filter (fun x => !isMutatorKey x.1) = rs
  cases isMutatorKey p.1
  · simp only [Bool.not_false, ↓reduceIte, Bool.false_eq_true, List.map_append, List.map_cons, List.map_nil]
    rw [rulesAdd_map _ (nodup_firsts _), firsts_append_singleton]
    simp only [mem_firsts]
    by_cases hk : p.1 ∈ rs.map (·.1)
    · rw [if_pos hk, if_pos hk]
      exact List.map_congr_left fun k _ => by rw [valuesOf_append]
    · rw [if_neg hk, if_neg hk, List.map_append, List.map_cons, List.map_nil, valuesOf_append,
        valuesOf_eq_nil rs p.1 hk, if_pos (beq_self_eq_true _)]
      congr 1
      apply List.map_congr_left
      intro k hk'
      -- a key already listed is not the new one
      rw [valuesOf_append, if_neg (fun h => hk ((eq_of_beq h : p.1 = k) ▸ (mem_firsts _ _).mp hk')), List.append_nil]
  · simp only [Bool.not_true, Bool.false_eq_true, ↓reduceIte, List.append_nil]

theorem mrOf_add (kv : List (Bytes × Bytes)) (p : Bytes × Bytes) :
    (mrOf kv).add p.1 (some p.2) = mrOf (kv ++ [p]) := by
  unfold MutatorsAndRules.add mrOf
  rw [isMutatorKey_eq, expectedMutators_append, expectedRules_append]
  cases isMutatorKey p.1 <;> rfl

theorem mrOf_nil : mrOf [] = MutatorsAndRules.empty := rfl

def pairText (p : UStr × UStr) : Bytes × Bytes := (p.1.text, p.2.text)

theorem foldl_addText (ps : List (UStr × UStr)) (pre : List (Bytes × Bytes)) :
    ps.foldl addText (mrOf pre) = mrOf (pre ++ ps.map pairText) := by
  induction ps generalizing pre with
  | nil => rw [List.map_nil, List.append_nil]; rfl
  | cons p r ih =>
    rw [List.foldl_cons, List.map_cons, List.append_cons, ← ih]
    exact congrArg (List.foldl addText · r) (mrOf_add pre (pairText p))

theorem split_flatten {α : Type} (cuts : List Nat) (l : List α) : (split cuts l).flatten = l := by
  induction cuts generalizing l with
  | nil => simp [split]
  | cons n r ih => simp [split, ih]

theorem split_ne_nil {α : Type} (cuts : List Nat) (l : List α) : split cuts l ≠ [] := by
  cases cuts <;> simp [split]

end Gd.Unreal2
