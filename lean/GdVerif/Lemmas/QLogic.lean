import GdVerif.Net
import GdVerif.Lemmas.Par
/-
  THE LOGICS FOR QUERY COMPUTATIONS.  A query is `q : Q α`, a function of the transport state `Net` (the script of what
  the peer delivers and which sends fail; the log of what the client did).  Each logic is a predicate on `q` with one rule
  per combinator (`pure`, `Q.lift` / `parse`, `>>=`, `if`, `send`, `recv`, `openSock`, `retryOnTimeout`, `maybeGather`),
  so a property of a whole query is proved by following its text.  Which one for which property:

  * `QSafe s P q` (here) — C01, C09.  From any state in which socket `s` is open, `q` does not crash and makes a `Step P`:
    every event it logs satisfies `P`, queues of open sockets only shrink, no socket disappears (that is what lets the
    receive loops run on the fuel `queued + 1`).  For the body of a query, which works on ONE socket already open.
    `LogSafe P q` (here, last section) is the same without a socket and without the queues: for computations that open
    their own sockets (several, or one per attempt).  `openThen_safe` / `LogSafe.ofOpen` lead from a body to its query.
  * `Bounded m ko ke q` (`QCost.lean`) — C12, C13.  `q` appends `added` to the log, and a measure `m added` that adds up
    over `++` is at most `ko` when `q` succeeds and at most `ke` when it does not.  Its instances are defined spelled out,
    because the property theorems are stated in those terms: `Cost` (sends minus successful receives: a challenge echo
    is paid for by the receive before it), `Sends` (sends, whatever the outcome; `SendBound` in `SmallLogic.lean` is
    `Sends` over another spelling of the counter), `Block` (`QBlock.lean`: blocking steps that ran into their timeout,
    which bounds the wall time of a query).  `QBounds.lean`: `openSock` in each, and the totals of a whole query.
  * `SilentSends / SilentAttempt / SilentRun / SilentOutcome(N)` (`QBounds.lean`) — C12, exactly.  Against a peer that
    never answers the run is determined: so many sends, timed-out receives and sockets, then the receive-class error.
    `Bounded` gives `≤`; these give `=` and show the bounds attained.
  * `Ends f r P P'` (`QSteps.lean`) — C10, and through it C02–C07.  From any state satisfying `P`, `f` ends with the
    outcome `r` (a value, an error, a crash) in a state satisfying `P'`: what EXACTLY happens on a script with faults.
    Instances: `Steps s` (one socket: its queue, the fault flags left, the datagrams sent; `QStepsN.lean` has the units
    "several requests, one read"), `StepsG V` (`QStepsG.lean`: any list consumed in order — with `V = AtM` the scripts
    of the sockets not yet opened, for a socket per attempt).
  * `FlagBlind f` (`QFlags.lean`): `f` cannot tell send-fault flags that are all `false` from no flags at all.  A plan
    without faults scripts one `false` per send, the theorems about fault-free scripts are stated on `Net.init script []`;
    `FlagBlind.init` relates the two, so a family's fault-free whole-query theorem is its theorem about fault plans at
    the plan without faults.
  * `RecvOnly f` (`QSteps.lean`): `f` sends nothing and neither reads nor changes the fault flags.  `KeepsPending f`
    (`QStepsG.lean`): `f` opens no socket.

  This file: the run equations of `>>=`, `retryOnTimeout`, `send`, `recv` on which all of these rest; `Step` and `QSafe`;
  `LogSafe`.
-/
namespace Gd

theorem Q.bind_assoc (q : Q α) (f : α → Q β) (g : β → Q γ) : (q >>= f) >>= g = q >>= fun a => f a >>= g := by
  funext w
  simp only [Q.bind_apply]
  cases q w with
  | mk res w1 => cases res <;> rfl

theorem Q.bind_ok {q : Q α} {f : α → Q β} {w w' : Net} {a : α} (h : q w = (.ok a, w')) : (q >>= f) w = f a w' := by
  rw [Q.bind_apply, h]

theorem Q.bind_err {q : Q α} {f : α → Q β} {w w' : Net} {k : ErrKind} (h : q w = (.err k, w')) :
    (q >>= f) w = (.err k, w') := by
  rw [Q.bind_apply, h]

theorem Q.bind_of_ok {q : Q α} {f : α → Q β} {w : Net} {a : α} (h : (q w).1 = .ok a) :
    (q >>= f) w = f a (q w).2 :=
  Q.bind_ok (Prod.ext h rfl)

theorem Q.bind_of_err {q : Q α} {f : α → Q β} {w : Net} {k : ErrKind} (h : (q w).1 = .err k) :
    (q >>= f) w = (.err k, (q w).2) :=
  Q.bind_err (Prod.ext h rfl)

theorem parse_apply (p : Par α) (data : Bytes) (w : Net) : parse p data w = (p.run data, w) := rfl

theorem Q.lift_bind_lift (r : Res α) (g : α → Res β) : (Q.lift r >>= fun x => Q.lift (g x)) = Q.lift (r >>= g) := by
  funext w
  cases r <;> rfl

theorem Q.bind_lift (q : Q α) (g : α → Res β) (w : Net) :
    (q >>= fun a => Q.lift (g a)) w = ((q w).1 >>= g, (q w).2) := by
  rw [Q.bind_apply]
  cases q w with
  | mk res w' => cases res <;> rfl

theorem Q.bind_ok_inv {q : Q α} {f : α → Q β} {w w' : Net} {b : β} (h : (q >>= f) w = (.ok b, w')) :
    ∃ a w1, q w = (.ok a, w1) ∧ f a w1 = (.ok b, w') := by
  rw [Q.bind_apply] at h
  cases hq : q w with
  | mk r w1 =>
    rw [hq] at h
    cases r with
    | ok a => exact ⟨a, w1, rfl, h⟩
    | err k => cases h
    | crash => cases h

theorem retryOnTimeout_done {f : Q α} {w w' : Net} {r : Res α} (h : f w = (r, w'))
    (hr : ∀ k, r = .err k → k.isTimeout = false) (n : Nat) : retryOnTimeout n f w = (r, w') := by
  cases n with
  | zero => exact h
  | succ n =>
    simp only [retryOnTimeout, h]
    cases r with
    | ok a => rfl
    | crash => rfl
    | err k => simp only [hr k rfl, Bool.false_eq_true, ↓reduceIte]

theorem retryOnTimeout_ok {f : Q α} {w w' : Net} {a : α} (h : f w = (.ok a, w')) (n : Nat) :
    retryOnTimeout n f w = (.ok a, w') :=
  retryOnTimeout_done h (fun _ e => nomatch e) n

theorem retryOnTimeout_of_ok {f : Q α} {w : Net} {a : α} (h : (f w).1 = .ok a) (n : Nat) :
    retryOnTimeout n f w = f w :=
  have e : f w = (.ok a, (f w).2) := Prod.ext h rfl
  (retryOnTimeout_ok e n).trans e.symm

theorem retryOnTimeout_err {f : Q α} {w w' : Net} {k : ErrKind} (h : f w = (.err k, w')) (hk : k.isTimeout = false)
    (n : Nat) : retryOnTimeout n f w = (.err k, w') :=
  retryOnTimeout_done h (fun _ e => by cases e; exact hk) n

theorem retryOnTimeout_again {f : Q α} {w w' : Net} {k : ErrKind} (h : f w = (.err k, w')) (hk : k.isTimeout = true)
    (n : Nat) : retryOnTimeout (n + 1) f w = retryOnTimeout n f w' := by
  simp only [retryOnTimeout, h, hk, ↓reduceIte]

theorem retryOnTimeout_cases (n : Nat) (f : Q α) (w : Net) :
    retryOnTimeout (n + 1) f w = f w ∨
    ∃ k w', f w = (.err k, w') ∧ k.isTimeout = true ∧ retryOnTimeout (n + 1) f w = retryOnTimeout n f w' := by
  cases hf : f w with
  | mk r w' =>
    cases r with
    | ok a => exact .inl (retryOnTimeout_ok hf _)
    | crash => exact .inl (retryOnTimeout_done hf (fun _ e => nomatch e) _)
    | err k =>
      cases hk : k.isTimeout with
      | false => exact .inl (retryOnTimeout_err hf hk _)
      | true => exact .inr ⟨k, w', rfl, hk, retryOnTimeout_again hf hk n⟩

/-- `Socket::send` in one equation: the next fault flag decides -/
def sendFails (fl : List Bool) : Bool := fl.head? == some true

theorem send_apply (s : Sock) (data : Bytes) (w : Net) :
    send s data w = if sendFails w.faults
      then (.err .packetSend, { w with faults := w.faults.tail, log := w.log ++ [.send s.id s.port data true] })
      else (.ok (), { w with faults := w.faults.tail, log := w.log ++ [.send s.id s.port data false] }) := by
  obtain ⟨pend, conns, faults, log⟩ := w
  cases faults with
  | nil => rfl
  | cons b rest => cases b <;> rfl

theorem send_clean (s : Sock) (data : Bytes) (w : Net) (hf : w.faults = []) :
    send s data w = (.ok (), { w with log := w.log ++ [.send s.id s.port data false] }) := by
  unfold Gd.send
  rw [hf]

theorem send_log (s : Sock) (data : Bytes) (w : Net) :
    ∃ failed, (send s data w).2.log = w.log ++ [.send s.id s.port data failed] := by
  unfold Gd.send
  split
  · exact ⟨true, rfl⟩
  · exact ⟨false, rfl⟩
  · exact ⟨false, rfl⟩

theorem recv_log (s : Sock) (size : Option Nat) (w : Net) :
    ∃ got, (recv s size w).2.log = w.log ++ [.recv s.id size got] := by
  unfold Gd.recv
  split
  · exact ⟨_, rfl⟩
  · exact ⟨_, rfl⟩
  · split <;> exact ⟨_, rfl⟩

def exchange1 {α : Type} (s : Sock) (req : Bytes) (size : Nat) (check : Bytes → Res α) : Q α :=
  send s req >>= fun _ => recv s (some size) >>= fun d => Q.lift (check d)

theorem exchange1_log {α : Type} (s : Sock) (req : Bytes) (size : Nat) (check : Bytes → Res α) (w : Net) :
    ∃ failed tail, (exchange1 s req size check w).2.log = w.log ++ .send s.id s.port req failed :: tail
      ∧ ∀ e ∈ tail, ∃ got, e = .recv s.id (some size) got := by
  obtain ⟨failed, hs⟩ := send_log s req w
  unfold exchange1
  rw [Q.bind_apply]
  cases hsend : send s req w with
  | mk res w1 =>
    rw [hsend] at hs
    simp only at hs
    cases res with
    | err k => exact ⟨failed, [], by simpa using hs, by simp⟩
    | crash => exact ⟨failed, [], by simpa using hs, by simp⟩
    | ok u =>
      simp only [Q.bind_apply]
      obtain ⟨got, hr⟩ := recv_log s (some size) w1
      cases hrecv : recv s (some size) w1 with
      | mk res2 w2 =>
        rw [hrecv] at hr
        simp only at hr
        refine ⟨failed, [.recv s.id (some size) got], ?_, by simp⟩
        cases res2 with
        | ok d => simp only [Q.lift]; rw [hr, hs]; simp
        | err k => simp only; rw [hr, hs]; simp
        | crash => simp only; rw [hr, hs]; simp

/-- The length of a socket's queue.  It is `(squeue s w).length` in the silent-server logic, `σ.q.length` under
`AtS s w σ` (by `AtS.queue`), and `queued s w` in the protocol models (the fuel of their receive loops is `queued s w + 1`). -/
def qlen (w : Net) (i : Nat) : Nat := (w.conns.getD i []).length

theorem setAt_length (l : List α) (i : Nat) (x : α) : (setAt l i x).length = l.length := by
  induction l generalizing i with
  | nil => rfl
  | cons y r ih => cases i <;> simp [setAt, ih]

theorem getD_setAt (l : List (List β)) (i j : Nat) (x : List β) :
    (setAt l i x).getD j [] = if i = j ∧ j < l.length then x else l.getD j [] := by
  induction l generalizing i j with
  | nil => simp [setAt]
  | cons y r ih =>
    cases i with
    | zero => cases j <;> simp [setAt]
    | succ i =>
      cases j with
      | zero => simp [setAt]
      | succ j =>
        have := ih i j
        simp only [List.getD_eq_getElem?_getD] at this
        simp [setAt, this]

structure Step (P : Ev → Prop) (w w' : Net) : Prop where
  log : ∃ added, w'.log = w.log ++ added ∧ ∀ e ∈ added, P e
  shrink : ∀ i, i < w.conns.length → qlen w' i ≤ qlen w i
  grow : w.conns.length ≤ w'.conns.length

theorem Step.refl (P : Ev → Prop) (w : Net) : Step P w w :=
  ⟨⟨[], by simp, by simp⟩, fun _ _ => Nat.le_refl _, Nat.le_refl _⟩

theorem Step.trans {P : Ev → Prop} {w w1 w2 : Net} (h1 : Step P w w1) (h2 : Step P w1 w2) : Step P w w2 := by
  obtain ⟨a1, e1, p1⟩ := h1.log
  obtain ⟨a2, e2, p2⟩ := h2.log
  refine ⟨⟨a1 ++ a2, by rw [e2, e1, List.append_assoc], ?_⟩, ?_, Nat.le_trans h1.grow h2.grow⟩
  · intro e he
    rcases List.mem_append.mp he with h | h
    · exact p1 e h
    · exact p2 e h
  · intro i hi
    exact Nat.le_trans (h2.shrink i (Nat.lt_of_lt_of_le hi h1.grow)) (h1.shrink i hi)

def IsOpen (s : Sock) (w : Net) : Prop := s.id < w.conns.length

theorem IsOpen.step {s : Sock} {P : Ev → Prop} {w w' : Net} (h : IsOpen s w) (hs : Step P w w') : IsOpen s w' :=
  Nat.lt_of_lt_of_le h hs.grow

def QSafe (s : Sock) (P : Ev → Prop) (q : Q α) : Prop :=
  ∀ w, IsOpen s w → (q w).1 ≠ .crash ∧ Step P w (q w).2

theorem QSafe.pure (s : Sock) (P : Ev → Prop) (a : α) : QSafe s P (pure a : Q α) :=
  fun w _ => ⟨by simp, Step.refl P w⟩

theorem QSafe.fail (s : Sock) (P : Ev → Prop) (k : ErrKind) : QSafe s P (Q.fail k : Q α) :=
  fun w _ => ⟨by simp [Q.fail], Step.refl P w⟩

theorem QSafe.lift (s : Sock) (P : Ev → Prop) (r : Res α) (h : r ≠ .crash) : QSafe s P (Q.lift r) :=
  fun w _ => ⟨h, Step.refl P w⟩

/-- `QSafe.bind` at one state: the continuation is told what the first step did to that state -/
theorem QSafe.bind_at {P : Ev → Prop} {q : Q α} {f : α → Q β} {w : Net}
    (hq : (q w).1 ≠ .crash ∧ Step P w (q w).2)
    (hf : ∀ a w1, q w = (.ok a, w1) → Step P w w1 → (f a w1).1 ≠ .crash ∧ Step P w1 (f a w1).2) :
    ((q >>= f) w).1 ≠ .crash ∧ Step P w ((q >>= f) w).2 := by
  rw [Q.bind_apply]
  cases hqw : q w with
  | mk res w1 =>
    rw [hqw] at hq
    cases res with
    | ok a =>
      obtain ⟨h3, h4⟩ := hf a w1 hqw hq.2
      exact ⟨h3, hq.2.trans h4⟩
    | err k => exact ⟨by simp, hq.2⟩
    | crash => exact absurd rfl hq.1

theorem QSafe.bind {s : Sock} {P : Ev → Prop} {q : Q α} {f : α → Q β}
    (hq : QSafe s P q) (hf : ∀ a, QSafe s P (f a)) : QSafe s P (q >>= f) :=
  fun w hw => QSafe.bind_at (hq w hw) fun a w1 _ h2 => hf a w1 (hw.step h2)

theorem QSafe.ite {s : Sock} {P : Ev → Prop} {c : Prop} [Decidable c] {p q : Q α}
    (hp : QSafe s P p) (hq : QSafe s P q) : QSafe s P (if c then p else q) := by
  split <;> assumption

theorem QSafe.parse (s : Sock) (P : Ev → Prop) {p : Par α} (hp : Safe p) (data : Bytes) : QSafe s P (parse p data) :=
  QSafe.lift s P _ (hp.run_ne_crash data)

theorem Step.logged {P : Ev → Prop} {w w' : Net} {e : Ev} (hl : w'.log = w.log ++ [e]) (hc : w'.conns = w.conns)
    (he : P e) : Step P w w' :=
  ⟨⟨[e], hl, fun _ h => List.mem_singleton.1 h ▸ he⟩, fun i _ => by rw [qlen, hc]; exact Nat.le_refl _,
    by rw [hc]; exact Nat.le_refl _⟩

theorem Step.dequeued {P : Ev → Prop} {s : Sock} {w : Net} {e : Ev} {d : Delivery} {rest : List Delivery}
    (hq : w.conns.getD s.id [] = d :: rest) (he : P e) :
    Step P w { w with conns := setAt w.conns s.id rest, log := w.log ++ [e] } := by
  refine ⟨⟨[e], rfl, fun _ h => List.mem_singleton.1 h ▸ he⟩, fun i _ => ?_, Nat.le_of_eq (setAt_length _ _ _).symm⟩
  simp only [qlen, getD_setAt]
  split
  · rename_i hc
    rw [← hc.1, hq]
    exact Nat.le_succ _
  · exact Nat.le_refl _

theorem QSafe.send (s : Sock) (P : Ev → Prop) (data : Bytes)
    (h : ∀ failed, P (.send s.id s.port data failed)) : QSafe s P (send s data) := by
  intro w _
  unfold Gd.send
  split
  · exact ⟨nofun, Step.logged rfl rfl (h true)⟩
  · exact ⟨nofun, Step.logged rfl rfl (h false)⟩
  · exact ⟨nofun, Step.logged rfl rfl (h false)⟩

theorem QSafe.recv (s : Sock) (P : Ev → Prop) (size : Option Nat)
    (h : ∀ got, P (.recv s.id size got)) : QSafe s P (recv s size) := by
  intro w _
  unfold Gd.recv
  split
  · rename_i d rest hq
    exact ⟨nofun, Step.dequeued hq (h _)⟩
  · rename_i rest hq
    exact ⟨nofun, Step.dequeued hq (h _)⟩
  · split
    · exact ⟨nofun, Step.logged rfl rfl (h _)⟩
    · exact ⟨nofun, Step.logged rfl rfl (h _)⟩

theorem recv_ok_consumes (s : Sock) (hudp : s.tcp = false) (size : Option Nat) (w w' : Net) (d : Bytes)
    (hopen : IsOpen s w) (h : recv s size w = (.ok d, w')) : qlen w' s.id < qlen w s.id := by
  unfold Gd.recv at h
  split at h
  · rename_i d0 rest hq
    cases h
    simp only [qlen, getD_setAt, hq]
    simp [hopen, IsOpen] at *
    simp [hopen]
  · cases h
  · simp [hudp] at h

theorem QSafe.retry {s : Sock} {P : Ev → Prop} {q : Q α} (hq : QSafe s P q) (r : Nat) :
    QSafe s P (retryOnTimeout r q) := by
  induction r with
  | zero => exact hq
  | succ r ih =>
    intro w hw
    rcases retryOnTimeout_cases r q w with e | ⟨k, w1, e1, _, e2⟩
    · rw [e]; exact hq w hw
    · obtain ⟨_, h2⟩ := hq w hw
      rw [e1] at h2
      obtain ⟨h3, h4⟩ := ih w1 (hw.step h2)
      rw [e2]
      exact ⟨h3, h2.trans h4⟩

theorem QSafe.maybeGather {s : Sock} {P : Ev → Prop} {q : Q α} (hq : QSafe s P q) (t : Toggle) :
    QSafe s P (maybeGather t q) := by
  cases t with
  | skip => exact QSafe.pure s P none
  | try_ =>
    intro w hw
    obtain ⟨h1, h2⟩ := hq w hw
    simp only [Gd.maybeGather]
    cases hqw : q w with
    | mk res w1 =>
      rw [hqw] at h1 h2
      cases res with
      | ok a => exact ⟨by simp, h2⟩
      | err k => exact ⟨by simp, h2⟩
      | crash => exact absurd rfl h1
  | enforce => exact QSafe.bind hq fun a => QSafe.pure s P (some a)

theorem QSafe.maybeGather_of_run {s : Sock} {P : Ev → Prop} {q : Q α} (t : Toggle) (hq : t ≠ .skip → QSafe s P q) :
    QSafe s P (Gd.maybeGather t q) := by
  cases t with
  | skip => exact QSafe.pure s P none
  | try_ => exact QSafe.maybeGather (hq (by simp)) _
  | enforce => exact QSafe.maybeGather (hq (by simp)) _

theorem Step.mono {P P' : Ev → Prop} (h : ∀ e, P e → P' e) {w w' : Net} (hs : Step P w w') : Step P' w w' := by
  obtain ⟨added, e1, p1⟩ := hs.log
  exact ⟨⟨added, e1, fun e he => h e (p1 e he)⟩, hs.shrink, hs.grow⟩

theorem QSafe.mono {s : Sock} {P P' : Ev → Prop} {q : Q α} (hq : QSafe s P q) (h : ∀ e, P e → P' e) : QSafe s P' q :=
  fun w hw => ⟨(hq w hw).1, (hq w hw).2.mono h⟩

theorem openSock_congr {α : Type} (tcp : Bool) (port : Nat) (f g : Sock → Q α)
    (h : ∀ s : Sock, s.port = port → f s = g s) : (openSock tcp port >>= f) = (openSock tcp port >>= g) := by
  funext w
  simp only [Q.bind_apply, openSock]
  cases w.pending with
  | nil => simp only; rw [h _ rfl]
  | cons c rest =>
    cases c with
    | refused => rfl
    | opened ds => simp only; rw [h _ rfl]

theorem log_append_of {P : Ev → Prop} {l l1 l2 a1 : List Ev} (e1 : l1 = l ++ a1) (p1 : ∀ e ∈ a1, P e)
    (h2 : ∃ a2, l2 = l1 ++ a2 ∧ ∀ e ∈ a2, P e) : ∃ added, l2 = l ++ added ∧ ∀ e ∈ added, P e := by
  obtain ⟨a2, e2, p2⟩ := h2
  refine ⟨a1 ++ a2, by rw [e2, e1, List.append_assoc], fun e he => ?_⟩
  rcases List.mem_append.mp he with h | h
  · exact p1 e h
  · exact p2 e h

/-- The event predicate may mention the socket's number: `QSafe` for that socket gives crash freedom and log
conformance of the whole from any state. -/
theorem openThen_safe (tcp : Bool) (port : Nat) {f : Sock → Q α} (P : Nat → Ev → Prop)
    (hopen : ∀ id r, P id (.opened id tcp port r))
    (hf : ∀ s : Sock, s.port = port → s.tcp = tcp → QSafe s (P s.id) (f s)) (w : Net) :
    ((openSock tcp port >>= f) w).1 ≠ .crash
    ∧ ∃ added, ((openSock tcp port >>= f) w).2.log = w.log ++ added ∧ ∀ e ∈ added, P w.conns.length e := by
  rw [Q.bind_apply]
  have fin : ∀ (w0 : Net) (ev : Ev), w0.log = w.log ++ [ev] → P w.conns.length ev →
      IsOpen ⟨w.conns.length, port, tcp⟩ w0 →
      (f ⟨w.conns.length, port, tcp⟩ w0).1 ≠ .crash
      ∧ ∃ added, (f ⟨w.conns.length, port, tcp⟩ w0).2.log = w.log ++ added ∧ ∀ e ∈ added, P w.conns.length e := by
    intro w0 ev hlog0 hev hop
    obtain ⟨h1, h2⟩ := hf ⟨w.conns.length, port, tcp⟩ rfl rfl w0 hop
    exact ⟨h1, log_append_of hlog0 (fun e he => by rw [List.mem_singleton.mp he]; exact hev) h2.log⟩
  cases hp : w.pending with
  | nil =>
    simp only [openSock, hp]
    exact fin _ _ rfl (hopen _ _) (by simp [IsOpen])
  | cons c rest =>
    cases c with
    | opened ds =>
      simp only [openSock, hp]
      exact fin _ _ rfl (hopen _ _) (by simp [IsOpen])
    | refused =>
      simp only [openSock, hp]
      refine ⟨by simp, [_], rfl, ?_⟩
      intro e he
      rcases List.mem_singleton.mp he with rfl
      exact hopen _ _

/-- what a query has logged after a run from the initial state, given what it appends from any state; the socket it
opens is number 0 -/
theorem log_of_init {P : Nat → Ev → Prop} {w' : Net} {script : List ConnScript} {faults : List Bool}
    (h : ∃ added, w'.log = (Net.init script faults).log ++ added
      ∧ ∀ e ∈ added, P (Net.init script faults).conns.length e) : ∀ e ∈ w'.log, P 0 e := by
  obtain ⟨added, hlog, hall⟩ := h
  intro e he
  rw [hlog] at he
  exact hall e he

theorem openThen_run (tcp : Bool) (port : Nat) {f : Sock → Q α} (P : Nat → Ev → Prop)
    (hopen : ∀ id r, P id (.opened id tcp port r))
    (hf : ∀ s : Sock, s.port = port → s.tcp = tcp → QSafe s (P s.id) (f s))
    (script : List ConnScript) (faults : List Bool) :
    ((openSock tcp port >>= f) (Net.init script faults)).1 ≠ .crash
    ∧ ∀ e ∈ ((openSock tcp port >>= f) (Net.init script faults)).2.log, P 0 e := by
  have h := openThen_safe tcp port P hopen hf (Net.init script faults)
  exact ⟨h.1, log_of_init h.2⟩

def LogSafe (P : Ev → Prop) (q : Q α) : Prop :=
  ∀ w, (q w).1 ≠ .crash ∧ ∃ added, (q w).2.log = w.log ++ added ∧ ∀ e ∈ added, P e

namespace LogSafe

theorem mono {P P' : Ev → Prop} {q : Q α} (h : LogSafe P q) (hp : ∀ e, P e → P' e) : LogSafe P' q := by
  intro w
  obtain ⟨hc, added, hlog, hall⟩ := h w
  exact ⟨hc, added, hlog, fun e he => hp e (hall e he)⟩

theorem pure (P : Ev → Prop) (a : α) : LogSafe P (Pure.pure a : Q α) :=
  fun w => ⟨by simp, [], by simp, by simp⟩

theorem fail (P : Ev → Prop) (k : ErrKind) : LogSafe P (Q.fail k : Q α) :=
  fun w => ⟨by simp [Q.fail], [], by simp [Q.fail], by simp⟩

theorem lift (P : Ev → Prop) (r : Res α) (h : r ≠ .crash) : LogSafe P (Q.lift r) :=
  fun w => ⟨h, [], by simp [Q.lift], by simp⟩

theorem bind {P : Ev → Prop} {q : Q α} {f : α → Q β} (hq : LogSafe P q) (hf : ∀ a, LogSafe P (f a)) :
    LogSafe P (q >>= f) := by
  intro w
  obtain ⟨h1, a1, e1, p1⟩ := hq w
  rw [Q.bind_apply]
  cases hqw : q w with
  | mk res w1 =>
    rw [hqw] at h1 e1
    cases res with
    | ok a => exact ⟨(hf a w1).1, log_append_of e1 p1 (hf a w1).2⟩
    | err k => exact ⟨by simp, a1, e1, p1⟩
    | crash => exact absurd rfl h1

theorem ite {P : Ev → Prop} {c : Prop} [Decidable c] {p q : Q α} (hp : LogSafe P p) (hq : LogSafe P q) :
    LogSafe P (if c then p else q) := by
  split <;> assumption

theorem parse (P : Ev → Prop) {p : Par α} (hp : Safe p) (data : Bytes) : LogSafe P (parse p data) :=
  LogSafe.lift P _ (hp.run_ne_crash data)

theorem openSock (P : Ev → Prop) (tcp : Bool) (port : Nat) (h : ∀ c r, P (.opened c tcp port r)) :
    LogSafe P (openSock tcp port) := by
  intro w
  unfold Gd.openSock
  split
  · exact ⟨by simp, [_], rfl, by simpa using h _ _⟩
  · exact ⟨by simp, [_], rfl, by simpa using h _ _⟩
  · exact ⟨by simp, [_], rfl, by simpa using h _ _⟩

theorem send (P : Ev → Prop) (s : Sock) (data : Bytes) (h : ∀ failed, P (.send s.id s.port data failed)) :
    LogSafe P (send s data) := by
  intro w
  unfold Gd.send
  split
  · exact ⟨by simp, [_], rfl, by simpa using h true⟩
  · exact ⟨by simp, [_], rfl, by simpa using h false⟩
  · exact ⟨by simp, [_], rfl, by simpa using h false⟩

theorem recv (P : Ev → Prop) (s : Sock) (size : Option Nat) (h : ∀ got, P (.recv s.id size got)) :
    LogSafe P (recv s size) := by
  intro w
  unfold Gd.recv
  split
  · exact ⟨by simp, [_], rfl, by simpa using h _⟩
  · exact ⟨by simp, [_], rfl, by simpa using h _⟩
  · split
    · exact ⟨by simp, [_], rfl, by simpa using h _⟩
    · exact ⟨by simp, [_], rfl, by simpa using h _⟩

theorem retry {P : Ev → Prop} {q : Q α} (hq : LogSafe P q) (r : Nat) : LogSafe P (retryOnTimeout r q) := by
  induction r with
  | zero => exact hq
  | succ r ih =>
    intro w
    obtain ⟨h1, a1, e1, p1⟩ := hq w
    simp only [retryOnTimeout]
    cases hqw : q w with
    | mk res w1 =>
      rw [hqw] at h1 e1
      cases res with
      | ok a => exact ⟨by simp, a1, e1, p1⟩
      | crash => exact absurd rfl h1
      | err k =>
        simp only
        split
        · exact ⟨(ih w1).1, log_append_of e1 p1 (ih w1).2⟩
        · exact ⟨by simp, a1, e1, p1⟩

theorem ofOpen {P : Ev → Prop} (tcp : Bool) (port : Nat) {f : Sock → Q α}
    (hopen : ∀ c r, P (.opened c tcp port r))
    (hf : ∀ s : Sock, s.port = port → s.tcp = tcp → QSafe s P (f s)) :
    LogSafe P (Gd.openSock tcp port >>= f) :=
  openThen_safe tcp port (fun _ => P) hopen hf

theorem run {P : Ev → Prop} {q : Q α} (hq : LogSafe P q) (script : List ConnScript) (faults : List Bool) :
    (q (Net.init script faults)).1 ≠ .crash ∧ ∀ e ∈ (q (Net.init script faults)).2.log, P e :=
  ⟨(hq _).1, log_of_init (P := fun _ => P) (hq _).2⟩

end LogSafe

end Gd
