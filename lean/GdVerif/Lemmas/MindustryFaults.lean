import GdVerif.Lemmas.Mindustry
import GdVerif.Lemmas.QStepsG
import GdVerif.Spec.MindustryFaults
/-
  The whole Mindustry query with faults injected (C10 end to end).  Every attempt opens its own socket, so the logic is
  `StepsG AtM` of `Lemmas/QStepsG.lean` (the scripts of the sockets not yet opened, consumed one per attempt); what an
  attempt does on its socket is `exchange1` in the single-socket logic `Steps`, carried over by `open_then`.
-/
namespace Gd.Mindustry
open Gd Gd.Mindustry.Spec Gd.Faults

theorem attempt_exchange1 (port : Nat) :
    attempt port = (openSock false port >>= fun s => exchange1 s ping MAX_BUFFER_SIZE parseServerData.run) := rfl

theorem keeps_exchange1 (s : Sock) : KeepsPending (exchange1 s ping MAX_BUFFER_SIZE parseServerData.run) :=
  KeepsPending.bind (KeepsPending.send s _) fun _ =>
    KeepsPending.bind (KeepsPending.recv s _) fun _ => KeepsPending.lift _

theorem ping_eq : ping = pingRequest := rfl

theorem Attempt.error_timeout (a : Attempt) : a.error.isTimeout = true := attemptError_timeout _

theorem steps_exchange1_lost (s : Sock) (hudp : s.tcp = false) (conn : List Delivery) (h : silentFirst conn = true)
    (fs : List Bool) (sn : List (Bytes × Bool)) :
    Steps s (exchange1 s ping MAX_BUFFER_SIZE parseServerData.run) (.err .packetReceive)
      ⟨conn, false :: fs, sn⟩ ⟨conn.drop 1, fs, sn ++ [(ping, false)]⟩ := by
  unfold exchange1
  cases conn with
  | nil => exact Steps.bind (steps_send_ok s _ _ fs sn) (Steps.bind_err (steps_recv_empty s hudp _ fs _))
  | cons d q =>
    cases d with
    | silence => exact Steps.bind (steps_send_ok s _ _ fs sn) (Steps.bind_err (steps_recv_silence s _ q fs _))
    | data d => simp [silentFirst] at h

theorem steps_attempt_fail (port : Nat) (a : Attempt) (ha : a.wf = true) (P : List ConnScript) (fs : List Bool)
    (sn : List (Bytes × Bool)) :
    StepsG AtM (attempt port) (.err a.error) ⟨a.conns ++ P, a.faults ++ fs, sn⟩ ⟨P, fs, sn ++ a.sends⟩ := by
  rw [attempt_exchange1]
  obtain ⟨f, conn⟩ := a
  cases f with
  | true =>
    refine open_then port _ _ conn conn P (true :: fs) fs sn (sn ++ [(pingRequest, true)]) keeps_exchange1 ?_
    intro s _ _
    exact Steps.bind_err (steps_send_fault s _ conn fs sn)
  | false =>
    have hs : silentFirst conn = true := by simpa [Attempt.wf] using ha
    refine open_then port _ _ conn (conn.drop 1) P (false :: fs) fs sn (sn ++ [(pingRequest, false)]) keeps_exchange1 ?_
    intro s hudp _
    exact steps_exchange1_lost s hudp conn hs fs sn

theorem steps_attempt_answer (port : Nat) (d : Bytes) (hd : d.length ≤ MAX_BUFFER_SIZE) (after : List Delivery)
    (P : List ConnScript) (fs : List Bool) (sn : List (Bytes × Bool)) :
    StepsG AtM (attempt port) (parseServerData.run d) ⟨.opened (.data d :: after) :: P, false :: fs, sn⟩
      ⟨P, fs, sn ++ [(pingRequest, false)]⟩ := by
  rw [attempt_exchange1]
  refine open_then port _ _ (.data d :: after) after P (false :: fs) fs sn (sn ++ [(pingRequest, false)])
    keeps_exchange1 ?_
  intro s hudp _
  exact steps_exchange1_answer s hudp ping MAX_BUFFER_SIZE parseServerData.run d hd after fs sn

theorem take_take_findByte (body : Bytes) (n : Nat) :
    body.take (findByte 0 (body.take n)) = (body.take n).takeWhile (· != 0) := by
  rw [← take_findByte]
  have hle : findByte 0 (body.take n) ≤ (body.take n).length := findByte_le 0 _
  rw [List.take_take]
  congr 1
  have : (body.take n).length ≤ n := by simp only [List.length_take]; omega
  omega

theorem parse_malformed (m : Bytes) (h : malformed m = true) : parseServerData.run m = .err .packetBad := by
  have h1 : readLenStr (Buf.new m) = .err .packetBad := by
    unfold readLenStr readStringWith utf8LenDec
    cases m with
    | nil => rfl
    | cons l body =>
      simp only [Buf.new]
      have hv : validUtf8 (body.take (findByte 0 (body.take l.toNat))) = false := by
        rw [take_take_findByte]
        simpa [malformed] using h
      simp [hv]
  unfold Par.run parseServerData
  rw [Par.bind_err h1]

theorem query_faulty (st : State) (hw : wf st = true) (port retries : Nat) (plan : Plan)
    (hplan : wfPlan retries plan = true) (restC : List ConnScript) (restF : List Bool) :
    (query port retries (Net.init (faultyScript st plan ++ restC) (faultyFaults plan ++ restF))).1 = faultyExpected st plan
    ∧ sentOf (query port retries (Net.init (faultyScript st plan ++ restC) (faultyFaults plan ++ restF))).2.log
      = faultySends plan := by
  obtain ⟨fails, ending⟩ := plan
  simp only [wfPlan, Bool.and_eq_true, List.all_eq_true] at hplan
  obtain ⟨hfails, hend⟩ := hplan
  have hlen : (encode st).length ≤ MAX_BUFFER_SIZE := by
    simp only [wf, Bool.and_eq_true, decide_eq_true_eq] at hw
    exact hw.2
  have hstep : ∀ a : Attempt, a.wf = true → ∀ P fs sn,
      StepsG AtM (attempt port) (.err a.error) ⟨a.conns ++ P, a.faults ++ fs, sn⟩ ⟨P, fs, sn ++ a.sends⟩ :=
    fun a ha P fs sn => steps_attempt_fail port a ha P fs sn
  -- the endings other than giving up: at most `retries` failures, then an attempt that ends with `R`, not a timeout
  have recovers := fun (R : Res ServerData) hR dq df ds hfin hk =>
    (StepsG.retry_recovers_of (V := AtM) (f := attempt port) (fun a => a.wf = true) Attempt.conns Attempt.faults
      Attempt.sends Attempt.error Attempt.error_timeout hstep (R := R) hR (dq ++ restC) restC (df ++ restF) restF ds hfin
      fails retries [] hfails hk).run
  unfold query
  cases ending with
  | valid after =>
    simp only [decide_eq_true_eq] at hend
    have := recovers (.ok (expected st)) (fun k hk => by cases hk) [.opened (.data (encode st) :: after)] [false]
      [(pingRequest, false)]
      (fun sn => by
        have := steps_attempt_answer port (encode st) hlen after restC restF sn
        rwa [(decodesEnd_serverData st hw).run] at this)
      hend
    simpa [faultyScript, faultyFaults, faultySends, faultyExpected, Ending.conns, Ending.faults, Ending.sends,
      List.append_assoc] using this
  | gaveUp =>
    simp only [beq_iff_eq] at hend
    have h := StepsG.retry_exhausted_of (V := AtM) (f := attempt port) (fun a => a.wf = true)
      Attempt.conns Attempt.faults Attempt.sends Attempt.error Attempt.error_timeout hstep restC restF retries fails []
      hfails hend
    have := h.run
    simpa [faultyScript, faultyFaults, faultySends, faultyExpected, Ending.conns, Ending.faults, Ending.sends] using this
  | malformed m after =>
    simp only [Bool.and_eq_true, decide_eq_true_eq] at hend
    obtain ⟨⟨hk, hm⟩, hl⟩ := hend
    have := recovers (.err .packetBad) (fun k hk => by cases hk; rfl) [.opened (.data m :: after)] [false]
      [(pingRequest, false)]
      (fun sn => by
        have := steps_attempt_answer port m hl after restC restF sn
        rwa [parse_malformed m hm] at this)
      hk
    simpa [faultyScript, faultyFaults, faultySends, faultyExpected, Ending.conns, Ending.faults, Ending.sends,
      List.append_assoc] using this
  | refused =>
    simp only [decide_eq_true_eq] at hend
    have := recovers (.err .socketBind) (fun k hk => by cases hk; rfl) [.refused] [] []
      (fun sn => by
        have := open_refused port (fun s => exchange1 s ping MAX_BUFFER_SIZE parseServerData.run) restC restF sn
        simpa [attempt_exchange1] using this)
      hend
    simpa [faultyScript, faultyFaults, faultySends, faultyExpected, Ending.conns, Ending.faults, Ending.sends,
      List.append_assoc] using this

theorem faultySends_eq (plan : Plan) :
    faultySends plan = plan.fails.map (fun a => (pingRequest, a.sendFault)) ++ plan.ending.sends := by
  unfold faultySends
  rw [show plan.fails.flatMap Attempt.sends = plan.fails.map (fun a => (pingRequest, a.sendFault)) from
    flatMap_singleton _ _]

theorem lastError_class (fails : List Attempt) (h : fails ≠ []) :
    lastError Attempt.error fails = .packetReceive ∨ lastError Attempt.error fails = .packetSend :=
  lastError_recv_or_send _ (fun a => attemptError_class a.sendFault) fails

end Gd.Mindustry
