import GdVerif.Lemmas.QBlock
import GdVerif.Lemmas.ValveSafe
/-
  How many blocking steps of a Valve request can run into their timeout: none when the attempt succeeds, one
  when it fails.
-/
namespace Gd
namespace Valve

theorem block_recvChunks (s : Sock) (engine : Engine) (protocol : Nat) (n : Nat) :
    Block 0 1 (recvChunks s engine protocol n) := by
  induction n with
  | zero => exact (Block.pure _).free 1
  | succ n ih =>
    unfold recvChunks
    exact Block.bind_same (Block.recv s (some PACKET_SIZE)) fun data =>
      Block.free_bind (Block.parse (splitPacketNew engine protocol) data) fun p =>
        Block.bind_free ih (fun ps => Block.pure (p :: ps)) (Nat.zero_le 1)

theorem block_afterFirst (ext : Ext) (s : Sock) (engine : Engine) (protocol : Nat) (data : Bytes) :
    Block 0 1 (afterFirst ext s engine protocol data) := by
  unfold afterFirst
  exact Block.free_bind (Block.parse readU8 data) fun header =>
    Block.ite (c := (header == 0xFE) = true)
      (Block.free_bind (Block.parse (splitPacketNew engine protocol) data) fun first =>
        Block.bind_free (block_recvChunks s engine protocol (first.total - 1))
          (fun rest => Block.free_bind (Block.lift (assemble ext (sortChunks (first :: rest)))) fun payload =>
            Block.parse packetFromBuffer payload)
          (Nat.zero_le 1))
      ((Block.parse packetFromBuffer data).free 1)

theorem block_receive (ext : Ext) (s : Sock) (engine : Engine) (protocol : Nat) :
    Block 0 1 (receive ext s engine protocol) := by
  rw [receive_eq]
  exact Block.bind_same (Block.recv s (some PACKET_SIZE)) fun d => block_afterFirst ext s engine protocol d

/-- a request is sent, a reply awaited, and `next` goes on from the reply: the shape of an attempt and of every
challenge round -/
theorem block_round (ext : Ext) (s : Sock) (engine : Engine) (protocol : Nat) (data : Bytes) {next : Packet → Q α}
    (hnext : ∀ p, Block 0 1 (next p)) :
    Block 0 1 (send s data >>= fun _ => receive ext s engine protocol >>= next) :=
  Block.bind_same (Block.send s data) fun _ => Block.bind_same (block_receive ext s engine protocol) hnext

theorem block_challengeLoop (ext : Ext) (s : Sock) (engine : Engine) (protocol kind : Nat) :
    ∀ (fuel : Nat) (packet : Packet), Block 0 1 (challengeLoop ext s engine protocol kind fuel packet) := by
  intro fuel
  induction fuel with
  | zero => intro _ w; exact ⟨[], by simp [challengeLoop], by simp [challengeLoop, nBlocked]⟩
  | succ fuel ih =>
    intro packet
    unfold challengeLoop
    split
    · exact block_round ext s engine protocol _ ih
    · exact (Block.pure _).free 1

theorem block_requestImpl (ext : Ext) (s : Sock) (engine : Engine) (protocol kind : Nat) (payload : Bytes) :
    Block 0 1 (requestImpl ext s engine protocol kind payload) := by
  unfold requestImpl
  exact block_round ext s engine protocol _ fun packet w =>
    block_challengeLoop ext s engine protocol kind (queued s w + 1) packet w

end Valve
end Gd
