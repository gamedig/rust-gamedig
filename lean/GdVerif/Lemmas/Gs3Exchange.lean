import GdVerif.Lemmas.Gs3Reassembly
import GdVerif.Lemmas.Decodes
import GdVerif.Lemmas.Decimal
import GdVerif.Lemmas.QBounds
/-
  The GameSpy 3 exchange against a scripted server: what the client decodes from the SPEC's datagrams
  (handshake reply, data packets), what the receive loop returns (`recvPackets` = `feed` on the queued
  datagrams), and what the client has sent afterwards.

  These fault-free statements (`recvPackets_result`, `impl_after_handshake`, `exchange_wire` of `Gs3Whole`; C04, C08, C09
  rest on them) stand beside the development in `Steps` (`Gs3Faults`) because they are not its empty plan: a plan's
  script comes with one send-fault flag `false` per send, these are stated on `Net.init … []` — no flags at all — and for
  a socket about which only its queue is known.
-/
namespace Gd.Gs3
open Gd

/-- a received datagram through `GameSpy3::receive(None, 0)` and the split header -/
def decodeFrag (d : Bytes) : Res Frag := (readHeader 0).run (d.take PACKET_SIZE) >>= fun p => readFrag.run p

theorem run_readHeader (kind : Nat) (hk : kind < 256) (rest : Bytes) :
    (readHeader kind).run ([UInt8.ofNat kind] ++ Spec.sessionId ++ rest) = .ok rest := by
  unfold readHeader
  refine (DecodesEnd.bind (decodes_u8 kind hk) ?_ (List.append_assoc _ _ _)).run
  rw [if_neg (by simp)]
  refine DecodesEnd.bind (decodes_be 4 1 (by decide)) ?_ rfl
  rw [if_neg (by simp [SESSION_ID])]
  exact decodesEnd_remainingBytes rest

theorem run_readFrag_byte (idb : Nat) (hlt : idb < 256) (unknown : UInt8) (payload : Bytes) :
    readFrag.run (Spec.cstr (asciiBytes "splitnum") ++ [UInt8.ofNat idb] ++ [unknown] ++ payload)
      = .ok ⟨idb &&& 0x7f, idb &&& 0x80 > 0, payload⟩ := by
  have hs : asciiBytes "splitnum" = [115, 112, 108, 105, 116, 110, 117, 109] := by decide +kernel
  unfold readFrag
  refine (DecodesEnd.bind (e2 := [UInt8.ofNat idb] ++ ([unknown] ++ payload))
    (decodes_readCStr (asciiBytes "splitnum") ?_ ?_) ?_ (by simp only [Spec.cstr, List.append_assoc])).run
  · rw [hs]; decide
  · rw [hs]; exact validUtf8_ascii _ (by decide)
  rw [if_neg (by simp)]
  refine DecodesEnd.bind (decodes_u8 idb hlt) ?_ rfl
  refine DecodesEnd.bind (decodes_skip [unknown]) ?_ rfl
  exact DecodesEnd.bind_pure (decodesEnd_remainingBytes payload) fun _ => rfl

theorem and_0x7f (x : Nat) : x &&& 0x7f = x % 128 := Nat.and_two_pow_sub_one_eq_mod x 7

theorem low_and_0x80 (id : Nat) (hid : id < 128) : id &&& 0x80 = 0 := by
  rw [← Nat.mod_eq_of_lt (Nat.lt_of_le_of_lt Nat.and_le_left hid), Nat.and_mod_two_pow (n := 7)]
  exact Nat.and_zero _

theorem high_and_0x80 (id : Nat) (hid : id < 128) : (id + 0x80) &&& 0x80 = 0x80 := by
  have h := Nat.two_pow_add_eq_or_of_lt (i := 7) hid 1
  rw [Nat.add_comm, show 0x80 = 2 ^ 7 * 1 from rfl, h, Nat.and_or_distrib_right, low_and_0x80 id hid]
  rfl

/-- the id byte of a SPEC packet: the id in the low seven bits, the "last" flag on top -/
theorem bits7 (id : Nat) (hid : id < 128) (last : Bool) :
    id + (if last then 0x80 else 0) < 256
    ∧ (id + (if last then 0x80 else 0)) &&& 0x7f = id
    ∧ decide ((id + (if last then 0x80 else 0)) &&& 0x80 > 0) = last := by
  rw [and_0x7f]
  cases last
  · rw [if_neg Bool.false_ne_true, Nat.add_zero, low_and_0x80 id hid, Nat.mod_eq_of_lt hid]
    exact ⟨Nat.lt_trans hid (by decide), rfl, rfl⟩
  · rw [if_pos rfl, high_and_0x80 id hid, Nat.add_mod_right, Nat.mod_eq_of_lt hid]
    exact ⟨Nat.add_lt_add_right hid 128, rfl, rfl⟩

theorem run_readFrag (id : Nat) (hid : id < 128) (last : Bool) (unknown : UInt8) (payload : Bytes) :
    readFrag.run (Spec.cstr (asciiBytes "splitnum") ++ [UInt8.ofNat (id + (if last then 0x80 else 0))] ++ [unknown] ++ payload)
      = .ok ⟨id, last, payload⟩ := by
  obtain ⟨hlt, e1, e2⟩ := bits7 id hid last
  rw [run_readFrag_byte _ hlt, e1, e2]

theorem decodeFrag_dataPacket (id : Nat) (hid : id < 128) (last : Bool) (unknown : Nat) (payload : Bytes)
    (hlen : (Spec.dataPacket id last unknown payload).length ≤ PACKET_SIZE) :
    decodeFrag (Spec.dataPacket id last unknown payload) = .ok ⟨id, last, payload⟩ := by
  unfold decodeFrag
  rw [List.take_of_length_le hlen]
  have hd : Spec.dataPacket id last unknown payload = [UInt8.ofNat 0] ++ Spec.sessionId ++
      (Spec.cstr (asciiBytes "splitnum") ++ [UInt8.ofNat (id + (if last then 0x80 else 0))] ++ [UInt8.ofNat unknown]
        ++ payload) := by
    simp only [Spec.dataPacket, List.append_assoc]
    rfl
  rw [hd, run_readHeader 0 (by decide), Res.bind_ok]
  exact run_readFrag id hid last _ payload

theorem intDec_length (c : Int) (hlo : -(2 ^ 31 : Int) ≤ c) (hhi : c < 2 ^ 31) : (intDec c).length ≤ 11 := by
  -- at most ten digits, and a sign
  cases c with
  | ofNat n =>
    rw [show Int.ofNat n = (n : Int) from rfl, intDec_ofNat]
    have h10 : n < 10 ^ 10 := by
      have : (n : Int) < 2 ^ 31 := hhi
      omega
    exact Nat.le_succ_of_le (natDec_length n 10 (by decide) h10)
  | negSucc m =>
    rw [intDec_negSucc]
    have h10 : m + 1 < 10 ^ 10 := by
      have : -(2 ^ 31 : Int) ≤ Int.negSucc m := hlo
      omega
    exact Nat.succ_le_succ (natDec_length (m + 1) 10 (by decide) h10)

/-- a string read: terminated, or running to the end of the packet -/
theorem readCStr_text (t : Bytes) (h0 : (0 : UInt8) ∉ t) (hv : validUtf8 t = true) (z : Bytes) (hz : z = [] ∨ z = [0]) :
    ∃ b', readCStr (Buf.new (t ++ z)) = .ok (t, b') := by
  rcases hz with rfl | rfl
  · refine ⟨(Buf.new (t ++ [])).advance (min (t.length + 1) t.length), ?_⟩
    unfold readCStr readStringWith utf8Dec
    simp only [Buf.rest_new, List.append_nil, findByte_none 0 t h0, List.take_length, hv]
    rfl
  · obtain ⟨b', h, _, _⟩ := decodes_readCStr t h0 hv (Buf.new (t ++ [0])) [] (by simp)
    exact ⟨b', h⟩

theorem parseChallenge_text (c : Int) (hlo : -(2 ^ 31 : Int) ≤ c) (hhi : c < 2 ^ 31) (z : Bytes) (hz : z = [] ∨ z = [0]) :
    parseChallenge.run (intDec c ++ z) = .ok (if c = 0 then none else some c) := by
  obtain ⟨h0, hv, _⟩ := intDec_text c
  obtain ⟨b', hb'⟩ := readCStr_text (intDec c) h0 hv z hz
  unfold Par.run parseChallenge
  rw [Par.bind_ok hb']
  have hp : parseSigned 32 (intDec c) = some c := parseSigned_intDec 32 c (by simpa using hlo) (by simpa using hhi)
  simp only [hp, okOr, Par.lift]
  by_cases hc : c = 0
  · subst hc; rfl
  · simp [hc, Par.bind_apply, Par.lift]

theorem take_concat (l : List α) (x : α) (n : Nat) (h : l.length ≤ n) :
    ∃ z, (z = [] ∨ z = [x]) ∧ (l ++ [x]).take n = l ++ z := by
  rw [List.take_append, List.take_of_length_le h]
  cases n - l.length with
  | zero => exact ⟨[], Or.inl rfl, rfl⟩
  | succ k => exact ⟨[x], Or.inr rfl, by rw [List.take_succ_cons, List.take_nil]⟩

/-- The handshake reply for the challenge `c` (any i32), as received in the 16-byte buffer, is
decoded to `c`; the text `0` to "no challenge". -/
theorem handshake_decoded (c : Int) (hlo : -(2 ^ 31 : Int) ≤ c) (hhi : c < 2 ^ 31) :
    ((readHeader 9).run ((Spec.handshakeReply c).take 16) >>= fun d => parseChallenge.run d)
      = .ok (if c = 0 then none else some c) := by
  have hl := intDec_length c hlo hhi
  -- header (5 bytes) and at most 11 digits fit; only the final NUL may be cut off
  obtain ⟨z, hz, ht⟩ := take_concat ([9] ++ Spec.sessionId ++ intDec c) 0 16
    (by rw [List.length_append]; exact Nat.add_le_add_left hl 5)
  unfold Spec.handshakeReply Spec.cstr
  rw [← List.append_assoc, ht, List.append_assoc, show ([9] : Bytes) = [UInt8.ofNat 9] from rfl,
    run_readHeader 9 (by decide), Res.bind_ok]
  exact parseChallenge_text c hlo hhi z hz

theorem recv_data (s : Sock) (hudp : s.tcp = false) (size : Nat) (w : Net) (d : Bytes) (rest : List Delivery)
    (hq : w.conns.getD s.id [] = .data d :: rest) :
    recv s (some size) w = (.ok (d.take size),
      { w with conns := setAt w.conns s.id rest, log := w.log ++ [.recv s.id (some size) (some (d.take size).length)] }) := by
  unfold recv
  rw [hq]
  simp [hudp]

theorem receive_data (s : Sock) (hudp : s.tcp = false) (size : Option Nat) (kind : Nat) (w : Net) (d : Bytes)
    (rest : List Delivery) (hq : w.conns.getD s.id [] = .data d :: rest) :
    ∃ w', receive s size kind w = ((readHeader kind).run (d.take (size.getD PACKET_SIZE)), w')
      ∧ w'.conns.getD s.id [] = rest ∧ w'.faults = w.faults
      ∧ w'.log = w.log ++ [.recv s.id (some (size.getD PACKET_SIZE)) (some (d.take (size.getD PACKET_SIZE)).length)] := by
  refine ⟨{ w with conns := setAt w.conns s.id rest, log := w.log ++ [.recv s.id (some (size.getD PACKET_SIZE))
    (some (d.take (size.getD PACKET_SIZE)).length)] }, ?_, ?_, rfl, rfl⟩
  · unfold receive
    rw [Q.bind_apply, recv_data s hudp _ w d rest hq]
    rfl
  · show (setAt w.conns s.id rest).getD s.id [] = rest
    rw [getD_setAt, if_pos ⟨rfl, lt_of_getD_cons hq⟩]

theorem recvPackets_result (s : Sock) (hudp : s.tcp = false) :
    ∀ (ds : List Bytes) (fuel : Nat) (a : Acc) (w : Net), w.conns.getD s.id [] = ds.map .data → ds.length < fuel →
      (recvPackets s fuel a w).1 = feed a (ds.map decodeFrag) := by
  intro ds
  induction ds with
  | nil =>
    intro fuel a w hq hf
    obtain ⟨fuel, rfl⟩ := Nat.exists_eq_add_one_of_ne_zero (Nat.ne_zero_of_lt hf)
    · unfold recvPackets
      simp only [List.map_nil, feed]
      split
      · have : receive s none 0 w = (.err .packetReceive, { w with log := w.log ++ [.recv s.id (some PACKET_SIZE) none] }) := by
          unfold receive
          rw [Q.bind_apply]
          unfold recv
          simp only [List.map_nil] at hq
          rw [hq]
          simp [hudp]
        rw [Q.bind_apply, this]
      · rfl
  | cons d ds ih =>
    intro fuel a w hq hf
    obtain ⟨fuel, rfl⟩ := Nat.exists_eq_add_one_of_ne_zero (Nat.ne_zero_of_lt hf)
    · unfold recvPackets
      simp only [List.map_cons, feed]
      split
      · obtain ⟨w1, hrecv, hq1, _, _⟩ := receive_data s hudp none 0 w d (ds.map .data) (by simpa using hq)
        rw [Q.bind_apply, hrecv]
        simp only [Option.getD_none]
        unfold decodeFrag
        cases hh : (readHeader 0).run (d.take PACKET_SIZE) with
        | err k => rfl
        | crash => rfl
        | ok p =>
          simp only [Res.bind_ok, parse, Q.lift, Q.bind_apply]
          cases hf' : readFrag.run p with
          | err k => rfl
          | crash => rfl
          | ok f =>
            simp only [Res.bind_ok]
            cases hacc : accept a f with
            | err k => rfl
            | crash => rfl
            | ok a' =>
              simp only
              exact ih fuel a' w1 hq1 (Nat.lt_of_succ_lt_succ hf)
      · rfl

/-- the datagrams sent, in order (the payloads only: `Gd.sentOf` of `QSteps` also keeps the failed flags) -/
def sentOf (log : List Ev) : List Bytes :=
  log.filterMap fun e => match e with
    | .send _ _ d _ => some d
    | _ => none

theorem sentOf_append (l1 l2 : List Ev) : sentOf (l1 ++ l2) = sentOf l1 ++ sentOf l2 := by
  simp [sentOf, List.filterMap_append]

def Silent (q : Q α) : Prop := ∀ w, sentOf (q w).2.log = sentOf w.log

theorem Silent.bind {q : Q α} {f : α → Q β} (hq : Silent q) (hf : ∀ a, Silent (f a)) : Silent (q >>= f) := by
  intro w
  rw [Q.bind_apply]
  have h1 := hq w
  cases hqw : q w with
  | mk res w1 =>
    rw [hqw] at h1
    cases res with
    | ok a => simp only; rw [hf a w1, h1]
    | err k => exact h1
    | crash => exact h1

theorem Silent.lift (r : Res α) : Silent (Q.lift r) := fun _ => rfl
theorem Silent.pure (a : α) : Silent (pure a : Q α) := fun _ => rfl

theorem sentOf_recv (log : List Ev) (c : Nat) (size got : Option Nat) :
    sentOf (log ++ [.recv c size got]) = sentOf log := by
  simp [sentOf]

theorem silent_recv (s : Sock) (size : Option Nat) : Silent (recv s size) := by
  intro w
  obtain ⟨got, h⟩ := recv_log s size w
  rw [h]
  exact sentOf_recv _ _ _ _

theorem silent_receive (s : Sock) (size : Option Nat) (kind : Nat) : Silent (receive s size kind) := by
  unfold receive
  exact Silent.bind (silent_recv _ _) fun _ => Silent.lift _

theorem silent_recvPackets (s : Sock) : ∀ (fuel : Nat) (a : Acc), Silent (recvPackets s fuel a) := by
  intro fuel
  induction fuel with
  | zero => intro a w; rfl
  | succ fuel ih =>
    intro a
    unfold recvPackets
    split
    · exact Silent.bind (silent_receive _ _ _) fun _ => Silent.bind (Silent.lift _) fun _ =>
        Silent.bind (Silent.lift _) fun a' => ih a'
    · exact Silent.lift _

/-- `get_server_packets_impl` up to the data request, when the server answers the handshake with the decimal text of `c`
(any i32) and no send fails: what follows (`k`: the receive loop, or the one receive of single-packet mode) runs from a
state with the rest of the queue, no fault flags, and the two requests sent. -/
theorem impl_handshake_done (s : Sock) (hudp : s.tcp = false) (payload : Bytes) (w : Net) (c : Int)
    (hlo : -(2 ^ 31 : Int) ≤ c) (hhi : c < 2 ^ 31) (rest : List Delivery)
    (hq : w.conns.getD s.id [] = .data (Spec.handshakeReply c) :: rest) (hf : w.faults = []) {α : Type} (k : Q α) :
    ∃ w', (makeInitialHandshake s >>= fun ch => sendDataRequest s payload ch >>= fun _ => k) w = k w'
      ∧ w'.conns.getD s.id [] = rest ∧ w'.faults = []
      ∧ sentOf w'.log
          = sentOf w.log ++ [requestBytes 9 none none, requestBytes 0 (if c = 0 then none else some c) (some payload)] := by
  unfold makeInitialHandshake sendDataRequest
  rw [Q.bind_apply, Q.bind_apply, send_clean s _ w hf]
  simp only
  obtain ⟨w2, hrecv, hq2, hf2, hlog2⟩ := receive_data s hudp (some 16) 9
    { w with log := w.log ++ [.send s.id s.port (requestBytes 9 none none) false] } (Spec.handshakeReply c) rest hq
  rw [Q.bind_apply, hrecv]
  simp only [Option.getD_some]
  obtain ⟨d, hh, hdec⟩ := Res.bind_eq_ok (handshake_decoded c hlo hhi)
  simp only [hh, parse, Q.lift, hdec]
  rw [Q.bind_ok (send_clean s _ w2 (hf2.trans hf))]
  refine ⟨_, rfl, hq2, hf2.trans hf, ?_⟩
  simp only [hlog2, sentOf_append]
  simp [sentOf]

/-- One attempt (`get_server_packets_impl`) when the server answers the handshake with the decimal
text of `c` (any i32) and no send fails: whatever arrives afterwards (`ds`: any datagrams, then
silence), the client has sent exactly the handshake and then the data request carrying `c` — or no
challenge bytes for `0` — and the result is the receive loop's (`feed`) on `ds`. -/
theorem impl_after_handshake (s : Sock) (hudp : s.tcp = false) (payload : Bytes) (w : Net) (c : Int)
    (hlo : -(2 ^ 31 : Int) ≤ c) (hhi : c < 2 ^ 31) (ds : List Bytes)
    (hq : w.conns.getD s.id [] = .data (Spec.handshakeReply c) :: ds.map .data) (hf : w.faults = []) :
    (getServerPacketsImpl s payload false w).1 = feed Acc.init (ds.map decodeFrag)
    ∧ sentOf (getServerPacketsImpl s payload false w).2.log
        = sentOf w.log ++ [requestBytes 9 none none, requestBytes 0 (if c = 0 then none else some c) (some payload)] := by
  obtain ⟨w', he, hq', _, hs'⟩ := impl_handshake_done s hudp payload w c hlo hhi _ hq hf (recvAll s)
  unfold getServerPacketsImpl
  simp only [Bool.false_eq_true, ↓reduceIte]
  rw [he]
  refine ⟨recvPackets_result s hudp ds _ _ w' hq' ?_, (silent_recvPackets s _ _ w').trans hs'⟩
  rw [queued, hq', List.length_map]
  exact Nat.lt_succ_self _

end Gd.Gs3
