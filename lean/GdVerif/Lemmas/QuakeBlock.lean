import GdVerif.Lemmas.QBounds
import GdVerif.Lemmas.QuakeSafe
/-
  Blocking steps of the Quake query that can run into their timeout, and the silent server.
-/
namespace Gd.Quake
open Gd

theorem block_getDataImpl (s : Sock) (v : Version) : Block 0 1 (getDataImpl s v) :=
  Block.exchange1 s (request v) PACKET_SIZE (stripHeader v).run

theorem block_query (port : Nat) (v : Version) (retries : Nat) : Block retries (retries + 1) (query port v retries) := by
  unfold query getData getDataOn
  have h := Block.bind (Block.openSock false port) fun s => Block.retrySharp (block_getDataImpl s v) retries
  exact Block.bind_free (h.weaken (by omega) (by omega)) (fun d => Block.parse (parseBody v) d) (Nat.le_succ _)

theorem silent_getDataImpl (s : Sock) (v : Version) : SilentAttempt s 1 (getDataImpl s v) :=
  SilentAttempt.exchange1 s (request v) PACKET_SIZE (stripHeader v).run

theorem silent_query (port : Nat) (v : Version) (retries : Nat) (w : Net) (hf : w.faults = [])
    (hp : PendingSilent false (retries + 1) w.pending) :
    SilentOutcome w (query port v retries w) (retries + 1) (retries + 1) := by
  rw [query_eq]
  exact SilentRun.openSock (fun s _ => ((silent_getDataImpl s v).retry1 retries).bind_left _) port w hf hp

end Gd.Quake
