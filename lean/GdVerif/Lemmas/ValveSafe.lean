import GdVerif.Lemmas.SmallLogic
import GdVerif.Lemmas.VarInt
import GdVerif.Proto.Valve
/-
  Crash-freedom and wire-conformance of the whole Valve query model.
-/
namespace Gd

namespace Valve

theorem safe_packetFromBuffer : Safe packetFromBuffer := by
  unfold packetFromBuffer
  refine Safe.bind (safe_readUnsigned _ _) fun _ => Safe.bind safe_readU8 fun _ => Safe.bind safe_remainingBytes fun _ => Safe.pure _

theorem safe_readIf (c : Bool) {p : Par α} (hp : Safe p) : Safe (readIf c p) := by
  unfold readIf
  split
  · exact Safe.bind hp fun _ => Safe.pure _
  · exact Safe.pure _

theorem safe_splitPacketNew (engine : Engine) (protocol : Nat) : Safe (splitPacketNew engine protocol) := by
  unfold splitPacketNew
  refine Safe.bind (safe_readUnsigned _ _) fun _ => Safe.bind (safe_readUnsigned _ _) fun _ => ?_
  cases engine with
  | goldSrc f =>
    exact Safe.bind safe_readU8 fun _ => Safe.bind safe_remainingBytes fun _ => Safe.pure _
  | source ids =>
    refine Safe.bind safe_readU8 fun _ => Safe.bind safe_readU8 fun _ => Safe.bind ?_ fun _ =>
      Safe.bind (safe_readIf _ (Safe.bind (safe_readUnsigned _ _) fun _ => Safe.bind (safe_readUnsigned _ _) fun _ => Safe.pure _)) fun _ =>
      Safe.bind safe_remainingBytes fun _ => Safe.pure _
    split
    · exact Safe.pure _
    · exact safe_readUnsigned _ _

theorem safe_readBoolByte : Safe readBoolByte :=
  Safe.bind safe_readU8 fun _ => Safe.pure _

theorem safe_parseModData : Safe parseModData := by
  unfold parseModData
  refine Safe.bind safe_readCStr fun _ => Safe.bind safe_readCStr fun _ => Safe.bind (safe_moveCursor _) fun _ =>
    Safe.bind (safe_readUnsigned _ _) fun _ => Safe.bind (safe_readUnsigned _ _) fun _ =>
    Safe.bind safe_readBoolByte fun _ => Safe.bind safe_readBoolByte fun _ => Safe.pure _

theorem goldServerType_ne (n : Nat) : goldServerType n ≠ .crash := by
  unfold goldServerType; split <;> simp
theorem goldEnvironment_ne (n : Nat) : goldEnvironment n ≠ .crash := by
  unfold goldEnvironment; split <;> simp
theorem serverFromGldsrc_ne (n : Nat) : serverFromGldsrc n ≠ .crash := by
  unfold serverFromGldsrc; split <;> simp
theorem environmentFromGldsrc_ne (n : Nat) : environmentFromGldsrc n ≠ .crash := by
  unfold environmentFromGldsrc; split <;> simp

theorem safe_parseGoldSrcInfo : Safe parseGoldSrcInfo := by
  unfold parseGoldSrcInfo
  refine Safe.bind safe_readU8 fun _ => Safe.bind safe_readCStr fun _ => Safe.bind safe_readCStr fun _ =>
    Safe.bind safe_readCStr fun _ => Safe.bind safe_readCStr fun _ => Safe.bind safe_readCStr fun _ =>
    Safe.bind safe_readU8 fun _ => Safe.bind safe_readU8 fun _ => Safe.bind safe_readU8 fun _ =>
    Safe.bind safe_readU8 fun _ => Safe.bind (Safe.lift_ne _ (goldServerType_ne _)) fun _ =>
    Safe.bind safe_readU8 fun _ => Safe.bind (Safe.lift_ne _ (goldEnvironment_ne _)) fun _ =>
    Safe.bind safe_readBoolByte fun _ => Safe.bind safe_readBoolByte fun _ =>
    Safe.bind (safe_readIf _ safe_parseModData) fun _ => Safe.bind safe_readBoolByte fun _ =>
    Safe.bind safe_readU8 fun _ => Safe.pure _

theorem safe_parseExtra (appid : Nat) : Safe (parseExtra appid) := by
  intro b
  unfold parseExtra
  have h1 := safe_readU8 b
  cases hr : readU8 b with
  | err k => simp [Post]
  | crash => rw [hr] at h1; exact h1.elim
  | ok x =>
    obtain ⟨value, b1⟩ := x
    rw [hr] at h1
    exact Post.of_data h1 ((
      Safe.bind (safe_readIf _ (safe_readUnsigned _ _)) fun _ => Safe.bind (safe_readIf _ (safe_readUnsigned _ _)) fun _ =>
      Safe.bind (safe_readIf _ (safe_readUnsigned _ _)) fun _ => Safe.bind (safe_readIf _ safe_readCStr) fun _ =>
      Safe.bind (safe_readIf _ safe_readCStr) fun _ => Safe.bind (safe_readIf _ (safe_readUnsigned _ _)) fun _ =>
      Safe.pure _) b1)

theorem safe_parseSourceInfo (engine : Engine) : Safe (parseSourceInfo engine) := by
  unfold parseSourceInfo
  refine Safe.bind safe_readU8 fun _ => Safe.bind safe_readCStr fun _ => Safe.bind safe_readCStr fun _ =>
    Safe.bind safe_readCStr fun _ => Safe.bind safe_readCStr fun _ => Safe.bind (safe_readUnsigned _ _) fun _ =>
    Safe.bind safe_readU8 fun _ => Safe.bind safe_readU8 fun _ => Safe.bind safe_readU8 fun _ =>
    Safe.bind safe_readU8 fun _ => Safe.bind (Safe.lift_ne _ (serverFromGldsrc_ne _)) fun _ =>
    Safe.bind safe_readU8 fun _ => Safe.bind (Safe.lift_ne _ (environmentFromGldsrc_ne _)) fun _ =>
    Safe.bind safe_readBoolByte fun _ => Safe.bind safe_readBoolByte fun _ =>
    Safe.bind (safe_readIf _ (Safe.bind safe_readU8 fun _ => Safe.bind safe_readU8 fun _ => Safe.bind safe_readU8 fun _ => Safe.pure _)) fun _ =>
    Safe.bind safe_readCStr fun _ => Safe.bind (safe_parseExtra _) fun x => ?_
  obtain ⟨e, a⟩ := x
  exact Safe.pure _

theorem safe_parseInfo (engine : Engine) : Safe (parseInfo engine) := by
  unfold parseInfo
  split
  · exact safe_parseGoldSrcInfo
  · exact safe_parseSourceInfo engine

theorem safe_parsePlayer (engine : Engine) : Safe (parsePlayer engine) := by
  unfold parsePlayer
  exact Safe.bind (safe_moveCursor _) fun _ => Safe.bind safe_readCStr fun _ => Safe.bind (safe_readSigned _ _) fun _ =>
    Safe.bind (safe_readUnsigned _ _) fun _ => Safe.bind (safe_readIf _ (safe_readUnsigned _ _)) fun _ =>
    Safe.bind (safe_readIf _ (safe_readUnsigned _ _)) fun _ => Safe.pure _

theorem safe_parsePlayers (engine : Engine) : Safe (parsePlayers engine) := by
  unfold parsePlayers
  exact Safe.bind safe_readU8 fun _ => safe_repeatN (safe_parsePlayer engine) _

theorem safe_parseRules (engine : Engine) : Safe (parseRules engine) := by
  unfold parseRules parseRule
  exact Safe.bind (safe_readUnsigned _ _) fun _ =>
    Safe.bind (safe_repeatN (Safe.bind safe_readCStr fun _ => Safe.bind safe_readCStr fun _ => Safe.pure _) _) fun _ => Safe.pure _

/-- what the Valve client may put on the wire / do with its socket -/
def Allowed (data : Bytes) : Prop :=
  ∃ (req : Request) (c : Bytes),
    data = packetBytes req.kind req.defaultPayload ∨
    data = packetBytes req.kind (if req.kind == 0x54 then infoPayload ++ c else c)

def EvOk (s : Sock) : Ev → Prop
  | .send c port data _ => c = s.id ∧ port = s.port ∧ Allowed data
  | .recv c size _ => c = s.id ∧ size = some PACKET_SIZE
  | .opened _ _ _ _ => False

theorem assemble_ne (ext : Ext) (l : List SplitPacket) : assemble ext l ≠ .crash := by
  unfold assemble
  split
  · simp
  · split
    · simp
    · split
      · unfold getPayload
        split
        · simp
        · split
          · simp
          · simp only; split <;> simp
      · simp

/-- everything `receive` does after its first `recv` -/
def afterFirst (ext : Ext) (s : Sock) (engine : Engine) (protocol : Nat) (data : Bytes) : Q Packet := do
  let header ← parse readU8 data
  if header == 0xFE then do
    let first ← parse (splitPacketNew engine protocol) data
    let rest ← recvChunks s engine protocol (first.total - 1)
    let payload ← Q.lift (assemble ext (sortChunks (first :: rest)))
    parse packetFromBuffer payload
  else parse packetFromBuffer data

theorem receive_eq (ext : Ext) (s : Sock) (engine : Engine) (protocol : Nat) :
    receive ext s engine protocol = (recv s (some PACKET_SIZE) >>= afterFirst ext s engine protocol) := rfl

/-! The request machinery for any request kind, payload and event predicate `P`: games that drive
`ValveProtocol::get_request_data` with their own kind (FFOW: 0x46, "LSQ") use it as well as the three A2S requests. -/

section
variable (ext : Ext) (s : Sock) (P : Ev → Prop) (hrecv : ∀ got, P (.recv s.id (some PACKET_SIZE) got))
include hrecv

theorem qsafe_recvP : QSafe s P (recv s (some PACKET_SIZE)) := QSafe.recv s _ _ hrecv

theorem qsafe_recvChunksP (engine : Engine) (protocol : Nat) (n : Nat) :
    QSafe s P (recvChunks s engine protocol n) := by
  induction n with
  | zero => exact QSafe.pure _ _ _
  | succ n ih =>
    unfold recvChunks
    exact QSafe.bind (qsafe_recvP s P hrecv) fun _ => QSafe.bind (QSafe.parse _ _ (safe_splitPacketNew _ _) _) fun _ =>
      QSafe.bind ih fun _ => QSafe.pure _ _ _

theorem qsafe_afterFirstP (engine : Engine) (protocol : Nat) (data : Bytes) :
    QSafe s P (afterFirst ext s engine protocol data) := by
  unfold afterFirst
  refine QSafe.bind (QSafe.parse _ _ safe_readU8 _) fun header => ?_
  split
  · exact QSafe.bind (QSafe.parse _ _ (safe_splitPacketNew _ _) _) fun _ =>
      QSafe.bind (qsafe_recvChunksP s P hrecv _ _ _) fun _ =>
      QSafe.bind (QSafe.lift _ _ _ (assemble_ne _ _)) fun _ => QSafe.parse _ _ safe_packetFromBuffer _
  · exact QSafe.parse _ _ safe_packetFromBuffer _

theorem qsafe_receiveP (engine : Engine) (protocol : Nat) : QSafe s P (receive ext s engine protocol) := by
  rw [receive_eq]
  exact QSafe.bind (qsafe_recvP s P hrecv) fun _ => qsafe_afterFirstP ext s P hrecv _ _ _

omit hrecv in
theorem receive_consumes (ext : Ext) (s : Sock) (hudp : s.tcp = false) (engine : Engine) (protocol : Nat)
    (w w' : Net) (p : Packet) (hopen : IsOpen s w) (h : receive ext s engine protocol w = (.ok p, w')) :
    qlen w' s.id < qlen w s.id := by
  rw [receive_eq] at h
  obtain ⟨d, w1, hr, ha⟩ := Q.bind_ok_inv h
  have h1 := recv_ok_consumes s hudp _ w w1 d hopen hr
  have hstep := (qsafe_recvP s (fun _ => True) (fun _ => trivial) w hopen).2
  rw [hr] at hstep
  have h2 := (qsafe_afterFirstP ext s (fun _ => True) (fun _ => trivial) engine protocol d w1 (hopen.step hstep)).2
  rw [ha] at h2
  have := h2.shrink s.id (hopen.step hstep)
  simp only at this h1
  omega

theorem qsafe_challengeLoopP (hudp : s.tcp = false) (engine : Engine) (protocol kind : Nat)
    (hsend : ∀ c failed, P (.send s.id s.port (packetBytes kind (if kind == 0x54 then infoPayload ++ c else c)) failed)) :
    ∀ (fuel : Nat) (packet : Packet) (w : Net), IsOpen s w → qlen w s.id < fuel →
      (challengeLoop ext s engine protocol kind fuel packet w).1 ≠ .crash
      ∧ Step P w (challengeLoop ext s engine protocol kind fuel packet w).2 := by
  intro fuel
  induction fuel with
  | zero => intro _ w _ h; omega
  | succ fuel ih =>
    intro packet w hopen hq
    unfold challengeLoop
    split
    · refine QSafe.bind_at (QSafe.send s P _ (hsend packet.payload) w hopen) fun _ w1 _ hs => ?_
      have hopen1 := hopen.step hs
      refine QSafe.bind_at (qsafe_receiveP ext s P hrecv engine protocol w1 hopen1) fun p2 w2 hr hr2 => ?_
      have hcons := receive_consumes ext s hudp engine protocol w1 w2 p2 hopen1 hr
      have hle := hs.shrink s.id hopen
      exact ih p2 w2 (hopen1.step hr2) (by omega)
    · exact ⟨by simp, Step.refl _ _⟩

/-- `get_request_data_impl` for any kind and payload -/
theorem qsafe_requestImplP (hudp : s.tcp = false) (engine : Engine) (protocol kind : Nat) (payload : Bytes)
    (hsend0 : ∀ failed, P (.send s.id s.port (packetBytes kind payload) failed))
    (hsend : ∀ c failed, P (.send s.id s.port (packetBytes kind (if kind == 0x54 then infoPayload ++ c else c)) failed)) :
    QSafe s P (requestImpl ext s engine protocol kind payload) := by
  unfold requestImpl
  refine QSafe.bind (QSafe.send s _ _ hsend0) fun _ => ?_
  refine QSafe.bind (qsafe_receiveP ext s P hrecv engine protocol) fun packet => ?_
  intro w hopen
  exact qsafe_challengeLoopP ext s P hrecv hudp engine protocol kind hsend (queued s w + 1) packet w hopen (by
    simp [queued, qlen])

end

theorem allowed_initial (req : Request) : Allowed (packetBytes req.kind req.defaultPayload) :=
  ⟨req, [], Or.inl rfl⟩

theorem allowed_challenge (req : Request) (c : Bytes) :
    Allowed (packetBytes req.kind (if req.kind == 0x54 then infoPayload ++ c else c)) :=
  ⟨req, c, Or.inr rfl⟩

theorem qsafe_recv (s : Sock) : QSafe s (EvOk s) (recv s (some PACKET_SIZE)) :=
  qsafe_recvP s _ fun _ => ⟨rfl, rfl⟩

theorem qsafe_receive (ext : Ext) (s : Sock) (engine : Engine) (protocol : Nat) :
    QSafe s (EvOk s) (receive ext s engine protocol) :=
  qsafe_receiveP ext s _ (fun _ => ⟨rfl, rfl⟩) engine protocol

theorem qsafe_requestImpl (ext : Ext) (s : Sock) (hudp : s.tcp = false) (engine : Engine) (protocol : Nat)
    (req : Request) : QSafe s (EvOk s) (requestImpl ext s engine protocol req.kind req.defaultPayload) :=
  qsafe_requestImplP ext s _ (fun _ => ⟨rfl, rfl⟩) hudp engine protocol req.kind req.defaultPayload
    (fun _ => ⟨rfl, rfl, allowed_initial req⟩) (fun c _ => ⟨rfl, rfl, allowed_challenge req c⟩)

theorem qsafe_requestData (ext : Ext) (s : Sock) (hudp : s.tcp = false) (r : Nat) (engine : Engine) (protocol : Nat)
    (req : Request) : QSafe s (EvOk s) (requestData ext s r engine protocol req) :=
  QSafe.retry (qsafe_requestImpl ext s hudp engine protocol req) r

/-- the body of `query` after the socket has been opened -/
def queryBody (ext : Ext) (s : Sock) (engine : Engine) (g : Gather) (retries : Nat) : Q Response := do
  let info ← getServerInfo ext s retries engine
  if !appIdOk engine g info.appid then Q.fail .badGame
  else do
    let protocol := info.protocolVersion
    let players ← maybeGather g.players (getServerPlayers ext s retries engine protocol)
    let rules ← maybeGather g.rules (getServerRules ext s retries engine protocol)
    pure ⟨info, players, rules⟩

theorem query_eq (ext : Ext) (port : Nat) (engine : Engine) (g : Gather) (retries : Nat) :
    query ext port engine g retries = (openSock false port >>= fun s => queryBody ext s engine g retries) := rfl

theorem qsafe_queryBody (ext : Ext) (s : Sock) (hudp : s.tcp = false) (engine : Engine) (g : Gather) (r : Nat) :
    QSafe s (EvOk s) (queryBody ext s engine g r) := by
  unfold queryBody getServerInfo getServerPlayers getServerRules
  refine QSafe.bind (QSafe.bind (qsafe_requestData ext s hudp r engine 0 .info) fun _ =>
    QSafe.parse _ _ (safe_parseInfo engine) _) fun info => ?_
  split
  · exact QSafe.fail _ _ _
  · exact QSafe.bind (QSafe.maybeGather (QSafe.bind (qsafe_requestData ext s hudp r engine _ .players) fun _ =>
        QSafe.parse _ _ (safe_parsePlayers engine) _) _) fun _ =>
      QSafe.bind (QSafe.maybeGather (QSafe.bind (qsafe_requestData ext s hudp r engine _ .rules) fun _ =>
        QSafe.parse _ _ (safe_parseRules engine) _) _) fun _ => QSafe.pure _ _ _

/-- what the whole query may log: one socket opened (UDP, to the given port), then `EvOk` events -/
def QueryEvOk (port : Nat) (id : Nat) : Ev → Prop
  | .opened c tcp p _ => c = id ∧ tcp = false ∧ p = port
  | e => EvOk ⟨id, port, false⟩ e

theorem query_safe (ext : Ext) (port : Nat) (engine : Engine) (g : Gather) (r : Nat) (w : Net) :
    (query ext port engine g r w).1 ≠ .crash
    ∧ ∃ added, (query ext port engine g r w).2.log = w.log ++ added
        ∧ ∀ e ∈ added, QueryEvOk port w.conns.length e := by
  rw [query_eq]
  refine openThen_safe false port (QueryEvOk port) (fun _ _ => ⟨rfl, rfl, rfl⟩) (fun s hp ht => ?_) w
  refine (qsafe_queryBody ext s ht engine g r).mono fun e he => ?_
  obtain ⟨id, p, tcp⟩ := s
  subst hp ht
  cases e with
  | opened => exact he.elim
  | send => exact he
  | recv => exact he

end Valve
end Gd
