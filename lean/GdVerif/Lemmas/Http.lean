import GdVerif.Proto.Http
import GdVerif.Lemmas.Text
/-
  Lemmas about the HTTP client model.  The `url` crate part: what `parseUrl` makes of `//<host>:<port>` when the host text
  contains none of the characters the parser gives a meaning to (a plain name, a dotted quad), and what `setPath` makes of a
  path of plain segments; that neither the parsers nor `new` can reach the crash branch.  The client: what a built client
  carries (`new_ok`), the case principle for the wire that follows the branches of `call` (`Wire.byCall`), the head `ureq`
  writes for a request without headers of its own.
-/
namespace Gd.Http
open Gd

/-- a byte of a host name that every stage of the URL parser passes through: ASCII and not on the deny list of domains
(which holds the controls incl. tab / newline, space, `%`, `#`, `/`, `:`, `<`, `>`, `?`, `@`, `[`, `\`, `]`, `^`, `|`) -/
def hostChar (b : UInt8) : Bool := b.toNat < 0x80 && !deniedAscii b

theorem hostChar_iff (b : UInt8) : hostChar b = true ↔ b.toNat < 0x80 ∧ deniedAscii b = false := by simp [hostChar]

/-- what the stages of the URL parser ask of a byte of the host, grouped by stage: the authority scanner (`HostText.chars`), the
host scan (`hostSpan_to_colon`), the percent-decoder -/
theorem hostChar_props : ∀ b : UInt8, hostChar b = true →
    (isTabOrNewline b = false ∧ isAuthorityEnd b = false ∧ b ≠ 64) ∧ (b ≠ 58 ∧ b ≠ 91 ∧ b ≠ 93) ∧ b ≠ 37 :=
  forall_uint8 (by decide +kernel)

theorem isDigit_hostChar : ∀ b : UInt8, isDigit b = true → hostChar b = true :=
  forall_uint8 (by decide +kernel)

theorem isDigit_asciiLower : ∀ b : UInt8, isDigit b = true → asciiLower [b] = [b] :=
  forall_uint8 (by decide +kernel)

theorem splitAt_none {p : UInt8 → Bool} : ∀ {s : Bytes}, (∀ b ∈ s, p b = false) → splitAt p s = (s, [])
  | [], _ => rfl
  | b :: r, h => by
    have hb : p b = false := h b (List.mem_cons_self ..)
    simp only [splitAt, hb, Bool.false_eq_true, if_false]
    rw [splitAt_none (fun x hx => h x (List.mem_cons_of_mem _ hx))]

theorem splitAt_append {p : UInt8 → Bool} (d : UInt8) (hd : p d = true) (rest : Bytes) :
    ∀ {s : Bytes}, (∀ b ∈ s, p b = false) → splitAt p (s ++ d :: rest) = (s, d :: rest)
  | [], _ => by simp [splitAt, hd]
  | b :: r, h => by
    have hb : p b = false := h b (List.mem_cons_self ..)
    simp only [List.cons_append, splitAt, hb, Bool.false_eq_true, if_false]
    rw [splitAt_append d hd rest (fun x hx => h x (List.mem_cons_of_mem _ hx))]

theorem lastAt_none : ∀ {s : Bytes}, (∀ b ∈ s, b ≠ 64) → lastAt s = none
  | [], _ => rfl
  | b :: r, h => by
    have hb : b ≠ 64 := h b (List.mem_cons_self ..)
    simp only [lastAt, lastAt_none (fun x hx => h x (List.mem_cons_of_mem _ hx))]
    simp [hb]

theorem hostSpan_to_colon (rest : Bytes) :
    ∀ {s : Bytes}, (∀ b ∈ s, b ≠ 58 ∧ b ≠ 91 ∧ b ≠ 93) → hostSpan (s ++ 58 :: rest) false = (s, 58 :: rest)
  | [], _ => by simp [hostSpan]
  | b :: r, h => by
    obtain ⟨h58, h91, h93⟩ := h b (List.mem_cons_self ..)
    have ih := hostSpan_to_colon rest (s := r) (fun x hx => h x (List.mem_cons_of_mem _ hx))
    simp only [List.cons_append, hostSpan]
    have e1 : (b == 58) = false := by simp [h58]
    have e2 : (b == 91) = false := by simp [h91]
    have e3 : (b == 93) = false := by simp [h93]
    simp only [e1, e2, e3, Bool.false_and, Bool.false_eq_true, if_false, ih]

theorem pctDecode_cons_ne {b : UInt8} (hb : b ≠ 37) (r : Bytes) : pctDecode (b :: r) = b :: pctDecode r := by
  rw [pctDecode.eq_def]
  split
  · rename_i heq; cases heq
  · rename_i heq
    simp only [List.cons.injEq] at heq
    exact absurd heq.1 hb
  · rename_i heq
    simp only [List.cons.injEq] at heq
    obtain ⟨rfl, rfl⟩ := heq
    rfl

theorem pctDecode_id : ∀ {s : Bytes}, (∀ b ∈ s, b ≠ 37) → pctDecode s = s
  | [], _ => by simp [pctDecode]
  | b :: r, h => by
    rw [pctDecode_cons_ne (h b (List.mem_cons_self ..)), pctDecode_id (fun x hx => h x (List.mem_cons_of_mem _ hx))]

structure PlainName (name : Bytes) : Prop where
  nonempty : name ≠ []
  chars : ∀ b ∈ name, hostChar b = true
  noPunycode : (splitOn 46 name).any isPunycodeLabel = false
  notNumber : endsInANumber (asciiLower name) = false

theorem parsePort_natDec (dflt port : Nat) (hp : port < 65536) :
    parsePort dflt (natDec port) = some (if port = dflt then none else some port, []) := by
  have hd := natDec_spec port
  have hdig : ∀ b ∈ natDec port, (fun b => !isDigit b) b = false := by
    intro b hb
    have := List.all_eq_true.mp hd.1 b hb
    simp [this]
  simp only [parsePort, splitAt_none hdig, hd.2.2]
  have : ¬ port > 65535 := by omega
  simp only [this, if_false]
  simp only [natDec_isEmpty, Bool.false_or, beq_iff_eq]

theorem parsePath_nil (q : Bool) : parsePath q [] = ([47], []) := by
  simp [parsePath, pathLoop, pctEncode, isDoubleDot, isSingleDot]

theorem asciiLower_ne_nil {s : Bytes} (h : s ≠ []) : asciiLower s ≠ [] := by
  cases s with
  | nil => exact absurd rfl h
  | cons b r => simp [asciiLower]

/-- `Host::parse` on a text of `hostChar`s without a Punycode label: no bracket, nothing to percent-decode, nothing denied; the
text in lower case is an IPv4 address when it ends in a number and a domain otherwise -/
theorem parseHost_hostChars (idna : Bytes → Option Bytes) {name : Bytes} (hne : name ≠ []) (hc : ∀ b ∈ name, hostChar b = true)
    (hp : (splitOn 46 name).any isPunycodeLabel = false) :
    parseHost idna name = if endsInANumber (asciiLower name) then (parseIpv4 (asciiLower name)).bind fun n => .ok (.ipv4 n)
      else .ok (.domain (asciiLower name)) := by
  obtain ⟨b0, r0, rfl⟩ : ∃ b r, name = b :: r := by
    cases name with
    | nil => exact absurd rfl hne
    | cons b r => exact ⟨b, r, rfl⟩
  obtain ⟨_, ⟨_, h91, _⟩, _⟩ := hostChar_props b0 (hc b0 (List.mem_cons_self ..))
  have hdec : pctDecode (b0 :: r0) = b0 :: r0 := pctDecode_id (fun b hb => (hostChar_props b (hc b hb)).2.2)
  have hplain : plainAscii (b0 :: r0) = true := by
    simp only [plainAscii, Bool.and_eq_true, List.all_eq_true, decide_eq_true_eq, hp, Bool.not_false, and_true]
    intro b hb
    exact ((hostChar_iff b).mp (hc b hb)).1
  have hden : (b0 :: r0).any deniedAscii = false := by
    apply Bool.eq_false_iff.mpr
    intro hany
    obtain ⟨b, hb, hd⟩ := List.any_eq_true.mp hany
    rw [((hostChar_iff b).mp (hc b hb)).2] at hd
    exact Bool.false_ne_true hd
  have hlow : (asciiLower (b0 :: r0)).isEmpty = false := by simp [asciiLower]
  unfold parseHost
  split
  · rename_i heq
    simp only [List.cons.injEq] at heq
    exact absurd heq.1 h91
  · simp only [hdec, domainToAscii, hplain, hden, if_true, Bool.false_eq_true, if_false, hlow]

theorem parseHost_plain (idna : Bytes → Option Bytes) {name : Bytes} (h : PlainName name) :
    parseHost idna name = .ok (.domain (asciiLower name)) := by
  rw [parseHost_hostChars idna h.nonempty h.chars h.noPunycode, h.notNumber]
  rfl

/-- a host text the authority scanner takes as a whole: no tab / newline, no `/ ? # \`, no `@`, and the host scan runs
to the colon behind it -/
structure HostText (name : Bytes) : Prop where
  nonempty : name ≠ []
  chars : ∀ b ∈ name, isTabOrNewline b = false ∧ isAuthorityEnd b = false ∧ b ≠ 64
  span : ∀ rest, hostSpan (name ++ 58 :: rest) false = (name, 58 :: rest)

theorem hostChars_hostText {name : Bytes} (hne : name ≠ []) (hc : ∀ b ∈ name, hostChar b = true) : HostText name where
  nonempty := hne
  chars := fun b hb => (hostChar_props b (hc b hb)).1
  span := fun rest => hostSpan_to_colon rest (fun b hb => (hostChar_props b (hc b hb)).2.1)

theorem PlainName.hostText {name : Bytes} (h : PlainName name) : HostText name := hostChars_hostText h.nonempty h.chars

/-- what `Url::parse` makes of `//<host text>:<port>`: whatever the host parser makes of the text, the port unless it is
the scheme's default, the root path, nothing else -/
theorem parseUrl_hostText (idna : Bytes → Option Bytes) (proto : Protocol) {name : Bytes} (h : HostText name) (port : Nat)
    (hp : port < 65536) :
    parseUrl idna proto (asciiBytes "//" ++ name ++ [58] ++ natDec port)
      = match parseHost idna name with
        | .ok host => .ok ⟨proto, [], none, host, if port = proto.defaultPort then none else some port, [47], none, none⟩
        | .err k => .err k
        | .crash => .crash := by
  have hall : ∀ b ∈ name ++ 58 :: natDec port, isTabOrNewline b = false ∧ isAuthorityEnd b = false ∧ b ≠ 64 := by
    intro b hb
    simp only [List.mem_append, List.mem_cons] at hb
    rcases hb with hb | hb | hb
    · exact h.chars b hb
    · subst hb; decide
    · exact (hostChar_props b (isDigit_hostChar b (List.all_eq_true.mp (natDec_spec port).1 b hb))).1
  have hfilter : (asciiBytes "//" ++ name ++ [58] ++ natDec port).filter (fun b => !isTabOrNewline b)
      = 47 :: 47 :: (name ++ 58 :: natDec port) := by
    have : asciiBytes "//" ++ name ++ [58] ++ natDec port = 47 :: 47 :: (name ++ 58 :: natDec port) := by simp [asciiBytes]
    rw [this, List.filter_cons_of_pos (by decide), List.filter_cons_of_pos (by decide),
      List.filter_eq_self.mpr (fun b hb => by simp [(hall b hb).1])]
  obtain ⟨b0, r0, hname⟩ : ∃ b r, name = b :: r := by
    cases hn : name with
    | nil => exact absurd hn h.nonempty
    | cons b r => exact ⟨b, r, rfl⟩
  have hb0 := (h.chars b0 (by rw [hname]; exact List.mem_cons_self ..)).2.1
  have hdrop : (47 :: 47 :: (name ++ 58 :: natDec port)).dropWhile (fun b => b == 47 || b == 92) = name ++ 58 :: natDec port := by
    rw [hname]
    simp only [isAuthorityEnd, Bool.or_eq_false_iff] at hb0
    have e1 : (b0 == 47) = false := hb0.1.1.1
    have e2 : (b0 == 92) = false := hb0.2
    simp [List.dropWhile, e1, e2]
  have hauth : splitAt isAuthorityEnd (name ++ 58 :: natDec port) = (name ++ 58 :: natDec port, []) :=
    splitAt_none (fun b hb => (hall b hb).2.1)
  have hat : lastAt (name ++ 58 :: natDec port) = none := lastAt_none (fun b hb => (hall b hb).2.2)
  have hempty : name.isEmpty = false := by rw [hname]; rfl
  simp only [parseUrl, hfilter, hdrop, hauth, hat, h.span, hempty, Bool.false_eq_true, if_false]
  cases parseHost idna name with
  | err k => rfl
  | crash => rfl
  | ok host => simp only [List.append_nil, parsePort_natDec _ port hp, parsePath_nil]

theorem parseUrl_plain (idna : Bytes → Option Bytes) (proto : Protocol) {name : Bytes} (h : PlainName name) (port : Nat)
    (hp : port < 65536) :
    parseUrl idna proto (asciiBytes "//" ++ name ++ [58] ++ natDec port)
      = .ok ⟨proto, [], none, .domain (asciiLower name), if port = proto.defaultPort then none else some port, [47], none, none⟩ := by
  rw [parseUrl_hostText idna proto h.hostText port hp, parseHost_plain idna h]

/-- the decimal text of a byte is read back as that number (a fact about the 256 bytes, which is all `showIpv4` prints) -/
theorem parseIpv4Number_natDec : ∀ n, n < 256 → parseIpv4Number (natDec n) = some (some n) := by decide +kernel

theorem dot_not_mem_natDec (n : Nat) : (46 : UInt8) ∉ natDec n := by
  intro h
  have := List.all_eq_true.mp (natDec_spec n).1 _ h
  revert this; decide

theorem showIpv4_eq (a b c d : UInt8) :
    showIpv4 a b c d = natDec a.toNat ++ 46 :: (natDec b.toNat ++ 46 :: (natDec c.toNat ++ 46 :: natDec d.toNat)) := by
  simp [showIpv4, List.append_assoc]

theorem splitOn_showIpv4 (a b c d : UInt8) :
    splitOn 46 (showIpv4 a b c d) = [natDec a.toNat, natDec b.toNat, natDec c.toNat, natDec d.toNat] := by
  rw [showIpv4_eq, splitOn_append_delim _ _ _ (dot_not_mem_natDec _), splitOn_append_delim _ _ _ (dot_not_mem_natDec _),
    splitOn_append_delim _ _ _ (dot_not_mem_natDec _), splitOn_not_mem _ _ (dot_not_mem_natDec _)]

theorem showIpv4_chars (a b c d : UInt8) : ∀ x ∈ showIpv4 a b c d, isDigit x = true ∨ x = 46 := by
  intro x hx
  rw [showIpv4_eq] at hx
  simp only [List.mem_append, List.mem_cons] at hx
  have dg : ∀ n, x ∈ natDec n → isDigit x = true := fun n h => List.all_eq_true.mp (natDec_spec n).1 _ h
  rcases hx with h | h | h | h | h | h | h
  · exact .inl (dg _ h)
  · exact .inr h
  · exact .inl (dg _ h)
  · exact .inr h
  · exact .inl (dg _ h)
  · exact .inr h
  · exact .inl (dg _ h)

theorem showIpv4_hostChar (a b c d : UInt8) : ∀ x ∈ showIpv4 a b c d, hostChar x = true := by
  intro x hx
  rcases showIpv4_chars a b c d x hx with h | h
  · exact isDigit_hostChar x h
  · subst h; decide

/-- the URL parser reads the dotted quad `Display for Ipv4Addr` prints back as the same address -/
theorem parseIpv4_showIpv4 (a b c d : UInt8) :
    parseIpv4 (showIpv4 a b c d) = .ok (a.toNat * 2 ^ 24 + b.toNat * 2 ^ 16 + c.toNat * 2 ^ 8 + d.toNat) := by
  have ha := a.toNat_lt
  have hb := b.toNat_lt
  have hc := c.toNat_lt
  have hd := d.toNat_lt
  have hne : natDec d.toNat ≠ [] := (natDec_spec _).2.1
  simp only [parseIpv4, splitOn_showIpv4]
  have hlast : ([natDec a.toNat, natDec b.toNat, natDec c.toNat, natDec d.toNat].getLast? == some []) = false := by
    simp [hne]
  simp only [hlast, Bool.false_eq_true, if_false]
  have hm : List.mapM (fun p => (parseIpv4Number p).bind id) [natDec a.toNat, natDec b.toNat, natDec c.toNat, natDec d.toNat]
      = some [a.toNat, b.toNat, c.toNat, d.toNat] := by
    simp [List.mapM_cons, parseIpv4Number_natDec _ ha, parseIpv4Number_natDec _ hb, parseIpv4Number_natDec _ hc, parseIpv4Number_natDec _ hd]
  rw [hm]
  simp [List.range, List.range.loop]
  have h1 : ¬ 256 ≤ d.toNat := by omega
  have h2 : ¬ (255 < a.toNat ∨ 255 < b.toNat ∨ 255 < c.toNat) := by omega
  simp only [h1, h2, if_false]
  congr 1
  omega

theorem isPunycodeLabel_digit : ∀ b : UInt8, isDigit b = true → ∀ x y z : UInt8,
    (asciiLower [b, x, y, z] == asciiBytes "xn--") = false ∧ (asciiLower [b, x, y] == asciiBytes "xn--") = false
    ∧ (asciiLower [b, x] == asciiBytes "xn--") = false ∧ (asciiLower [b] == asciiBytes "xn--") = false := by
  intro b hb x y z
  have h120 : (if inRange b 65 90 = true then b + 32 else b) ≠ 120 := by
    revert hb
    revert b
    exact forall_uint8 (by decide +kernel)
  refine ⟨?_, ?_, ?_, ?_⟩ <;> simp [asciiLower, asciiBytes, h120]

theorem isPunycodeLabel_natDec (n : Nat) : isPunycodeLabel (natDec n) = false := by
  obtain ⟨b, r, hn, hb⟩ := natDec_head n
  have h := isPunycodeLabel_digit b hb
  rw [hn, isPunycodeLabel]
  match r with
  | [] => exact (h 0 0 0).2.2.2
  | [x] => exact (h x 0 0).2.2.1
  | [x, y] => exact (h x y 0).2.1
  | x :: y :: z :: _ => exact (h x y z).1

theorem asciiLower_digits_dots : ∀ {s : Bytes}, (∀ x ∈ s, isDigit x = true ∨ x = 46) → asciiLower s = s
  | [], _ => rfl
  | b :: r, h => by
    have ih := asciiLower_digits_dots (s := r) (fun x hx => h x (List.mem_cons_of_mem _ hx))
    have hb : asciiLower [b] = [b] := by
      rcases h b (List.mem_cons_self ..) with hd | hd
      · exact isDigit_asciiLower b hd
      · subst hd; decide
    simp only [asciiLower, List.map_cons, List.map_nil, List.cons.injEq, and_true] at hb ih ⊢
    exact ⟨hb, ih⟩

theorem showIpv4_ne_nil (a b c d : UInt8) : showIpv4 a b c d ≠ [] := by
  obtain ⟨b0, r0, hn, _⟩ := natDec_head a.toNat
  rw [showIpv4_eq, hn]
  exact List.cons_ne_nil _ _

/-- `Host::parse` of the text `Display for Ipv4Addr` prints: that address -/
theorem parseHost_showIpv4 (idna : Bytes → Option Bytes) (a b c d : UInt8) :
    parseHost idna (showIpv4 a b c d) = .ok (.ipv4 (a.toNat * 2 ^ 24 + b.toNat * 2 ^ 16 + c.toNat * 2 ^ 8 + d.toNat)) := by
  have hpuny : (splitOn 46 (showIpv4 a b c d)).any isPunycodeLabel = false := by
    simp only [splitOn_showIpv4, List.any_cons, isPunycodeLabel_natDec, List.any_nil, Bool.or_false]
  have hnum : endsInANumber (showIpv4 a b c d) = true := by
    simp [endsInANumber, lastLabel, splitOn_showIpv4, natDec_isEmpty, (natDec_spec d.toNat).1]
  rw [parseHost_hostChars idna (showIpv4_ne_nil a b c d) (showIpv4_hostChar a b c d) hpuny,
    asciiLower_digits_dots (showIpv4_chars a b c d), hnum, parseIpv4_showIpv4]
  rfl

theorem showIpv4_hostText (a b c d : UInt8) : HostText (showIpv4 a b c d) :=
  hostChars_hostText (showIpv4_ne_nil a b c d) (showIpv4_hostChar a b c d)

/-- `Display for Host` prints an IPv4 host the way `Display for Ipv4Addr` prints the address -/
theorem hostText_ipv4 (a b c d : UInt8) :
    (Host.ipv4 (a.toNat * 2 ^ 24 + b.toNat * 2 ^ 16 + c.toNat * 2 ^ 8 + d.toNat)).text = showIpv4 a b c d := by
  have ha := a.toNat_lt
  have hb := b.toNat_lt
  have hc := c.toNat_lt
  have hd := d.toNat_lt
  generalize hn : a.toNat * 2 ^ 24 + b.toNat * 2 ^ 16 + c.toNat * 2 ^ 8 + d.toNat = n
  have e : n / 2 ^ 24 = a.toNat ∧ n / 2 ^ 16 % 256 = b.toNat ∧ n / 256 % 256 = c.toNat ∧ n % 256 = d.toNat := by omega
  simp only [Host.text, e, showIpv4]

/-- a byte of a path segment the path parser leaves alone: ASCII, outside the PATH escape set (controls incl. tab /
newline, space, `"`, `#`, `<`, `>`, `?`, backtick, `{`, `}`), not a separator -/
def pathChar (b : UInt8) : Bool := b.toNat < 0x80 && !setPath b && b != 47 && b != 92

theorem pathChar_props : ∀ b : UInt8, pathChar b = true →
    isTabOrNewline b = false ∧ (b == 47 || b == 92) = false ∧ (if b.toNat ≥ 0x80 || setPath b then pctByte b else [b]) = [b] :=
  forall_uint8 (by decide +kernel)

/-- a segment `set_path` keeps as it is: plain characters, and not a dot segment (`.`, `..`, or a spelling with `%2e`) -/
structure PlainSegment (seg : Bytes) : Prop where
  chars : ∀ b ∈ seg, pathChar b = true
  notDoubleDot : isDoubleDot seg = false
  notSingleDot : isSingleDot seg = false

theorem pctEncode_plain : ∀ {s : Bytes}, (∀ b ∈ s, pathChar b = true) → pctEncode setPath s = s
  | [], _ => rfl
  | b :: r, h => by
    have hb := (pathChar_props b (h b (List.mem_cons_self ..))).2.2
    have ih := pctEncode_plain (s := r) (fun x hx => h x (List.mem_cons_of_mem _ hx))
    simp only [pctEncode, List.flatMap_cons] at ih ⊢
    rw [hb, ih]; rfl

theorem pathLoop_segment (rest : Bytes) (done : List Bytes) :
    ∀ (seg cur : Bytes), (∀ b ∈ seg, pathChar b = true) →
      pathLoop false (seg ++ rest) done cur = pathLoop false rest done (cur ++ seg)
  | [], cur, _ => by simp
  | b :: r, cur, h => by
    have hb := (pathChar_props b (h b (List.mem_cons_self ..))).2.1
    have ih := pathLoop_segment rest done r (cur ++ [b]) (fun x hx => h x (List.mem_cons_of_mem _ hx))
    simp only [List.cons_append, pathLoop, hb, Bool.false_eq_true, if_false, Bool.false_and]
    rw [ih]; simp

theorem pathLoop_slash (rest : Bytes) (done : List Bytes) {cur : Bytes} (h : PlainSegment cur) :
    pathLoop false (47 :: rest) done cur = pathLoop false rest (done ++ [cur]) [] := by
  simp [pathLoop, pctEncode_plain h.chars, h.notDoubleDot, h.notSingleDot]

theorem pathLoop_end (done : List Bytes) {cur : Bytes} (h : PlainSegment cur) :
    pathLoop false [] done cur = ((done.flatMap fun s => s ++ [47]) ++ cur, []) := by
  simp [pathLoop, pctEncode_plain h.chars, h.notDoubleDot, h.notSingleDot]

theorem plainSegment_nil : PlainSegment [] where
  chars := fun _ h => nomatch h
  notDoubleDot := by decide +kernel
  notSingleDot := by decide +kernel

theorem pathLoop_plain : ∀ (segs : List Bytes) (done : List Bytes), (∀ s ∈ segs, PlainSegment s) →
    pathLoop false (joinWith [47] segs) done [] = ((done.flatMap fun s => s ++ [47]) ++ joinWith [47] segs, [])
  | [], done, _ => by simpa [joinWith] using pathLoop_end done plainSegment_nil
  | [s], done, h => by
    have hs := h s (List.mem_cons_self ..)
    have := pathLoop_segment [] done s [] hs.chars
    simp only [List.append_nil, List.nil_append] at this
    rw [joinWith, this, pathLoop_end done hs]
  | s :: t :: u, done, h => by
    have hs := h s (List.mem_cons_self ..)
    have ih := pathLoop_plain (t :: u) (done ++ [s]) (fun x hx => h x (List.mem_cons_of_mem _ hx))
    have e : joinWith [47] (s :: t :: u) = s ++ 47 :: joinWith [47] (t :: u) := by simp [joinWith]
    rw [e, pathLoop_segment _ done s [] hs.chars, List.nil_append, pathLoop_slash _ done hs, ih]
    simp [List.flatMap_append]

theorem joinWith_plain_chars {segs : List Bytes} (h : ∀ s ∈ segs, PlainSegment s) :
    ∀ b ∈ joinWith [47] segs, isTabOrNewline b = false := by
  induction segs with
  | nil => intro b hb; cases hb
  | cons s t ih =>
    intro b hb
    have hs := h s (List.mem_cons_self ..)
    cases t with
    | nil =>
      simp only [joinWith] at hb
      exact (pathChar_props b (hs.chars b hb)).1
    | cons t u =>
      simp only [joinWith, List.mem_append, List.mem_singleton] at hb
      rcases hb with (hb | hb) | hb
      · exact (pathChar_props b (hs.chars b hb)).1
      · subst hb; decide
      · exact ih (fun x hx => h x (List.mem_cons_of_mem _ hx)) b hb

theorem parsePath_cons_ne (q : Bool) {b : UInt8} (h47 : b ≠ 47) (h92 : b ≠ 92) (r : Bytes) :
    parsePath q (b :: r) = (47 :: (pathLoop q (b :: r) [] []).1, (pathLoop q (b :: r) [] []).2) := by
  unfold parsePath
  split
  · rename_i heq; simp only [List.cons.injEq] at heq; exact absurd heq.1 h47
  · rename_i heq; simp only [List.cons.injEq] at heq; exact absurd heq.1 h92
  · rfl

/-- `set_path("/seg1/seg2/…")` with plain segments: the path is that text -/
theorem setPath_plain (u : Url) {segs : List Bytes} (h : ∀ s ∈ segs, PlainSegment s) :
    (u.setPath (47 :: joinWith [47] segs)).path = 47 :: joinWith [47] segs := by
  have hf : (47 :: joinWith [47] segs).filter (fun b => !isTabOrNewline b) = 47 :: joinWith [47] segs := by
    apply List.filter_eq_self.mpr
    intro b hb
    simp only [List.mem_cons] at hb
    rcases hb with hb | hb
    · subst hb; decide
    · simp [joinWith_plain_chars h b hb]
  simp only [Url.setPath, hf, parsePath, pathLoop_plain segs [] h]
  simp

/-- `set_path("seg1/seg2/…")` without the leading slash (first segment not empty): the slash is supplied -/
theorem setPath_plain_relative (u : Url) {s : Bytes} {segs : List Bytes} (hne : s ≠ []) (h : ∀ x ∈ s :: segs, PlainSegment x) :
    (u.setPath (joinWith [47] (s :: segs))).path = 47 :: joinWith [47] (s :: segs) := by
  have hf : (joinWith [47] (s :: segs)).filter (fun b => !isTabOrNewline b) = joinWith [47] (s :: segs) :=
    List.filter_eq_self.mpr (fun b hb => by simp [joinWith_plain_chars h b hb])
  obtain ⟨b0, r0, rfl⟩ : ∃ b r, s = b :: r := by
    cases s with
    | nil => exact absurd rfl hne
    | cons b r => exact ⟨b, r, rfl⟩
  have hb0 := (pathChar_props b0 ((h _ (List.mem_cons_self ..)).chars b0 (List.mem_cons_self ..))).2.1
  simp only [Bool.or_eq_false_iff, beq_eq_false_iff_ne, ne_eq] at hb0
  have hshape : ∃ r, joinWith [47] ((b0 :: r0) :: segs) = b0 :: r := by
    cases segs with
    | nil => exact ⟨r0, rfl⟩
    | cons t u => exact ⟨r0 ++ [47] ++ joinWith [47] (t :: u), by simp [joinWith]⟩
  obtain ⟨r, hr⟩ := hshape
  have hpp := parsePath_cons_ne false hb0.1 hb0.2 r
  rw [← hr] at hpp
  simp only [Url.setPath, hf, hpp, pathLoop_plain _ [] h]
  simp

theorem splitOn_cons_shape (d b : UInt8) (r : Bytes) : ∃ x xs, splitOn d (b :: r) = x :: xs ∧ (xs ≠ [] ∨ x ≠ []) := by
  simp only [splitOn]
  by_cases hb : (b == d) = true
  · simp only [hb, if_true]
    cases hs : splitOn d r with
    | nil => exact absurd hs (splitOn_ne_nil d r)
    | cons y ys => exact ⟨[], y :: ys, rfl, .inl (by simp)⟩
  · simp only [hb, if_false]
    cases hs : splitOn d r with
    | nil => exact ⟨[b], [], rfl, .inr (by simp)⟩
    | cons p ps => exact ⟨b :: p, ps, rfl, .inr (by simp)⟩

/-- a result that is not the crash branch and, when an error, is `InvalidInput`: what the parsers and `new` are shown to give -/
abbrev InvalidOnly {α : Type} (r : Res α) : Prop := r ≠ .crash ∧ ∀ k, r = .err k → k = .invalidInput

theorem InvalidOnly.ok {α : Type} (a : α) : InvalidOnly (.ok a) := ⟨nofun, nofun⟩

theorem InvalidOnly.invalid {α : Type} : InvalidOnly (.err .invalidInput : Res α) := ⟨nofun, fun _ h => by cases h; rfl⟩

/-- `parse_ipv4addr` cannot hit its `expect` on a non-empty input (the only input `Host::parse` hands it) -/
theorem parseIpv4_no_crash (d : Bytes) (hd : d ≠ []) : InvalidOnly (parseIpv4 d) := by
  obtain ⟨b, r, rfl⟩ : ∃ b r, d = b :: r := by
    cases d with
    | nil => exact absurd rfl hd
    | cons b r => exact ⟨b, r, rfl⟩
  obtain ⟨x, xs, hs, hshape⟩ := splitOn_cons_shape 46 b r
  have hparts : (if (x :: xs).getLast? == some [] then (x :: xs).dropLast else x :: xs) ≠ [] := by
    split
    · rename_i hl
      rcases hshape with hx | hx
      · cases xs with
        | nil => exact absurd rfl hx
        | cons y ys => simp [List.dropLast]
      · cases xs with
        | nil => simp at hl; exact absurd hl hx
        | cons y ys => simp [List.dropLast]
    · simp
  unfold parseIpv4
  simp only [hs]
  generalize (if (x :: xs).getLast? == some [] then (x :: xs).dropLast else x :: xs) = parts at hparts
  split
  · exact .invalid
  · split
    · exact .invalid
    · rename_i numbers hm
      have hlen := mapM_option_length _ _ _ hm
      split
      · -- as many numbers as parts: not none
        rename_i hrev
        have : numbers = [] := by simpa using hrev
        subst this
        simp at hlen
        exact absurd hlen.symm (by simpa using hparts)
      · split
        · exact .invalid
        · split
          · exact .invalid
          · exact .ok _

theorem parseHost_total (idna : Bytes → Option Bytes) (input : Bytes) : InvalidOnly (parseHost idna input) := by
  unfold parseHost
  split
  · split
    · exact .invalid
    · split
      · exact .ok _
      · exact .invalid
  · split
    · exact .invalid
    · rename_i domain _
      split
      · exact .invalid
      · rename_i hne
        split
        · have h4 := parseIpv4_no_crash domain (by intro h; subst h; simp at hne)
          cases hp : parseIpv4 domain with
          | ok n => exact .ok _
          | err k =>
            cases h4.2 k hp
            exact .invalid
          | crash => exact absurd hp h4.1
        · exact .ok _

/-- every error leaf of `parseUrl` is the literal `InvalidInput` or the error of `parseHost`, its one crash leaf is `parseHost`'s -/
theorem parseUrl_total (idna : Bytes → Option Bytes) (proto : Protocol) (after : Bytes) : InvalidOnly (parseUrl idna proto after) := by
  have hh := parseHost_total idna
  unfold parseUrl
  simp only []
  -- with or without user info
  split
  all_goals
    split
    · exact .invalid
    · split
      · rename_i k hk
        cases (hh _).2 k hk
        exact .invalid
      · rename_i hk
        exact absurd hk (hh _).1
      · split
        · exact .invalid
        · exact .ok _

theorem new_total (idna : Bytes → Option Bytes) (ua : Bytes) (address : SocketAddr)
    (ts : Option Settings.Timeout) (hs : HttpSettings) : InvalidOnly (Http.new idna ua address ts hs) := by
  have hp := parseUrl_total idna
  unfold Http.new
  simp only []
  split
  · exact .ok _
  · rename_i k hk
    cases (hp _ _).2 k hk
    exact .invalid
  · rename_i hk
    exact absurd hk (hp _ _).1

/-- What a built client carries: the resolver that answers every name with the address, the user agent, no deadline for the whole
request, the durations of the settings (or of the defaults) each at its own place, the headers of the settings. -/
theorem new_ok {idna : Bytes → Option Bytes} {ua : Bytes} {address : SocketAddr} {ts : Option Settings.Timeout} {hs : HttpSettings}
    {client : Client} (h : Http.new idna ua address ts hs = .ok client) :
    client.agent.resolver = (fun _ => [address]) ∧ client.agent.userAgent = ua ∧ client.agent.timeoutOverall = none
    ∧ client.agent.timeoutRead = (Settings.readAndWriteOrDefaults ts).1
    ∧ client.agent.timeoutWrite = (Settings.readAndWriteOrDefaults ts).2
    ∧ client.agent.timeoutConnect = some ((Settings.connectOrDefault ts).getD ⟨30, 0⟩)
    ∧ client.headers = hs.headers := by
  unfold Http.new at h
  simp only [] at h
  split at h
  · cases h
    refine ⟨rfl, rfl, ?_⟩
    -- a duration the settings leave out keeps the value of `ureqDefaults`
    cases (Settings.readAndWriteOrDefaults ts).1 <;> cases (Settings.readAndWriteOrDefaults ts).2 <;>
      cases Settings.connectOrDefault ts <;> exact ⟨rfl, rfl, rfl, rfl, rfl⟩
  · cases h
  · cases h

/-- with settings given the connect timeout is theirs, `ureq`'s 30 s when they leave it out -/
theorem new_ok_connect {idna : Bytes → Option Bytes} {ua : Bytes} {address : SocketAddr} {t : Settings.Timeout} {hs : HttpSettings}
    {client : Client} (h : Http.new idna ua address (some t) hs = .ok client) :
    client.agent.timeoutConnect = (match t.connect with | some c => some c | none => some ⟨30, 0⟩) := by
  rw [(new_ok h).2.2.2.2.2.1]
  show some (t.connect.getD ⟨30, 0⟩) = _
  cases t.connect <;> rfl

theorem requestJson_fst {α : Type} (client : Client) (w : Wire) (json : Bytes → Option α) (method path : Bytes)
    (headers : List (Bytes × Bytes)) : (client.requestJson w json method path headers).1 = client.makeRequest method path headers := by
  simp only [Client.requestJson]
  split
  · rfl
  · split
    · split <;> rfl
    · rfl
    · rfl

/-- The ways a request can go, one for each branch of `call`: what holds of these nine shapes holds of every wire. -/
theorem Wire.byCall {motive : Wire → Prop}
    (refused : ∀ s h b, motive ⟨.refused, s, h, b⟩)
    (connectTimedOut : ∀ s h b, motive ⟨.timedOut, s, h, b⟩)
    (sendFailed : ∀ h b, motive ⟨.connected, .failed, h, b⟩)
    (sendTimedOut : ∀ h b, motive ⟨.connected, .timedOut, h, b⟩)
    (headTimedOut : ∀ b, motive ⟨.connected, .sent, .timedOut, b⟩)
    (closed : ∀ b, motive ⟨.connected, .sent, .closed, b⟩)
    (malformed : ∀ b, motive ⟨.connected, .sent, .malformed, b⟩)
    (tooManyRedirects : ∀ b, motive ⟨.connected, .sent, .tooManyRedirects, b⟩)
    (head : ∀ status cl b, motive ⟨.connected, .sent, .head status cl, b⟩)
    (w : Wire) : motive w := by
  obtain ⟨c, s, h, b⟩ := w
  cases c with
  | refused => exact refused s h b
  | timedOut => exact connectTimedOut s h b
  | connected =>
    cases s with
    | failed => exact sendFailed h b
    | timedOut => exact sendTimedOut h b
    | sent =>
      cases h with
      | timedOut => exact headTimedOut b
      | closed => exact closed b
      | malformed => exact malformed b
      | tooManyRedirects => exact tooManyRedirects b
      | head status cl => exact head status cl b

theorem readBody_no_crash (w : Wire) : (readBody w).1 ≠ .crash := by
  unfold readBody
  cases w.body <;> exact fun h => nomatch h

theorem requestJson_no_crash {α : Type} (client : Client) (w : Wire) (json : Bytes → Option α) (method path : Bytes)
    (headers : List (Bytes × Bytes)) : (client.requestJson w json method path headers).2.1 ≠ .crash := by
  have hb := readBody_no_crash w
  unfold Client.requestJson
  split
  · exact fun h => nomatch h
  · split
    · split <;> exact fun h => nomatch h
    · exact fun h => nomatch h
    · rename_i hr
      rw [hr] at hb
      exact absurd rfl hb

theorem request_no_crash (client : Client) (w : Wire) (method path : Bytes)
    (headers : List (Bytes × Bytes)) : (client.request w method path headers).2.1 ≠ .crash := by
  unfold Client.request
  split
  · exact fun h => nomatch h
  · dsimp only
    -- with or without a `Content-Length` header: a format error, or what reading the body gives
    split
    all_goals
      split
      · exact fun h => nomatch h
      · exact readBody_no_crash w

theorem Ureq.headerLines_bare (agent : AgentConfig) (r : Request) (hh : r.headers = []) (hu : r.url.username = [])
    (hp : r.url.password = none) :
    Ureq.headerLines agent r = [(asciiBytes "Host", Ureq.hostHeader r.url), (asciiBytes "User-Agent", agent.userAgent),
      (asciiBytes "Accept", asciiBytes "*/*"), (asciiBytes "accept-encoding", asciiBytes "gzip")] := by
  have h : ∀ name ∈ ["host", "user-agent", "accept"],
      Ureq.hasHeader [(asciiBytes "accept-encoding", asciiBytes "gzip")] name = false := by decide +kernel
  have e0 : (Ureq.hasHeader ([] : List (Bytes × Bytes)) "accept-encoding" || Ureq.hasHeader [] "range") = false := rfl
  simp only [Ureq.headerLines, hh, hu, hp, e0, List.nil_append, List.isEmpty_nil, Option.getD_none, Bool.not_true, Bool.or_self,
    Bool.false_and, Bool.false_eq_true, if_false, List.append_nil, h "host" (by simp), h "user-agent" (by simp), h "accept" (by simp)]
  rfl

theorem Ureq.requestHead_bare (agent : AgentConfig) (r : Request) (hh : r.headers = []) (hu : r.url.username = [])
    (hp : r.url.password = none) :
    Ureq.requestHead agent r = r.method ++ [32] ++ Ureq.target r.url ++ asciiBytes " HTTP/1.1\r\nHost: " ++ Ureq.hostHeader r.url
      ++ asciiBytes "\r\nUser-Agent: " ++ agent.userAgent ++ asciiBytes "\r\nAccept: */*\r\naccept-encoding: gzip\r\n\r\n" := by
  -- the literals of the statement are those of `requestHead` and `headerLines` joined; the strings are compared, not their bytes
  have e1 : asciiBytes " HTTP/1.1\r\nHost: " = asciiBytes " HTTP/1.1\r\n" ++ (asciiBytes "Host" ++ asciiBytes ": ") := by
    rw [← asciiBytes_append, ← asciiBytes_append]; rfl
  have e2 : asciiBytes "\r\nUser-Agent: " = asciiBytes "\r\n" ++ (asciiBytes "User-Agent" ++ asciiBytes ": ") := by
    rw [← asciiBytes_append, ← asciiBytes_append]; rfl
  have e3 : asciiBytes "\r\nAccept: */*\r\naccept-encoding: gzip\r\n\r\n" = asciiBytes "\r\n" ++ (asciiBytes "Accept" ++ (asciiBytes ": " ++
      (asciiBytes "*/*" ++ (asciiBytes "\r\n" ++ (asciiBytes "accept-encoding" ++ (asciiBytes ": " ++ (asciiBytes "gzip" ++
      (asciiBytes "\r\n" ++ asciiBytes "\r\n")))))))) := by
    simp only [← asciiBytes_append]; rfl
  rw [Ureq.requestHead, Ureq.headerLines_bare agent r hh hu hp]
  simp only [e1, e2, e3, List.flatMap_cons, List.flatMap_nil, List.append_assoc, List.append_nil]

end Gd.Http
