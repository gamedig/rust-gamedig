import GdVerif.Lemmas.Gs3Whole
import GdVerif.Lemmas.SmallLogic
import GdVerif.Spec.Jc2m
/-
  Just Cause 2: Multiplayer: crash-freedom and decoding against the SPEC (the whole query: `Lemmas/Jc2mFaults.lean`).
-/
namespace Gd.Jc2m
open Gd Gd.Gs3

theorem safe2_playerStep (acc : List Player) : Safe2 (playerStep acc) := by
  unfold playerStep
  exact Safe2.bind safe2_readCStr fun _ => Safe2.bind safe2_readCStr fun _ =>
    Safe2.bind (safe2_readUnsigned _ _) fun _ => Safe2.pure _

theorem progress_playerStep (acc : List Player) : Progress (playerStep acc) :=
  NoGrow.bind_progress noGrow_readCStr fun _ => NoGrow.bind_progress noGrow_readCStr fun _ =>
    Progress.bind (progress_readUnsigned _ 2 (by omega)) fun _ => NoGrow.pure _

theorem safe_parsePlayers : Safe parsePlayers := by
  unfold parsePlayers
  refine Safe.bind (safe_readUnsigned _ _) fun _ => ?_
  intro b
  exact safe_whileRemaining playerStep (fun acc => (safe2_playerStep acc).safe) progress_playerStep
    (b.remaining + 1) [] b (by omega)

theorem buildResponse_ne (packets : List Bytes) : Jc2m.buildResponse packets ≠ .crash := by
  unfold Jc2m.buildResponse
  refine Res.bind_ne_crash (okOr_ne_crash _ _) fun first => Res.bind_ne_crash (dataToMap_ne _) fun x => ?_
  obtain ⟨vars, remaining⟩ := x
  refine Res.bind_ne_crash (Safe.run_ne_crash safe_parsePlayers _) fun players => ?_
  refine Res.bind_ne_crash (takeReq_ne _ _) fun x => ?_
  obtain ⟨maxText, vars⟩ := x
  refine Res.bind_ne_crash (parseU_ne _ _) fun _ => Res.bind_ne_crash (takeOnline_ne _ _) fun x => ?_
  obtain ⟨on, vars⟩ := x
  refine Res.bind_ne_crash (takeReq_ne _ _) fun x => ?_
  obtain ⟨ver, vars⟩ := x
  refine Res.bind_ne_crash (takeReq_ne _ _) fun x => ?_
  obtain ⟨desc, vars⟩ := x
  refine Res.bind_ne_crash (takeReq_ne _ _) fun x => ?_
  obtain ⟨name, vars⟩ := x
  refine Res.bind_ne_crash (hasPassword_ne _) fun x => ?_
  obtain ⟨pw, vars⟩ := x
  simp

theorem query_eq (port : Option Nat) (retries : Nat) :
    Jc2m.query port retries = exchange (port.getD DEFAULT_PORT) retries PAYLOAD true Jc2m.buildResponse := rfl

theorem query_safe (port : Option Nat) (retries : Nat) (w : Net) :
    (Jc2m.query port retries w).1 ≠ .crash
    ∧ ∃ added, (Jc2m.query port retries w).2.log = w.log ++ added
        ∧ ∀ e ∈ added, QueryEvOk (port.getD DEFAULT_PORT) w.conns.length PAYLOAD e := by
  rw [query_eq]; exact exchange_safe _ _ _ _ _ buildResponse_ne w

open Gd.Jc2m.Spec

theorem decodes_playerStep (acc : List Player) (p : Player) (h : wfPlayer p = true) :
    Decodes (playerStep acc) (encPlayer p) (acc ++ [p]) := by
  simp only [wfPlayer, Bool.and_eq_true, decide_eq_true_eq] at h
  obtain ⟨⟨hn, hs⟩, hp⟩ := h
  unfold playerStep encPlayer
  simp only [List.append_assoc]
  refine Decodes.bind (Gs3.decodes_cstr p.name hn) ?_
  refine Decodes.bind (Gs3.decodes_cstr p.steamId hs) ?_
  refine Decodes.bind_last (decodes_be 2 p.ping (by simpa using hp)) ?_
  cases p
  exact Decodes.pure _

theorem encPlayer_length (p : Player) : 0 < (encPlayer p).length := by
  simp [encPlayer, Spec.cstr]; omega

theorem players_run (ps : List Player) (h : ∀ p ∈ ps, wfPlayer p = true) (acc : List Player) (b : Buf) (fuel : Nat)
    (hr : b.rest = (ps.map encPlayer).flatten) (hf : b.remaining < fuel) :
    ∃ b', whileRemaining playerStep fuel acc b = .ok (acc ++ ps, b') := by
  obtain ⟨b', hw, _⟩ := whileRemaining_decodes playerStep encPlayer (fun acc p => acc ++ [p]) ps
    (fun p _ => List.ne_nil_of_length_pos (encPlayer_length p)) (fun acc p hp => decodes_playerStep acc p (h p hp))
    fuel acc b hr hf
  have hfold : ∀ (qs acc : List Player), qs.foldl (fun acc p => acc ++ [p]) acc = acc ++ qs := by
    intro qs
    induction qs with
    | nil => intro acc; rw [List.foldl_nil, List.append_nil]
    | cons q r ih => intro acc; rw [List.foldl_cons, ih, List.append_assoc, List.singleton_append]
  exact ⟨b', by rw [hw, hfold]⟩

theorem parsePlayers_run (ps : List Player) (h : ∀ p ∈ ps, wfPlayer p = true) (hl : ps.length < 2 ^ 16) :
    parsePlayers.run (natBE 2 ps.length ++ (ps.map encPlayer).flatten) = .ok ps := by
  unfold Par.run parsePlayers
  obtain ⟨b1, hb1, hr1, _⟩ := decodes_be 2 ps.length (by simpa using hl) (Buf.new _) ((ps.map encPlayer).flatten) rfl
  rw [Par.bind_ok hb1]
  have hrem : remainingLength b1 = .ok (b1.remaining, b1) := rfl
  rw [Par.bind_ok hrem]
  obtain ⟨b2, hb2⟩ := players_run ps h [] b1 (b1.remaining + 1) hr1 (by omega)
  rw [hb2]
  simp

/-- what `wf` says, as propositions -/
structure Ok (cfg : Config) (st : State) : Prop where
  items : ∀ p ∈ st.vars, Gs3.Spec.okItem p.1 = true ∧ Gs3.Spec.okStr p.2 = true
  distinct : Valve.Spec.distinctKeys st.vars = true
  version : ∃ v, var st "version" = some v
  description : ∃ v, var st "description" = some v
  hostname : ∃ v, var st "hostname" = some v
  password : ∃ v, var st "password" = some v ∧ Gs3.Spec.isFlag v = true
  maxplayers : ∃ v n, var st "maxplayers" = some v ∧ parseUnsigned 32 v = some n
  numplayers : ∀ v, var st "numplayers" = some v → ∃ n, parseUnsigned 32 v = some n
  players : ∀ p ∈ st.players, wfPlayer p = true
  count : st.players.length < 2 ^ 16
  header : cfg.splitHeader.length = 11
  lo : -(2 ^ 31 : Int) ≤ cfg.challenge
  hi : cfg.challenge < 2 ^ 31
  size : (dataPacket cfg st).length ≤ Gs3.PACKET_SIZE

theorem wf_ok (cfg : Config) (st : State) (h : wf cfg st = true) : Ok cfg st := by
  simp only [wf, Bool.and_eq_true, decide_eq_true_eq, beq_iff_eq, List.all_eq_true, Option.isSome_iff_exists,
    Option.any_eq_true, Option.all_eq_true] at h
  obtain ⟨⟨⟨⟨⟨⟨⟨⟨⟨⟨⟨⟨⟨t1, t2⟩, t3⟩, t4⟩, t5⟩, t6⟩, v, hv, n, hn⟩, t8⟩, t9⟩, t10⟩, t11⟩, t12⟩, t13⟩, t14⟩ := h
  exact
    { items := t1, distinct := t2, version := t3, description := t4, hostname := t5, password := t6,
      maxplayers := ⟨v, n, hv, hn⟩, numplayers := t8, players := t9, count := t10, header := t11, lo := t12, hi := t13,
      size := t14 }

theorem keys_nodup : [asciiBytes "maxplayers", asciiBytes "numplayers", asciiBytes "version", asciiBytes "description",
    asciiBytes "hostname", asciiBytes "password"].Nodup := by decide +kernel

theorem buildResponse_spec (cfg : Config) (st : State) (h : Ok cfg st) :
    Jc2m.buildResponse [payload st] = .ok (expected st) := by
  obtain ⟨vver, hver⟩ := h.version
  obtain ⟨vdesc, hdesc⟩ := h.description
  obtain ⟨vhost, hhost⟩ := h.hostname
  obtain ⟨vpw, hpw, hflag⟩ := h.password
  obtain ⟨vmax, nmax, hmax, hpmax⟩ := h.maxplayers
  simp only [var] at hver hdesc hhost hpw hmax
  -- each variable is taken from what the earlier steps left: the six keys are distinct
  have distinct : ∀ {ks : List Bytes} {k : Bytes},
      ks ++ [k] <+: [asciiBytes "maxplayers", asciiBytes "numplayers", asciiBytes "version", asciiBytes "description",
        asciiBytes "hostname", asciiBytes "password"] → k ∉ ks :=
    keys_nodup.not_mem_of_prefix
  have hl : st.players.length < 2 ^ 32 := Nat.lt_of_lt_of_le h.count (by decide)
  unfold Jc2m.buildResponse payload
  simp only [List.head?_cons, okOr, Res.bind_ok, List.append_assoc,
    dataToMap_encVars st.vars h.items h.distinct, parsePlayers_run st.players h.players h.count]
  have s1 := takeReq_dropKeys [] st.vars "maxplayers" vmax (distinct ⟨_, rfl⟩) hmax
  rw [Gs.dropKeys_nil] at s1
  rw [s1]
  simp only [Res.bind_ok, parseU, hpmax, okOr, List.nil_append]
  rw [takeOnline_dropKeys _ st.vars _ (distinct ⟨_, rfl⟩) hl h.numplayers]
  simp only [Res.bind_ok, List.cons_append, List.nil_append]
  rw [takeReq_dropKeys _ st.vars "version" vver (distinct ⟨_, rfl⟩) hver]
  simp only [Res.bind_ok, List.cons_append, List.nil_append]
  rw [takeReq_dropKeys _ st.vars "description" vdesc (distinct ⟨_, rfl⟩) hdesc]
  simp only [Res.bind_ok, List.cons_append, List.nil_append]
  rw [takeReq_dropKeys _ st.vars "hostname" vhost (distinct ⟨_, rfl⟩) hhost]
  simp only [Res.bind_ok, List.cons_append, List.nil_append]
  rw [hasPassword_dropKeys _ st.vars vpw (distinct ⟨_, rfl⟩) hpw hflag]
  simp only [Res.bind_ok, Res.pure_eq, expected, var, hver, hdesc, hhost, hpw, hmax, Option.getD_some, Gs3.Spec.numOf,
    Option.bind_some, hpmax]

theorem run_readSingle (hdr payload : Bytes) (h : hdr.length = 11) : readSingle.run (hdr ++ payload) = .ok payload := by
  unfold Par.run readSingle
  have hskip : Decodes (moveCursor 11) hdr () := by
    have := decodes_skip hdr
    rw [h] at this
    simpa using this
  obtain ⟨b1, hb1, hr1, _⟩ := hskip (Buf.new (hdr ++ payload)) payload rfl
  rw [Par.bind_ok hb1]
  simp [remainingBytes, hr1]

theorem run_readHeader_dataPacket (cfg : Config) (st : State) (hok : Ok cfg st) :
    (readHeader 0).run ((dataPacket cfg st).take PACKET_SIZE) = .ok (cfg.splitHeader ++ payload st) := by
  rw [List.take_of_length_le hok.size]
  have := run_readHeader 0 (by omega) (cfg.splitHeader ++ payload st)
  unfold dataPacket
  simp only [List.append_assoc] at this ⊢
  rw [show ([0] : Bytes) = [UInt8.ofNat 0] from rfl, this]

theorem request_bytes (c : Int) :
    requestBytes 9 none none = Gs3.Spec.handshakeRequest
    ∧ requestBytes 0 (if c = 0 then none else some c) (some PAYLOAD) = dataRequest c := by
  constructor
  · decide
  · unfold requestBytes dataRequest
    by_cases hc : c = 0
    · subst hc; decide
    · simp only [hc, ↓reduceIte]
      have h1 : natBE 2 65277 ++ [UInt8.ofNat 0] ++ natBE 4 SESSION_ID = [0xFE, 0xFD, 0x00] ++ Gs3.Spec.sessionId := by decide
      rw [h1]
      rfl

end Gd.Jc2m
