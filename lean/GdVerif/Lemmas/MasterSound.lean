import GdVerif.Lemmas.MasterRounds
/-
  Soundness of the reply parser: whatever `parsePage` accepts IS a page in the protocol's layout — the datagram is
  `encPage es` for exactly the entries `es` returned.  With `parsePage_encPage` (completeness, `Lemmas/MasterPaging.lean`)
  this makes "the last address of the page received" (`nextSeed`) a statement about the datagram's bytes.
-/
namespace Gd.Master
open Gd

theorem parseEntry_inv {b b' : Buf} {a : Addr} (h : parseEntry b = .ok (a, b')) :
    ∃ post, b.rest = encEntry a ++ post ∧ WFAddr a ∧ b'.rest = post := by
  unfold parseEntry at h
  obtain ⟨n1, b1, h1, h⟩ := Par.bind_ok_inv h
  obtain ⟨n2, b2, h2, h⟩ := Par.bind_ok_inv h
  obtain ⟨n3, b3, h3, h⟩ := Par.bind_ok_inv h
  obtain ⟨n4, b4, h4, h⟩ := Par.bind_ok_inv h
  obtain ⟨pt, b5, h5, h⟩ := Par.bind_ok_inv h
  obtain ⟨x1, p1, r1, rfl, e1⟩ := readU8_inv h1
  obtain ⟨x2, p2, r2, rfl, e2⟩ := readU8_inv h2
  obtain ⟨x3, p3, r3, rfl, e3⟩ := readU8_inv h3
  obtain ⟨x4, p4, r4, rfl, e4⟩ := readU8_inv h4
  obtain ⟨pre, post, r5, hl, rfl, e5⟩ := readUnsigned_inv h5
  simp only [Par.pure_apply, Res.ok.injEq, Prod.mk.injEq] at h
  obtain ⟨rfl, rfl⟩ := h
  match pre, hl with
  | [p, q], _ =>
    refine ⟨post, ?_, ?_, e5⟩
    · rw [r1, ← e1, r2, ← e2, r3, ← e3, r4, ← e4, r5]
      simp only [encEntry, Endian.decode, UInt8.ofNat_toNat, show natBE 2 (beNat [p, q]) = [p, q] from natBE_beNat [p, q]]
      rfl
    · have := x1.toNat_lt; have := x2.toNat_lt; have := x3.toNat_lt; have := x4.toNat_lt
      have hpq : beNat [p, q] < 256 ^ 2 := by
        have := Endian.decode_lt .big [p, q]
        simpa [Endian.decode] using this
      refine ⟨by assumption, by assumption, by assumption, by assumption, ?_⟩
      simp only [Endian.decode]
      omega

theorem whileEntries_inv : ∀ (fuel : Nat) (acc res : List Addr) (b b' : Buf),
    whileRemaining (fun acc => do let e ← parseEntry; pure (e :: acc)) fuel acc b = .ok (res, b') →
      ∃ es : List Addr, res = es.reverse ++ acc ∧ b.rest = (es.map encEntry).flatten ∧ ∀ a ∈ es, WFAddr a := by
  intro fuel
  induction fuel with
  | zero => intro acc res b b' h; simp [whileRemaining, Par.crash] at h
  | succ fuel ih =>
    intro acc res b b' h
    simp only [whileRemaining] at h
    split at h
    · rename_i hz
      cases h
      refine ⟨[], by simp, ?_, by simp⟩
      simpa [Buf.remaining] using hz
    · cases hb : (do let e ← parseEntry; pure (e :: acc) : Par (List Addr)) b with
      | err k => rw [hb] at h; cases h
      | crash => rw [hb] at h; cases h
      | ok x =>
        obtain ⟨st', b1⟩ := x
        rw [hb] at h
        simp only at h
        obtain ⟨a, b2, ha, hp⟩ := Par.bind_ok_inv hb
        simp only [Par.pure_apply, Res.ok.injEq, Prod.mk.injEq] at hp
        obtain ⟨rfl, rfl⟩ := hp
        obtain ⟨post, hr, hwf, hpost⟩ := parseEntry_inv ha
        obtain ⟨es, hres, hrest, hall⟩ := ih (a :: acc) res b2 b' h
        refine ⟨a :: es, by simp [hres], ?_, ?_⟩
        · rw [hr, ← hpost, hrest]; simp
        · intro x hx
          rcases List.mem_cons.mp hx with rfl | hx'
          · exact hwf
          · exact hall x hx'

theorem parsePage_sound (data : Bytes) (es : List Addr) (h : parsePage.run data = .ok es) :
    data = encPage es ∧ ∀ a ∈ es, WFAddr a := by
  unfold Par.run at h
  cases hp : parsePage (Buf.new data) with
  | err k => rw [hp] at h; cases h
  | crash => rw [hp] at h; cases h
  | ok x =>
    obtain ⟨es', bEnd⟩ := x
    rw [hp] at h
    simp only [Res.ok.injEq] at h
    subst h
    unfold parsePage at hp
    obtain ⟨hd, b1, h1, hp⟩ := Par.bind_ok_inv hp
    by_cases hhd : (hd != 0xFFFFFFFF) = true
    · rw [if_pos hhd] at hp; cases hp
    · rw [if_neg hhd] at hp
      obtain ⟨k, b2, h2, hp⟩ := Par.bind_ok_inv hp
      by_cases hk : (k != 26122) = true
      · simp only [hk, ↓reduceIte, Par.fail_apply] at hp; cases hp
      · have hk' : (k != 26122) = false := Bool.eq_false_iff.mpr hk
        simp only [hk', Bool.false_eq_true, ↓reduceIte] at hp
        simp only [bne_iff_ne, ne_eq, Decidable.not_not] at hhd hk
        obtain ⟨pre1, post1, r1, l1, rfl, e1⟩ := readUnsigned_inv h1
        obtain ⟨pre2, post2, r2, l2, rfl, e2⟩ := readUnsigned_inv h2
        have hpre1 : pre1 = natBE 4 0xFFFFFFFF := eq_natBE_of_beNat l1 hhd
        have hpre2 : pre2 = natBE 2 26122 := eq_natBE_of_beNat l2 hk
        unfold parseEntries at hp
        obtain ⟨rev, b3, h3, hp⟩ := Par.bind_ok_inv hp
        simp only [Par.pure_apply, Res.ok.injEq, Prod.mk.injEq] at hp
        obtain ⟨rfl, rfl⟩ := hp
        obtain ⟨es, hres, hrest, hall⟩ := whileEntries_inv _ _ _ _ _ h3
        simp only [List.append_nil] at hres
        subst hres
        simp only [List.reverse_reverse]
        refine ⟨?_, hall⟩
        have hd : data = (Buf.new data).rest := rfl
        rw [hd, r1, ← e1, r2, ← e2, hrest, hpre1, hpre2]
        rfl

theorem nextSeed_spec (ip : Bytes) (port : Nat) (data : Bytes) (a : Addr) :
    nextSeed ip port data = some a ↔
      ∃ es, data = encPage es ∧ (∀ x ∈ es, WFAddr x) ∧ es.getLast? = some a
        ∧ ¬(ipText a.1 = zeroIp ∧ a.2 = 0) ∧ ¬(ipText a.1 = ip ∧ a.2 = port) := by
  rw [nextSeed_iff]
  constructor
  · rintro ⟨page, hp, hl, h1, h2⟩
    obtain ⟨hd, hwf⟩ := parsePage_sound data page hp
    exact ⟨page, hd, hwf, hl, h1, h2⟩
  · rintro ⟨es, rfl, hwf, hl, h1, h2⟩
    exact ⟨es, parsePage_encPage es hwf, hl, h1, h2⟩

end Gd.Master
