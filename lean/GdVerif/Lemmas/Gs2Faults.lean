import GdVerif.Lemmas.Gs2Query
import GdVerif.Lemmas.Gs2Cost
import GdVerif.Lemmas.QSteps
import GdVerif.Lemmas.QFlags
import GdVerif.Spec.Gs2Faults
/-
  The whole GameSpy 2 query with faults injected (C10 end to end): `Gs2.query` is "open a socket, a one-exchange unit
  under `retry_on_timeout`, decode" (`Lemmas/QSteps.lean: query1_plan`).  The fault-free query (`query_expected`, C04) is
  the plan without failures: the query does not tell flags that are all `false` from no flags (`Lemmas/QFlags.lean`).
-/
namespace Gd.Gs2
open Gd Gd.Gs Gd.Gs2.Spec Gd.Faults

theorem query_exchange1 (port retries : Nat) :
    query port retries = (openSock false port >>= fun s =>
      retryOnTimeout retries (exchange1 s request PACKET_SIZE headerCheck) >>= fun x => Q.lift (decode x)) := by
  unfold query requestData
  simp only [requestDataImpl_exchange1]
  rfl

theorem request_eq : [request] = Spec.requests := by decide

theorem headerCheck_reply (y : Style) (st : State) : headerCheck (reply y st) = .ok (reply y st, 5) := by
  simp [headerCheck, checkHeader_reply]

theorem headerCheck_malformed (m : Bytes) (h : malformed m = true) : headerCheck m = .err (malformedError m) := by
  have hrun : checkHeader.run m = .err (malformedError m) := by
    cases m with
    | nil =>
      unfold Par.run checkHeader
      rw [Par.bind_err (k := .packetUnderflow) (by simp [readUnsigned, Buf.new, Buf.remaining])]
      rfl
    | cons b r =>
      have d1 := decodes_readUnsigned .big 1 b.toNat (by have := b.toNat_lt; omega)
      obtain ⟨b1, h1, hr1, _⟩ := d1 (Buf.new (b :: r)) r (by
        simp [Endian.encode, natBE, natLE, Buf.new])
      unfold Par.run checkHeader
      rw [Par.bind_ok h1]
      by_cases hb : b = 0
      · subst hb
        simp only [malformed, List.length_cons, List.head?_cons, bne_self_eq_false, Bool.or_false,
          decide_eq_true_eq] at h
        simp only [UInt8.toNat_zero, bne_self_eq_false, Bool.false_eq_true, ↓reduceIte, malformedError]
        rw [Par.bind_err (k := .packetUnderflow) (by
          simp only [readUnsigned, Buf.remaining, hr1]
          rw [if_pos (by omega)])]
      · have hne : (b.toNat != 0) = true := by
          simp only [bne_iff_ne, ne_eq]
          intro h0
          exact hb (UInt8.toNat_inj.mp (by simpa using h0))
        have hne' : (b != 0) = true := by simpa using hb
        simp only [hne, ↓reduceIte, Par.fail, malformedError, hne']
  simp [headerCheck, hrun]

theorem malformedError_not_timeout (m : Bytes) : (malformedError m).isTimeout = false := by
  unfold malformedError
  split
  · rfl
  · split <;> rfl

theorem flagBlind_query (port retries : Nat) : FlagBlind (query port retries) := by
  rw [query_exchange1]
  exact FlagBlind.bind (FlagBlind.openSock _ _) fun s =>
    FlagBlind.bind (FlagBlind.retry (flagBlind_exchange1 s _ _ _) _) fun _ => FlagBlind.lift _

/-- the fault-free query is the query under the plan without failures: the reply answers the first attempt -/
theorem query_expected {y : Style} {st : State} (h : Wf y st) (port retries : Nat) :
    (query port retries (Net.init [.opened [.data (reply y st)]] [])).1 = .ok (expected st) := by
  have hp := (query1_plan port retries request PACKET_SIZE headerCheck decode ⟨[], some (reply y st)⟩
    (by simp [Plan1.wf, h.size, PACKET_SIZE]) (fun d e hd he => by
      cases hd
      rw [headerCheck_reply] at he
      cases he) [] []).1
  rw [((flagBlind_query port retries).init _ [false] (by simp)).1, query_exchange1]
  refine hp.trans ?_
  simp only [Plan1.outcome, headerCheck_reply, Res.bind_ok]
  exact decode_reply h

end Gd.Gs2
