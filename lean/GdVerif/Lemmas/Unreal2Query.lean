import GdVerif.Lemmas.Unreal2
import GdVerif.Lemmas.QSteps
/-
  The parts of the Unreal 2 exchange on the SPEC's datagrams: one request on a fault-free socket (`Live`, for the
  retried unit of C10), what the parsers make of the SPEC's answers and what the two listening loops accumulate
  (`whileOn`).  The whole query is followed once, in `Lemmas/Unreal2Faults.lean`.
-/
namespace Gd.Unreal2
open Gd Gd.Unreal2.Spec

/-- the transport state of a query in progress: one open socket (number 0) with queue `q`, no
scripted send faults — the state of a query on `Net.init [.opened script] []`.  The lemmas below are about socket 0
(`sock port`) and about receives into Unreal 2's buffer of `PACKET_SIZE` bytes, the only ones this protocol makes;
they serve the statements about one retried request (`Props/C10_unreal2.lean`).  Whole queries are followed in
`Steps` (`Lemmas/QSteps.lean`). -/
structure Live (w : Net) (q : List Delivery) : Prop where
  conns : w.conns = [q]
  faults : w.faults = []

def sock (port : Nat) : Sock := ⟨0, port, false⟩

theorem send_live {w : Net} {q : List Delivery} (h : Live w q) (port : Nat) (d : Bytes) :
    ∃ w', send (sock port) d w = (.ok (), w') ∧ Live w' q :=
  ⟨_, send_clean (sock port) d w h.faults, ⟨h.conns, h.faults⟩⟩

theorem recv_data {w : Net} {q : List Delivery} {d : Bytes} (h : Live w (.data d :: q)) (port : Nat)
    (hd : d.length ≤ PACKET_SIZE) :
    ∃ w', recv (sock port) (some PACKET_SIZE) w = (.ok d, w') ∧ Live w' q := by
  refine ⟨{ w with conns := setAt w.conns 0 q, log := w.log ++ [.recv 0 (some PACKET_SIZE) (some d.length)] }, ?_,
    ⟨by simp [h.conns, setAt], h.faults⟩⟩
  unfold Gd.recv
  simp only [sock, h.conns, List.getD_cons_zero, Bool.false_eq_true, ↓reduceIte, Option.getD_some,
    List.take_of_length_le hd]

theorem recv_silence {w : Net} {q : List Delivery} (h : Live w (.silence :: q)) (port : Nat) :
    ∃ w', recv (sock port) (some PACKET_SIZE) w = (.err .packetReceive, w') ∧ Live w' q := by
  refine ⟨{ w with conns := setAt w.conns 0 q, log := w.log ++ [.recv 0 (some PACKET_SIZE) none] }, ?_,
    ⟨by simp [h.conns, setAt], h.faults⟩⟩
  unfold Gd.recv
  simp only [sock, h.conns, List.getD_cons_zero]

theorem requestImpl_data {w : Net} {q : List Delivery} {d : Bytes} (h : Live w (.data d :: q)) (port : Nat)
    (kind : PacketKind) (hd : d.length ≤ PACKET_SIZE) :
    ∃ w', requestImpl (sock port) kind w = (.ok d, w') ∧ Live w' q := by
  obtain ⟨w1, hs, hl1⟩ := send_live h port (requestBytes kind)
  obtain ⟨w2, hr, hl2⟩ := recv_data hl1 port hd
  refine ⟨w2, ?_, hl2⟩
  unfold requestImpl
  rw [Q.bind_apply, hs]
  exact hr

theorem requestImpl_silence {w : Net} {q : List Delivery} (h : Live w (.silence :: q)) (port : Nat) (kind : PacketKind) :
    ∃ w', requestImpl (sock port) kind w = (.err .packetReceive, w') ∧ Live w' q := by
  obtain ⟨w1, hs, hl1⟩ := send_live h port (requestBytes kind)
  obtain ⟨w2, hr, hl2⟩ := recv_silence hl1 port
  refine ⟨w2, ?_, hl2⟩
  unfold requestImpl
  rw [Q.bind_apply, hs]
  exact hr

/-- every datagram is taken and the loop goes on -/
inductive Rounds {σ : Type} (body : σ → Bytes → Res (σ × Bool)) : σ → List Bytes → σ → Prop
  | nil (st : σ) : Rounds body st [] st
  | cons {st st1 st' : σ} {d : Bytes} {ds : List Bytes} (h : body st d = .ok (st1, true)) (rest : Rounds body st1 ds st') :
      Rounds body st (d :: ds) st'

/-- … except that the last datagram may end the loop -/
inductive RoundsStop {σ : Type} (body : σ → Bytes → Res (σ × Bool)) : σ → List Bytes → σ → Prop
  | nil (st : σ) : RoundsStop body st [] st
  | stop {st st' : σ} {d : Bytes} (h : body st d = .ok (st', false)) : RoundsStop body st [d] st'
  | cons {st st1 st' : σ} {d : Bytes} {ds : List Bytes} (h : body st d = .ok (st1, true)) (rest : RoundsStop body st1 ds st') :
      RoundsStop body st (d :: ds) st'

/-- `recvWhile` on a queue: its outcome and what it leaves queued.  It ends — with the accumulator — at the first
silence (which it consumes) or at the end of the queue, when `body` says stop, and with `body`'s error. -/
def whileOn {σ : Type} (body : σ → Bytes → Res (σ × Bool)) : σ → List Delivery → Res σ × List Delivery
  | st, [] => (.ok st, [])
  | st, .silence :: q => (.ok st, q)
  | st, .data d :: q =>
    match body st (d.take PACKET_SIZE) with
    | .ok (st', true) => whileOn body st' q
    | .ok (st', false) => (.ok st', q)
    | .err k => (.err k, q)
    | .crash => (.crash, q)

/-- `recvWhile` is `whileOn` of the queue, in any description `I` of the transport state by its queue in which a
receive takes the head of the queue (and times out on an empty one) -/
theorem ends_recvWhile {σ : Type} (s : Sock) (body : σ → Bytes → Res (σ × Bool)) (I : List Delivery → Net → Prop)
    (hnil : Ends (recv s (some PACKET_SIZE)) (.err .packetReceive) (I []) (I []))
    (hsil : ∀ q, Ends (recv s (some PACKET_SIZE)) (.err .packetReceive) (I (.silence :: q)) (I q))
    (hdat : ∀ d q, Ends (recv s (some PACKET_SIZE)) (.ok (d.take PACKET_SIZE)) (I (.data d :: q)) (I q)) :
    ∀ (q : List Delivery) (fuel : Nat) (st : σ), q.length < fuel →
      Ends (recvWhile s body fuel st) (whileOn body st q).1 (I q) (I (whileOn body st q).2) := by
  intro q
  induction q with
  | nil =>
    intro fuel st hf w hw
    cases fuel with
    | zero => omega
    | succ f =>
      obtain ⟨w1, h1, hat1⟩ := hnil w hw
      exact ⟨w1, by simp only [recvWhile, h1, whileOn], hat1⟩
  | cons d q ih =>
    intro fuel st hf w hw
    cases fuel with
    | zero => omega
    | succ f =>
      cases d with
      | silence =>
        obtain ⟨w1, h1, hat1⟩ := hsil q w hw
        exact ⟨w1, by simp only [recvWhile, h1, whileOn], hat1⟩
      | data d =>
        obtain ⟨w1, h1, hat1⟩ := hdat d q w hw
        cases hb : body st (d.take PACKET_SIZE) with
        | crash => exact ⟨w1, by simp only [recvWhile, h1, whileOn, hb], by simpa only [whileOn, hb] using hat1⟩
        | err k => exact ⟨w1, by simp only [recvWhile, h1, whileOn, hb], by simpa only [whileOn, hb] using hat1⟩
        | ok p =>
          obtain ⟨st', more⟩ := p
          cases more with
          | false => exact ⟨w1, by simp only [recvWhile, h1, whileOn, hb], by simpa only [whileOn, hb] using hat1⟩
          | true =>
            obtain ⟨w2, h2, hat2⟩ := ih f st' (by simpa using hf) w1 hat1
            exact ⟨w2, by simp only [recvWhile, h1, whileOn, hb]; exact h2, by simpa only [whileOn, hb] using hat2⟩

theorem whileOn_rounds {σ : Type} {body : σ → Bytes → Res (σ × Bool)} {st st' : σ} {ds : List Bytes}
    (hr : Rounds body st ds st') (hsz : ∀ d ∈ ds, d.length ≤ PACKET_SIZE) (q : List Delivery) :
    whileOn body st ((ds.map .data ++ [.silence]) ++ q) = (.ok st', q) := by
  induction hr with
  | nil st0 => rfl
  | cons h rest ih =>
    rename_i st0 st1 st2 d ds'
    have htake : d.take PACKET_SIZE = d := List.take_of_length_le (hsz d (List.mem_cons_self ..))
    simp only [List.map_cons, List.cons_append, whileOn, htake, h]
    exact ih (fun d' hd' => hsz d' (List.mem_cons_of_mem _ hd'))

/-- datagrams the loop takes until the last one stops it, or all of them: in the second case, which needs that the last
round said "go on" (or that there was none), the loop goes on with what follows -/
theorem whileOn_roundsStop {σ : Type} {body : σ → Bytes → Res (σ × Bool)} {st st' : σ} {ds : List Bytes}
    (hr : RoundsStop body st ds st') (hsz : ∀ d ∈ ds, d.length ≤ PACKET_SIZE) (tail : List Delivery) :
    whileOn body st (ds.map .data ++ tail) = (.ok st', tail) ∨
      ((ds = [] ∨ ∃ st1 d, body st1 d = .ok (st', true)) ∧
        whileOn body st (ds.map .data ++ tail) = whileOn body st' tail) := by
  induction hr with
  | nil st0 => exact .inr ⟨.inl rfl, rfl⟩
  | stop h =>
    rename_i st0 st1 d
    left
    simp only [List.map_cons, List.map_nil, List.cons_append, List.nil_append, whileOn,
      List.take_of_length_le (hsz d (List.mem_cons_self ..)), h]
  | cons h rest ih =>
    rename_i st0 st1 st2 d ds'
    have hstep : whileOn body st0 ((d :: ds').map .data ++ tail) = whileOn body st1 (ds'.map .data ++ tail) := by
      simp only [List.map_cons, List.cons_append, whileOn, List.take_of_length_le (hsz d (List.mem_cons_self ..)), h]
    rw [hstep]
    rcases ih (fun d' hd' => hsz d' (List.mem_cons_of_mem _ hd')) with e | ⟨hl, e⟩
    · exact .inl e
    · refine .inr ⟨.inr ?_, e⟩
      rcases hl with rfl | hx
      · cases rest
        exact ⟨st0, d, h⟩
      · exact hx

def rulesDg (st : State) (c : List (UStr × UStr)) : Bytes := reply st 1 (c.map encPair).flatten
def playersDg (st : State) (c : List SPlayer) : Bytes := reply st 2 (c.map encPlayer).flatten

theorem headers_then {α : Type} (st : State) (hh : st.header.length = 4) (k : PacketKind) (p : Par α) (body : Bytes) (x : α)
    (hp : DecodesEnd p body x) :
    (consumeHeaders k >>= fun _ => p).run (reply st k.code body) = .ok x := by
  have : DecodesEnd (consumeHeaders k >>= fun _ => p) (reply st k.code body) x :=
    DecodesEnd.bind (decodes_consumeHeaders k st.header hh) hp (by simp [reply, List.append_assoc])
  exact this.run

theorem rulesRound_dg (st : State) (hh : st.header.length = 4) (acc : MutatorsAndRules) (c : List (UStr × UStr))
    (hw : ∀ p ∈ c, wfStr p.1 = true ∧ wfStr p.2 = true) :
    rulesRound acc (rulesDg st c) = .ok (c.foldl addText acc, true) := by
  unfold rulesRound rulesDg
  obtain ⟨b1, h1, hr1, _⟩ := decodes_consumeHeaders .mutatorsAndRules st.header hh
    (Buf.new (reply st 1 (c.map encPair).flatten)) (c.map encPair).flatten (by simp [reply, List.append_assoc, PacketKind.code])
  rw [h1]
  obtain ⟨b2, h2, _⟩ := parseRules_body acc c hw b1 hr1
  simp only [h2]

theorem playersRound_dg (st : State) (hh : st.header.length = 4) (n : Nat) (acc : Players) (c : List SPlayer)
    (hw : ∀ p ∈ c, wfPlayer p = true) :
    playersRound n acc (playersDg st c) = .ok (c.foldl pushPlayer acc, decide ((c.foldl pushPlayer acc).totalLen < n)) := by
  unfold playersRound playersDg
  have := headers_then st hh .players (parsePlayers acc) _ _ (parsePlayers_body acc c hw)
  simp only [PacketKind.code] at this
  rw [this]

structure WfParts (cfg : Config) (st : State) : Prop where
  header : st.header.length = 4
  pairs : ∀ p ∈ st.pairs, wfStr p.1 = true ∧ wfStr p.2 = true
  players : ∀ p ∈ st.players, wfPlayer p = true
  infoSize : (infoDatagram st).length ≤ PACKET_SIZE
  rulesSize : ∀ d ∈ rulesDatagrams cfg st, d.length ≤ PACKET_SIZE
  playersSize : ∀ d ∈ playersDatagrams cfg st, d.length ≤ PACKET_SIZE
  announced : playersAnnounced cfg st = true
  info : Decodes parseServerInfo (encInfoCore st) (infoOf st)

/-- the one place where the conjunction `wf` is taken apart, in the order of its definition: the header, the nine
fields of the server info (`h1`–`h9`, which `decodes_serverInfo` turns into `info`), the pairs, the players, the three
size bounds, the announced number -/
theorem wf_parts (cfg : Config) (st : State) (h : wf cfg st = true) : WfParts cfg st := by
  simp only [wf, Bool.and_eq_true, decide_eq_true_eq, beq_iff_eq, List.all_eq_true] at h
  obtain ⟨⟨⟨⟨⟨⟨⟨⟨⟨⟨⟨⟨⟨⟨⟨hh, h1⟩, h2⟩, h3⟩, h4⟩, h5⟩, h6⟩, h7⟩, h8⟩, h9⟩, hp⟩, hpl⟩, hi⟩, hr⟩, hps⟩, ha⟩ := h
  exact ⟨hh, hp, hpl, hi, hr, hps, ha, decodes_serverInfo st h1 h2 h3 h4 h5 h6 h7 h8 h9⟩

theorem info_run (st : State) (hh : st.header.length = 4) (hd : Decodes parseServerInfo (encInfoCore st) (infoOf st)) :
    (consumeHeaders .serverInfo >>= fun _ => parseServerInfo).run (infoDatagram st) = .ok (infoOf st) := by
  have hend : DecodesEnd parseServerInfo (encInfo st) (infoOf st) := by
    intro b hr
    obtain ⟨b', h1, _, h3⟩ := hd b st.extra (by rw [hr, encInfo_eq])
    exact ⟨b', h1, h3⟩
  exact headers_then st hh .serverInfo parseServerInfo _ _ hend

theorem rules_rounds (st : State) (hh : st.header.length = 4) (cs : List (List (UStr × UStr)))
    (hw : ∀ c ∈ cs, ∀ p ∈ c, wfStr p.1 = true ∧ wfStr p.2 = true) (pre : List (Bytes × Bytes)) :
    Rounds rulesRound (mrOf pre) (cs.map (rulesDg st)) (mrOf (pre ++ cs.flatten.map pairText)) := by
  induction cs generalizing pre with
  | nil => simpa using Rounds.nil (mrOf pre)
  | cons c r ih =>
    have h1 := rulesRound_dg st hh (mrOf pre) c (hw c (by simp))
    rw [foldl_addText] at h1
    have h2 := ih (fun c' hc' => hw c' (by simp [hc'])) (pre ++ c.map pairText)
    simp only [List.map_cons, List.flatten_cons, List.map_append]
    rw [← List.append_assoc]
    exact Rounds.cons h1 h2

/-- the rules answer datagram by datagram: the first is parsed from the empty accumulator, the rounds of the listening
loop take the others, and the SPEC's view of all the pairs results -/
theorem rules_answer (cfg : Config) (st : State) (hp : WfParts cfg st) :
    ∃ first rest mr0, rulesDatagrams cfg st = first :: rest
      ∧ (consumeHeaders .mutatorsAndRules >>= fun _ => parseRules .empty).run first = .ok mr0
      ∧ Rounds rulesRound mr0 rest (expectedMR st) := by
  have hflat := split_flatten cfg.rulesCuts st.pairs
  cases hs : split cfg.rulesCuts st.pairs with
  | nil => exact absurd hs (split_ne_nil _ _)
  | cons c0 cs =>
    rw [hs] at hflat
    have hwc : ∀ c ∈ c0 :: cs, ∀ p ∈ c, wfStr p.1 = true ∧ wfStr p.2 = true := fun c hc p hpc =>
      hp.pairs p (by rw [← hflat]; exact List.mem_flatten.mpr ⟨c, hc, hpc⟩)
    refine ⟨rulesDg st c0, cs.map (rulesDg st), mrOf (c0.map pairText), ?_, ?_, ?_⟩
    · unfold rulesDatagrams
      rw [hs]
      rfl
    · have := headers_then st hp.header .mutatorsAndRules (parseRules (mrOf [])) _ _
        (parseRules_body (mrOf []) c0 (hwc c0 (List.mem_cons_self ..)))
      rw [foldl_addText] at this
      exact this
    · have hrounds := rules_rounds st hp.header cs (fun c hc => hwc c (List.mem_cons_of_mem _ hc)) (c0.map pairText)
      have : c0.map pairText ++ cs.flatten.map pairText = st.pairs.map pairText := by
        rw [← List.map_append, ← List.flatten_cons, hflat]
      rw [this] at hrounds
      exact hrounds

theorem totalLen_push (st : Players) (p : Player) : (st.push p).totalLen = st.totalLen + 1 := by
  unfold Players.push Players.totalLen
  split <;> simp <;> omega

theorem totalLen_foldl (ps : List SPlayer) (st : Players) : (ps.foldl pushPlayer st).totalLen = st.totalLen + ps.length := by
  induction ps generalizing st with
  | nil => simp
  | cons p r ih =>
    simp only [List.foldl_cons, List.length_cons]
    rw [ih, pushPlayer, totalLen_push]
    omega

theorem players_rounds (st : State) (hh : st.header.length = 4) (n : Nat) (cs : List (List SPlayer))
    (hw : ∀ c ∈ cs, ∀ p ∈ c, wfPlayer p = true) :
    ∀ (acc : Players), (cs.length ≤ 1 ∨ acc.totalLen + cs.dropLast.flatten.length < n) →
      RoundsStop (playersRound n) acc (cs.map (playersDg st)) (cs.flatten.foldl pushPlayer acc) := by
  induction cs with
  | nil => intro acc _; exact RoundsStop.nil acc
  | cons c r ih =>
    intro acc hinv
    have h1 := playersRound_dg st hh n acc c (hw c (by simp))
    cases r with
    | nil =>
      simp only [List.map_cons, List.map_nil, List.flatten_cons, List.flatten_nil, List.append_nil]
      cases hb : decide ((c.foldl pushPlayer acc).totalLen < n) with
      | true => rw [hb] at h1; exact RoundsStop.cons h1 (RoundsStop.nil _)
      | false => rw [hb] at h1; exact RoundsStop.stop h1
    | cons c' r' =>
      have hlt : acc.totalLen + c.length + ((c' :: r').dropLast).flatten.length < n := by
        rcases hinv with h | h
        · simp at h
        · simpa [List.dropLast, Nat.add_assoc] using h
      have hmore : decide ((c.foldl pushPlayer acc).totalLen < n) = true := by
        rw [totalLen_foldl]; simp; omega
      rw [hmore] at h1
      have h2 := ih (fun c0 hc0 => hw c0 (by simp [hc0])) (c.foldl pushPlayer acc)
        (Or.inr (by rw [totalLen_foldl]; exact hlt))
      simp only [List.map_cons, List.flatten_cons, List.foldl_append] at h2 ⊢
      exact RoundsStop.cons h1 h2

theorem expectedPlayers_eq (st : State) : st.players.foldl pushPlayer .empty = expectedPlayers st := by
  rw [foldl_pushPlayer]
  simp [Players.empty, expectedPlayers]

/-- the players answer cut into datagrams at any positions, the announced number not reached before the last one:
every datagram is taken and the result is the SPEC's -/
theorem players_answer (st : State) (cuts : List Nat) (hh : st.header.length = 4)
    (hw : ∀ p ∈ st.players, wfPlayer p = true)
    (hann : (split cuts st.players).length ≤ 1 ∨ (split cuts st.players).dropLast.flatten.length < st.numPlayers) :
    RoundsStop (playersRound st.numPlayers) .empty ((split cuts st.players).map (playersDg st)) (expectedPlayers st) := by
  have hflat := split_flatten cuts st.players
  have := players_rounds st hh st.numPlayers (split cuts st.players)
    (fun c hc p hp => hw p (by rw [← hflat]; exact List.mem_flatten.mpr ⟨c, hc, hp⟩)) .empty
    (hann.imp id fun h => by rw [show Players.empty.totalLen = 0 from rfl, Nat.zero_add]; exact h)
  rw [hflat, expectedPlayers_eq] at this
  exact this

theorem playersDatagrams_cons (cfg : Config) (st : State) :
    ∃ first rest, playersDatagrams cfg st = first :: rest := by
  unfold playersDatagrams
  cases hs : split cfg.playersCuts st.players with
  | nil => exact absurd hs (split_ne_nil _ _)
  | cons c cs => exact ⟨_, _, rfl⟩

theorem sectionResult_of_not_rulesFatal {cfg : Config} (h : rulesFatal cfg = false) (v : α) :
    ∃ o, sectionResult cfg.gather.mutatorsAndRules cfg.rulesOutcome v = .ok o := by
  unfold rulesFatal at h
  cases ht : cfg.gather.mutatorsAndRules with
  | skip => cases cfg.rulesOutcome <;> exact ⟨_, rfl⟩
  | try_ => cases cfg.rulesOutcome <;> exact ⟨_, rfl⟩
  | enforce =>
    have ho : cfg.rulesOutcome = .valid := by simpa [ht] using h
    exact ⟨_, by rw [ho]; rfl⟩

theorem wf_gather (cfg : Config) (g : Gather) (st : State) : wf { cfg with gather := g } st = wf cfg st := rfl

theorem applyPassword_empty (info : ServerInfo) : applyPassword info .empty = info := rfl

theorem applyPassword_numPlayers (info : ServerInfo) (mr : MutatorsAndRules) :
    (applyPassword info mr).numPlayers = info.numPlayers := by
  unfold applyPassword
  split <;> rfl

theorem applyPassword_eq (info : ServerInfo) (mr : MutatorsAndRules) (h : info.password = false) :
    applyPassword info mr = { info with password := expectedPassword mr } := by
  unfold applyPassword expectedPassword
  show (match mr.rules.lookup (asciiBytes "GamePassword") with
    | some vs => { info with password := asciiLower vs.flatten == asciiBytes "true" }
    | none => info) = _
  cases mr.rules.lookup (asciiBytes "GamePassword") with
  | none => cases info; simp_all
  | some vs => rfl

end Gd.Unreal2
