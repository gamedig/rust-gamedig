import GdVerif.Proto.GsCommon
import GdVerif.Proto.Valve
/-
  Lemmas about the association-list model of `HashMap` used by the GameSpy 1/2 models
  (`Gs.mapInsert / mapRemove / mapGet`) and about the canonical form `Gs.canon`; Quake (`Valve.mapInsert`), the GameSpy 3 (with
  JC2M, which runs on its tables) and Battalion 1944 models have copies of these operations of their own and come
  here through `Valve.mapRemove_eq`, `Valve.mapInsert_eq` and a lemma `… = Gs.mapGet` of their own (`Gs3.mapGet_eq`,
  `Battalion.get_eq_mapGet`).
-/
namespace Gd.Gs

def Distinct (m : Map β) : Prop := m.Pairwise (fun a b => a.1 ≠ b.1)

def HasKey (m : Map β) (k : Bytes) : Prop := ∃ p ∈ m, p.1 = k

theorem not_hasKey_nil (k : Bytes) : ¬ HasKey ([] : Map β) k := by
  rintro ⟨p, hp, _⟩; cases hp

theorem hasKey_cons {p : Bytes × β} {m : Map β} {k : Bytes} : HasKey (p :: m) k ↔ p.1 = k ∨ HasKey m k := by
  constructor
  · rintro ⟨q, hq, hk⟩
    rcases List.mem_cons.mp hq with rfl | hq'
    · exact Or.inl hk
    · exact Or.inr ⟨q, hq', hk⟩
  · rintro (h | ⟨q, hq, hk⟩)
    · exact ⟨p, by simp, h⟩
    · exact ⟨q, by simp [hq], hk⟩

theorem hasKey_append {a b : Map β} {k : Bytes} : HasKey (a ++ b) k ↔ HasKey a k ∨ HasKey b k := by
  constructor
  · rintro ⟨q, hq, hk⟩
    rcases List.mem_append.mp hq with h | h
    · exact Or.inl ⟨q, h, hk⟩
    · exact Or.inr ⟨q, h, hk⟩
  · rintro (⟨q, hq, hk⟩ | ⟨q, hq, hk⟩)
    · exact ⟨q, by simp [hq], hk⟩
    · exact ⟨q, by simp [hq], hk⟩

@[simp] theorem mapGet_nil (k : Bytes) : mapGet ([] : Map β) k = none := rfl

theorem mapGet_cons (p : Bytes × β) (m : Map β) (k : Bytes) :
    mapGet (p :: m) k = if p.1 == k then some p.2 else mapGet m k := by
  obtain ⟨a, b⟩ := p; rfl

theorem mapGet_eq_none_iff {m : Map β} {k : Bytes} : mapGet m k = none ↔ ¬ HasKey m k := by
  induction m with
  | nil => exact ⟨fun _ => not_hasKey_nil k, fun _ => rfl⟩
  | cons p r ih =>
    rw [mapGet_cons, hasKey_cons, not_or, ← ih]
    by_cases h : p.1 = k <;> simp [h]

theorem mapGet_none_of_not_hasKey {m : Map β} {k : Bytes} (h : ¬ HasKey m k) : mapGet m k = none :=
  mapGet_eq_none_iff.mpr h

theorem mapGet_append (a b : Map β) (k : Bytes) :
    mapGet (a ++ b) k = match mapGet a k with
      | some v => some v
      | none => mapGet b k := by
  induction a with
  | nil => simp
  | cons p r ih =>
    rw [List.cons_append, mapGet_cons, mapGet_cons]
    split
    · rfl
    · exact ih

theorem mapGet_append_left {a b : Map β} {k : Bytes} {v : β} (h : mapGet a k = some v) : mapGet (a ++ b) k = some v := by
  rw [mapGet_append, h]

theorem mapGet_append_right {a b : Map β} {k : Bytes} (h : ¬ HasKey a k) : mapGet (a ++ b) k = mapGet b k := by
  rw [mapGet_append, mapGet_none_of_not_hasKey h]

theorem hasKey_of_mapGet {m : Map β} {k : Bytes} {v : β} (h : mapGet m k = some v) : (k, v) ∈ m := by
  induction m with
  | nil => cases h
  | cons p r ih =>
    rw [mapGet_cons] at h
    split at h
    · rename_i hk
      cases h
      have : p.1 = k := by simpa using hk
      obtain ⟨a, b⟩ := p
      simp at this
      simp [this]
    · exact List.mem_cons_of_mem _ (ih h)

theorem mapGet_of_mem {m : Map β} (hd : Distinct m) {k : Bytes} {v : β} (h : (k, v) ∈ m) : mapGet m k = some v := by
  induction m with
  | nil => cases h
  | cons p r ih =>
    rw [mapGet_cons]
    rcases List.mem_cons.mp h with rfl | h'
    · simp
    · have hne : p.1 ≠ k := (List.pairwise_cons.mp hd).1 (k, v) h'
      have : (p.1 == k) = false := by simpa using hne
      rw [this]
      exact ih (List.pairwise_cons.mp hd).2 h'

theorem Distinct.perm {m m' : Map β} (hd : Distinct m) (hp : m'.Perm m) : Distinct m' :=
  List.Pairwise.perm hd hp.symm (fun h => Ne.symm h)

theorem mapGet_perm {m m' : Map β} (hd : Distinct m) (hp : m'.Perm m) (k : Bytes) : mapGet m' k = mapGet m k := by
  cases h : mapGet m k with
  | some v =>
    exact mapGet_of_mem (hd.perm hp) (hp.mem_iff.mpr (hasKey_of_mapGet h))
  | none =>
    cases h' : mapGet m' k with
    | none => rfl
    | some v =>
      have := mapGet_of_mem hd (hp.mem_iff.mp (hasKey_of_mapGet h'))
      rw [h] at this; cases this

theorem mapInsert_fresh {m : Map β} {k : Bytes} (v : β) (h : ¬ HasKey m k) : mapInsert m k v = m ++ [(k, v)] := by
  induction m with
  | nil => rfl
  | cons p r ih =>
    obtain ⟨a, b⟩ := p
    have h1 : ¬ a = k := fun e => h (hasKey_cons.mpr (Or.inl e))
    have h2 : ¬ HasKey r k := fun e => h (hasKey_cons.mpr (Or.inr e))
    have : (a == k) = false := by simpa using h1
    simp [mapInsert, this, ih h2]

theorem mapRemove_append (a b : Map β) (k : Bytes) : mapRemove (a ++ b) k = mapRemove a k ++ mapRemove b k := by
  simp [mapRemove]

theorem mapRemove_of_not_hasKey {m : Map β} {k : Bytes} (h : ¬ HasKey m k) : mapRemove m k = m := by
  unfold mapRemove
  rw [List.filter_eq_self]
  intro p hp
  have : p.1 ≠ k := fun e => h ⟨p, hp, e⟩
  simpa using this

theorem mapRemove_cons (p : Bytes × β) (m : Map β) (k : Bytes) :
    mapRemove (p :: m) k = if p.1 == k then mapRemove m k else p :: mapRemove m k := by
  unfold mapRemove
  rw [List.filter_cons]
  simp only [bne]
  cases p.1 == k <;> rfl

theorem mapGet_mapInsert' {β : Type} (m : Map β) (k : Bytes) (v : β) (k' : Bytes) :
    mapGet (mapInsert m k v) k' = if k = k' then some v else mapGet m k' := by
  induction m with
  | nil => simp [mapInsert, mapGet_cons]
  | cons p r ih =>
    obtain ⟨a, b⟩ := p
    simp only [mapInsert]
    by_cases ha : a = k
    · subst ha
      by_cases h : a = k' <;> simp [h, mapGet_cons]
    · by_cases h : a = k'
      · subst h; simp [ha, mapGet_cons, Ne.symm ha]
      · simp [ha, h, mapGet_cons, ih]

theorem foldl_mapInsert_fresh {β : Type} (m : Map β) (ps : List (Bytes × β)) (hf : ∀ p ∈ ps, ¬ HasKey m p.1)
    (hd : Distinct ps) : ps.foldl (fun m p => mapInsert m p.1 p.2) m = m ++ ps := by
  induction ps generalizing m with
  | nil => simp
  | cons p r ih =>
    simp only [List.foldl_cons]
    rw [mapInsert_fresh p.2 (hf p (by simp))]
    have hd' := List.pairwise_cons.mp hd
    rw [ih (m ++ [(p.1, p.2)]) ?_ hd'.2]
    · simp
    · intro q hq hk
      rcases hasKey_append.mp hk with h | h
      · exact hf q (by simp [hq]) h
      · obtain ⟨x, hx, hxk⟩ := h
        simp only [List.mem_singleton] at hx
        subst hx
        exact hd'.1 q hq hxk

theorem keyNat_inj : ∀ (a b : Bytes), keyNat a = keyNat b → a = b
  | [], [], _ => rfl
  | [], y :: s, h => by simp only [keyNat] at h; omega
  | x :: r, [], h => by simp only [keyNat] at h; omega
  | x :: r, y :: s, h => by
    simp only [keyNat] at h
    have hx := x.toNat_lt
    have hy := y.toNat_lt
    have : keyNat r = keyNat s ∧ x.toNat = y.toNat := by omega
    rw [keyNat_inj r s this.1, UInt8.toNat_inj.mp this.2]

def Sorted (m : Map β) : Prop := m.Pairwise (fun a b => keyNat a.1 ≤ keyNat b.1)

theorem insertKey_perm (p : Bytes × β) (m : Map β) : (insertKey p m).Perm (p :: m) := by
  induction m with
  | nil => exact List.Perm.refl _
  | cons q r ih =>
    simp only [insertKey]
    split
    · exact List.Perm.refl _
    · exact (List.Perm.cons q ih).trans (List.Perm.swap p q r)

theorem insertKey_sorted (p : Bytes × β) {m : Map β} (h : Sorted m) : Sorted (insertKey p m) := by
  induction m with
  | nil => exact List.pairwise_singleton _ _
  | cons q r ih =>
    simp only [insertKey]
    have hq := List.pairwise_cons.mp h
    split
    · rename_i hle
      refine List.pairwise_cons.mpr ⟨?_, h⟩
      intro x hx
      rcases List.mem_cons.mp hx with rfl | hx'
      · exact hle
      · exact Nat.le_trans hle (hq.1 x hx')
    · rename_i hnle
      refine List.pairwise_cons.mpr ⟨?_, ih hq.2⟩
      intro x hx
      have := (insertKey_perm p r).mem_iff.mp hx
      rcases List.mem_cons.mp this with rfl | hx'
      · omega
      · exact hq.1 x hx'

theorem canon_perm_self (m : Map β) : (canon m).Perm m := by
  induction m with
  | nil => exact List.Perm.refl _
  | cons p r ih =>
    simp only [canon, List.foldr_cons]
    exact (insertKey_perm p _).trans (List.Perm.cons p ih)

theorem canon_sorted (m : Map β) : Sorted (canon m) := by
  induction m with
  | nil => exact List.Pairwise.nil
  | cons p r ih =>
    simp only [canon, List.foldr_cons]
    exact insertKey_sorted p ih

theorem Distinct.ne_of_mem {m : Map β} (hd : Distinct m) {a b : Bytes × β} (ha : a ∈ m) (hb : b ∈ m) (hne : a ≠ b) :
    a.1 ≠ b.1 := by
  induction hd with
  | nil => cases ha
  | cons hhead _ ih =>
    rcases List.mem_cons.mp ha with rfl | ha'
    · rcases List.mem_cons.mp hb with rfl | hb'
      · exact (hne rfl).elim
      · exact hhead b hb'
    · rcases List.mem_cons.mp hb with rfl | hb'
      · exact Ne.symm (hhead a ha')
      · exact ih ha' hb'

theorem sorted_perm_unique {l1 l2 : Map β} (h1 : Sorted l1) (h2 : Sorted l2) (hp : l1.Perm l2) (hd : Distinct l2) :
    l1 = l2 := by
  refine List.Perm.eq_of_pairwise ?_ h1 h2 hp
  intro a b ha hb hab hba
  have hk : a.1 = b.1 := keyNat_inj _ _ (by omega)
  have ha2 : a ∈ l2 := hp.mem_iff.mp ha
  apply Classical.byContradiction
  intro hne
  exact hd.ne_of_mem ha2 hb hne hk

theorem canon_perm {m m' : Map β} (hd : Distinct m) (hp : m'.Perm m) : canon m' = canon m :=
  sorted_perm_unique (canon_sorted m') (canon_sorted m)
    ((canon_perm_self m').trans (hp.trans (canon_perm_self m).symm)) (hd.perm (canon_perm_self m))

theorem Sorted.filter {m : Map β} (h : Sorted m) (p : Bytes × β → Bool) : Sorted (m.filter p) :=
  List.Pairwise.filter p h

theorem Distinct.filter {m : Map β} (h : Distinct m) (p : Bytes × β → Bool) : Distinct (m.filter p) :=
  List.Pairwise.filter p h

theorem canon_filter {m : Map β} (hd : Distinct m) (p : Bytes × β → Bool) : (canon m).filter p = canon (m.filter p) :=
  sorted_perm_unique ((canon_sorted m).filter p) (canon_sorted _)
    (((canon_perm_self m).filter p).trans (canon_perm_self _).symm) ((hd.filter p).perm (canon_perm_self _))

theorem mapGet_canon {m : Map β} (hd : Distinct m) (k : Bytes) : mapGet (canon m) k = mapGet m k :=
  mapGet_perm hd (canon_perm_self m) k

theorem canon_distinct {m : Map β} (hd : Distinct m) : Distinct (canon m) := hd.perm (canon_perm_self m)

theorem mapGet_filter_key (m : Map β) (q : Bytes → Bool) (k : Bytes) :
    mapGet (m.filter (fun e => q e.1)) k = if q k then mapGet m k else none := by
  induction m with
  | nil => simp
  | cons p r ih =>
    rw [List.filter_cons]
    by_cases hp : p.1 = k
    · subst hp
      by_cases hq : q p.1 = true
      · simp [hq, mapGet_cons]
      · have hq' : q p.1 = false := by simpa using hq
        simp only [hq', Bool.false_eq_true, ↓reduceIte]
        rw [ih]
        simp [hq']
    · have hpk : (p.1 == k) = false := by simpa using hp
      by_cases hq : q p.1 = true
      · simp only [hq, ↓reduceIte, mapGet_cons, hpk, Bool.false_eq_true]
        exact ih
      · have hq' : q p.1 = false := by simpa using hq
        simp only [hq', Bool.false_eq_true, ↓reduceIte, mapGet_cons, hpk]
        exact ih

theorem mapGet_mapRemove_ne (m : Map β) {k' k : Bytes} (h : k' ≠ k) : mapGet (mapRemove m k') k = mapGet m k := by
  have := mapGet_filter_key m (fun x => x != k') k
  unfold mapRemove
  rw [this]
  have : (k != k') = true := by simpa using (Ne.symm h)
  simp [this]

theorem mapGet_mapRemove_self (m : Map Bytes) (k : Bytes) : mapGet (mapRemove m k) k = none := by
  have := mapGet_filter_key m (fun x => x != k) k
  unfold mapRemove
  rw [this]
  simp

/-- `m` once the keys `ks` have been removed, in whatever order: the entries with another key -/
def dropKeys (ks : List Bytes) (m : Map β) : Map β := m.filter (fun e => !ks.contains e.1)

theorem dropKeys_nil (m : Map β) : dropKeys [] m = m := List.filter_eq_self.mpr fun _ _ => rfl

theorem mapRemove_dropKeys (ks : List Bytes) (m : Map β) (k : Bytes) :
    mapRemove (dropKeys ks m) k = dropKeys (ks ++ [k]) m := by
  simp only [mapRemove, dropKeys, List.filter_filter, List.contains_append, List.contains_cons, List.contains_nil,
    Bool.or_false, Bool.not_or, bne, Bool.and_comm]

theorem mapRemove_eq_dropKeys (m : Map β) (k : Bytes) : mapRemove m k = dropKeys [k] m := by
  have := mapRemove_dropKeys [] m k
  rwa [dropKeys_nil] at this

theorem dropKeys_congr {ks ks' : List Bytes} (h : ∀ k, k ∈ ks ↔ k ∈ ks') (m : Map β) : dropKeys ks m = dropKeys ks' m := by
  simp only [dropKeys, List.contains_eq_mem, h]

theorem mapGet_dropKeys (ks : List Bytes) (m : Map β) {k : Bytes} (h : k ∉ ks) : mapGet (dropKeys ks m) k = mapGet m k := by
  rw [dropKeys, mapGet_filter_key m (fun k => !ks.contains k) k, if_pos (by simpa using h)]

/-- `remove(k)` after the removal of `ks`, when `k` is none of them: the value `m` has, and one more key removed -/
theorem take_dropKeys (ks : List Bytes) (m : Map β) {k : Bytes} (h : k ∉ ks) :
    (mapGet (dropKeys ks m) k, mapRemove (dropKeys ks m) k) = (mapGet m k, dropKeys (ks ++ [k]) m) := by
  rw [mapGet_dropKeys ks m h, mapRemove_dropKeys]

theorem dropKeys_absent (ks : List Bytes) {m : Map β} {k : Bytes} (h : mapGet m k = none) :
    dropKeys (ks ++ [k]) m = dropKeys ks m := by
  rw [← mapRemove_dropKeys]
  exact mapRemove_of_not_hasKey fun ⟨p, hp, hk⟩ => mapGet_eq_none_iff.mp h ⟨p, (List.mem_filter.mp hp).1, hk⟩

theorem canon_dropKeys {m : Map β} (hd : Distinct m) (ks : List Bytes) : dropKeys ks (canon m) = canon (dropKeys ks m) :=
  canon_filter hd _

theorem hasPassword_dropKeys (ks : List Bytes) (m : Map Bytes) (h : asciiBytes "password" ∉ ks) {v : Bytes} {b : Bool}
    (hv : mapGet m (asciiBytes "password") = some v) (hb : passwordValue v = .ok b) :
    hasPassword (dropKeys ks m) = .ok (b, dropKeys (ks ++ [asciiBytes "password"]) m) := by
  unfold hasPassword
  rw [mapGet_dropKeys ks m h, hv]
  simp only [hb, mapRemove_dropKeys]

/-- In a list without repetitions an element is not among those before it.  With the keys a function removes
listed in the order it removes them, `hn.not_mem_of_prefix ⟨_, rfl⟩` says that the next key is still there. -/
theorem _root_.List.Nodup.not_mem_of_prefix {α : Type} {l ks : List α} {k : α} (hn : l.Nodup) (hp : ks ++ [k] <+: l) :
    k ∉ ks := by
  obtain ⟨t, rfl⟩ := hp
  rw [List.append_assoc, List.nodup_append] at hn
  exact fun hk => hn.2.2 k hk k (List.mem_append_left _ (List.mem_singleton_self k)) rfl

theorem _root_.Gd.Valve.mapRemove_eq (m : Map β) (k : Bytes) : Valve.mapRemove m k = mapRemove m k := rfl

theorem _root_.Gd.Valve.mapInsert_eq (m : Map β) (k : Bytes) (v : β) : Valve.mapInsert m k v = mapInsert m k v := by
  induction m with
  | nil => rfl
  | cons p r ih => simp only [Valve.mapInsert, mapInsert, ih]

theorem _root_.List.Nodup.not_mem_take {α : Type} {l : List α} (h : l.Nodup) {i : Nat} {a : α} (hi : l[i]? = some a) :
    a ∉ l.take i :=
  h.not_mem_of_prefix ⟨l.drop (i + 1), by
    rw [show [a] = l[i]?.toList by rw [hi]; rfl, ← List.take_add_one, List.take_append_drop]⟩

/-- A server's typed variables are given as a table key ↦ optional value; `present` is the list of pairs it sends: the
entries that have a value. -/
def present (sk : List (Bytes × Option Bytes)) : List (Bytes × Bytes) :=
  sk.flatMap fun e => match e.2 with
    | some v => [(e.1, v)]
    | none => []

theorem present_append (a b : List (Bytes × Option Bytes)) : present (a ++ b) = present a ++ present b := by
  simp [present]

theorem mem_present {sk : List (Bytes × Option Bytes)} {p : Bytes × Bytes} (h : p ∈ present sk) : (p.1, some p.2) ∈ sk := by
  simp only [present, List.mem_flatMap] at h
  obtain ⟨e, he, hp⟩ := h
  cases ho : e.2 with
  | none => simp [ho] at hp
  | some v =>
    simp only [ho, List.mem_singleton] at hp
    subst hp
    have : e = (e.1, some v) := by rw [← ho]
    rw [← this]; exact he

theorem present_keys_sublist (sk : List (Bytes × Option Bytes)) : ((present sk).map (·.1)).Sublist (sk.map (·.1)) := by
  induction sk with
  | nil => exact List.Sublist.slnil
  | cons e r ih =>
    obtain ⟨k, o⟩ := e
    rw [show (k, o) :: r = [(k, o)] ++ r from rfl, present_append, List.map_append]
    cases o with
    | none => exact ih.cons k
    | some v => exact ih.cons_cons k

/-- what the table holds for a key (first match; `none` also for a key it does not list) -/
def tableGet : List (Bytes × Option Bytes) → Bytes → Option Bytes
  | [], _ => none
  | (k', o) :: r, k => if k' == k then o else tableGet r k

theorem mapGet_present (sk : List (Bytes × Option Bytes)) (hd : (sk.map (·.1)).Nodup) (k : Bytes) :
    mapGet (present sk) k = tableGet sk k := by
  induction sk with
  | nil => rfl
  | cons e r ih =>
    obtain ⟨k', o⟩ := e
    have hd' := List.nodup_cons.mp hd
    simp only [tableGet]
    rw [show (k', o) :: r = [(k', o)] ++ r from rfl, present_append, ← ih hd'.2]
    cases o with
    | some v => rfl
    | none =>
      -- an absent entry: nothing else in the table has its key
      show mapGet (present r) k = if k' == k then none else mapGet (present r) k
      split
      · rename_i h
        cases eq_of_beq h
        exact mapGet_none_of_not_hasKey fun ⟨p, hp, hpk⟩ => hd'.1 (List.mem_map.mpr ⟨_, mem_present hp, hpk⟩)
      · rfl

theorem tableGet_of_mem {sk : List (Bytes × Option Bytes)} (hd : (sk.map (·.1)).Nodup) {k : Bytes} {o : Option Bytes}
    (h : (k, o) ∈ sk) : tableGet sk k = o := by
  induction sk with
  | nil => cases h
  | cons e r ih =>
    obtain ⟨k', o'⟩ := e
    have hd' := List.nodup_cons.mp hd
    rcases List.mem_cons.mp h with he | hr
    · cases he
      simp only [tableGet, BEq.rfl, ↓reduceIte]
    · have hne : (k' == k) = false := beq_eq_false_iff_ne.mpr fun e => hd'.1 (e ▸ List.mem_map.mpr ⟨_, hr, rfl⟩)
      simp only [tableGet, hne, Bool.false_eq_true, ↓reduceIte]
      exact ih hd'.2 hr

/-- rows added by `while len <= i { push(default) }` read like the missing rows they replace -/
theorem _root_.Gd.getD_append_replicate {α : Type} (l : List α) (d : α) (n j : Nat) :
    (l ++ List.replicate n d).getD j d = l.getD j d := by
  simp only [List.getD_eq_getElem?_getD, List.getElem?_append]
  split
  · rfl
  · rename_i h
    rw [List.getElem?_eq_none (Nat.le_of_not_lt h), List.getElem?_replicate]
    split <;> rfl

end Gd.Gs
