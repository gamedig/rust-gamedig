import GdVerif.Lemmas.Gs3Faults
import GdVerif.Lemmas.Gs3Cut
/-
  GameSpy 3, C10 on replies whose packets may end inside value lists (`Spec.ConfigC`): the outcome prescribed for
  their packets; scripts and sends take only the challenge from the configuration (`cfg.closed`).
-/
namespace Gd.Gs3
open Gd Gd.Gs3.Spec Gd.Faults

/-- the outcome C10 prescribes for the packets of the response -/
def faultyPacketsC (cfg : ConfigC) (st : State) (plan : Plan) : Res (List Bytes) :=
  packetsOutcome (payloadsC cfg st) plan

theorem faulty_toC (cfg : ConfigX) (st : State) (plan : Plan) :
    cfg.toC.closed = cfg ∧ faultyPacketsC cfg.toC st plan = faultyPacketsX cfg st plan
    ∧ dataPacketsC cfg.toC st = dataPacketsX cfg st := by
  refine ⟨rfl, ?_, ?_⟩
  · simp only [faultyPacketsC, faultyPacketsX, payloadsC_toC]
  · simp only [dataPacketsC, dataPacketsX, payloadsC_toC]
    rfl

end Gd.Gs3
