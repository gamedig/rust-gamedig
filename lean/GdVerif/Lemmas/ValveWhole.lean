import GdVerif.Lemmas.ValveFaults
/-
  The whole Valve query (default gathering settings) against a conforming server that answers each of the three
  requests at once with one unsplit datagram: the case of `query_whole` (`Lemmas/ValveFaults.lean`) with no challenge
  round and no split, in the terms the game wrappers that run `valve::query` themselves use (The Ship, Battalion 1944).
-/
namespace Gd.Valve
open Gd Gd.Valve.Spec

/-- the three replies of a conforming server, each in one datagram -/
def singleScript (upper : Bool) (st : State) : List Delivery :=
  [.data (reply 0x49 (encSourceInfo upper st.info)), .data (reply 0x44 (encPlayers st.players)),
   .data (reply 0x45 (encRules st.rules))]

/-- what `expected` says for the default gathering settings -/
def expectedDefault (engine : Engine) (st : State) : Res Response :=
  if !appIdOk engine Gather.default st.info.appid then .err .badGame
  else .ok ⟨st.info, some st.players, some (expectedRules engine st.rules)⟩

/-- the configuration of such a server: default gathering, no challenge, every reply in one datagram -/
def singleConfig (engine : Engine) (upper : Bool) : Config :=
  ⟨engine, Gather.default, upper, [], ⟨[], .single⟩, ⟨[], .single⟩, ⟨[], .single⟩⟩

/-- the whole query from the initial state: one socket, the three replies queued on it — `query_whole` for
`singleConfig` -/
theorem query_single (ext : Ext) (port : Nat) (engine : Engine) (he : engine ≠ .goldSrc true)
    (retries : Nat) (upper : Bool) (st : State)
    (hinfo : wfSourceInfo engine st.info = true)
    (hpn : st.players.length < 256) (hpl : ∀ p ∈ st.players, wfPlayer (engine == Engine.new 2400) p = true)
    (hrn : st.rules.length < 65536) (hrl : ∀ r ∈ st.rules, okStr r.1 = true ∧ okStr r.2 = true)
    (hrd : distinctKeys st.rules = true)
    (hl1 : (reply 0x49 (encSourceInfo upper st.info)).length ≤ PACKET_SIZE)
    (hl2 : (reply 0x44 (encPlayers st.players)).length ≤ PACKET_SIZE)
    (hl3 : (reply 0x45 (encRules st.rules)).length ≤ PACKET_SIZE) :
    (query ext port engine Gather.default retries (Net.init [.opened (singleScript upper st)] [])).1
      = expectedDefault engine st := by
  have hpkt : infoPacket (singleConfig engine upper) st = reply 0x49 (encSourceInfo upper st.info) := by
    cases engine with
    | source ids => rfl
    | goldSrc f => cases f with
      | true => exact absurd rfl he
      | false => rfl
  have hwf : wf (singleConfig engine upper) st = true := by
    simp only [wf, Bool.and_eq_true, decide_eq_true_eq, List.all_eq_true]
    refine ⟨⟨⟨⟨⟨?_, hpn⟩, hpl⟩, hrn⟩, hrl⟩, hrd⟩
    cases engine with
    | source ids => exact hinfo
    | goldSrc f => cases f with
      | true => exact absurd rfl he
      | false => exact hinfo
  have hfit : fits (script (singleConfig engine upper) st) = true := by
    show fits [infoPacket (singleConfig engine upper) st, reply 0x44 (encPlayers st.players),
      reply 0x45 (encRules st.rules)] = true
    simp [fits, hpkt, hl1, hl2, hl3]
  have h := query_whole ext port retries (singleConfig engine upper) st hwf rfl ⟨trivial, trivial, trivial⟩ _ _ _
    (List.Perm.refl _) (List.Perm.refl _) (List.Perm.refl _) hfit
  rw [← script_eq_scriptAs] at h
  have hs : (script (singleConfig engine upper) st).map Delivery.data = singleScript upper st := by
    show [Delivery.data (infoPacket (singleConfig engine upper) st), _, _] = _
    rw [hpkt]
    rfl
  rw [hs] at h
  exact h
theorem expected_default (cfg : Config) (st : State) (hg : cfg.gather = Gather.default) :
    Valve.Spec.expected cfg st = expectedDefault cfg.engine st := by
  unfold Valve.Spec.expected expectedDefault
  rw [hg]
  rfl

end Gd.Valve
