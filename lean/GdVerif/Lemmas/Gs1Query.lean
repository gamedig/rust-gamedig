import GdVerif.Lemmas.Reassembly
import GdVerif.Lemmas.Gs1Spec
/-
  GameSpy 1: `query_vars` against any sequence of datagrams drawn from the reply's parts (any order, repetitions,
  omissions), with retries, on a transport without faults.
-/
namespace Gd.Gs1
open Gd Gd.Gs Gd.Gs1.Spec

theorem exists_map_of_drawn {α β : Type} (f : α → β) (S : α → Prop) : ∀ (l : List β),
    (∀ d ∈ l, ∃ a, S a ∧ d = f a) → ∃ l' : List α, l = l'.map f ∧ ∀ a ∈ l', S a := by
  intro l
  induction l with
  | nil => exact fun _ => ⟨[], rfl, fun _ h => by cases h⟩
  | cons d t ih =>
    intro h
    obtain ⟨a, ha, e⟩ := h d (by simp)
    obtain ⟨t', e2, h2⟩ := ih (fun x hx => h x (by simp [hx]))
    exact ⟨a :: t', by simp [e, e2], fun b hb => by
      rcases List.mem_cons.mp hb with rfl | hb'
      · exact ha
      · exact h2 b hb'⟩

theorem query_fst (port retries : Nat) (w : Net) :
    (query port retries w).1 = match (queryVars port retries w).1 with
      | .ok vars => buildResponse vars
      | .err k => .err k
      | .crash => .crash := by
  unfold query
  rw [Q.bind_apply]
  cases hq : queryVars port retries w with
  | mk res w' => cases res <;> rfl

/-- the transport state a GameSpy 1 attempt may start from: UDP socket `s` open, no send faults
scripted, exactly the datagrams `ds` queued -/
structure Ready (s : Sock) (w : Net) (ds : List Bytes) : Prop where
  udp : s.tcp = false
  isOpen : s.id < w.conns.length
  queue : w.conns.getD s.id [] = ds.map Delivery.data
  nofault : w.faults = []

theorem recvLoop_state (s : Sock) : ∀ (ds : List Bytes) (fuel : Nat) (st : LoopSt) (w : Net), Ready s w ds →
    ∃ ds', Ready s (recvLoop s fuel st w).2 ds' ∧ (∀ d ∈ ds', d ∈ ds) := by
  intro ds
  induction ds with
  | nil =>
    intro fuel st w hr
    cases fuel with
    | zero => exact ⟨[], hr, fun _ h => h⟩
    | succ f =>
      unfold recvLoop
      split
      · exact ⟨[], hr, fun _ h => h⟩
      · rw [Q.bind_apply]
        obtain ⟨w1, hrecv, hc, hf⟩ := recv_udp_empty s hr.udp w PACKET_SIZE (by simpa using hr.queue)
        rw [hrecv]
        exact ⟨[], ⟨hr.udp, by rw [hc]; exact hr.isOpen, by rw [hc]; simpa using hr.queue, by rw [hf]; exact hr.nofault⟩,
          fun _ h => h⟩
  | cons d r ih =>
    intro fuel st w hr
    cases fuel with
    | zero => exact ⟨d :: r, hr, fun _ h => h⟩
    | succ f =>
      unfold recvLoop
      split
      · exact ⟨d :: r, hr, fun _ h => h⟩
      · rw [Q.bind_apply]
        obtain ⟨w1, hrecv, hc, hf⟩ :=
          recv_udp_data s hr.udp w d (r.map Delivery.data) PACKET_SIZE (by simpa using hr.queue)
        have hr1 : Ready s w1 r :=
          ⟨hr.udp, by rw [hc]; simpa [setAt_length] using hr.isOpen,
            by rw [hc, getD_setAt]; simp [hr.isOpen], by rw [hf]; exact hr.nofault⟩
        rw [hrecv]
        simp only
        rw [Q.bind_apply]
        cases hp : processPacket st (d.take PACKET_SIZE) with
        | crash => exact ⟨r, by simpa [Q.lift] using hr1, fun x hx => by simp [hx]⟩
        | err k => exact ⟨r, by simpa [Q.lift] using hr1, fun x hx => by simp [hx]⟩
        | ok st' =>
          simp only [Q.lift]
          obtain ⟨ds', h1, h2⟩ := ih f st' w1 hr1
          exact ⟨ds', h1, fun x hx => by simp [h2 x hx]⟩

theorem attempt_ready (s : Sock) (w : Net) (ds : List Bytes) (hr : Ready s w ds) (hlen : ∀ d ∈ ds, d.length ≤ PACKET_SIZE) :
    (getServerValuesImpl s w).1 = loopOn LoopSt.init ds
    ∧ ∃ ds', Ready s (getServerValuesImpl s w).2 ds' ∧ (∀ d ∈ ds', d ∈ ds) := by
  rw [getServerValuesImpl_apply]
  have hsend : send s statusRequest w = (.ok (), { w with log := w.log ++ [.send s.id s.port statusRequest false] }) := by
    unfold send
    rw [hr.nofault]
  simp only [Q.bind', hsend]
  have hr' : Ready s { w with log := w.log ++ [.send s.id s.port statusRequest false] } ds :=
    ⟨hr.udp, hr.isOpen, hr.queue, hr.nofault⟩
  refine ⟨?_, recvLoop_state s ds _ _ _ hr'⟩
  apply recvLoop_eq_loopOn s hr.udp ds
  · exact hr.isOpen
  · exact hr.queue
  · exact hlen
  · have := hr.queue
    simp only [queued]
    rw [this]
    simp

/-- retried attempts over datagrams drawn from the parts of one reply: all the variables, or an
error -/
theorem retry_drawn {y : Style} {P : List NPart} (hP : PartsOk y P) (hne : P ≠ []) (s : Sock) :
    ∀ (r : Nat) (w : Net) (ds : List NPart), Ready s w (ds.map (encN y P.length)) → (∀ a ∈ ds, a ∈ P) →
      (∀ a ∈ P, (encN y P.length a).length ≤ PACKET_SIZE) →
      (retryOnTimeout r (getServerValuesImpl s) w).1 = .ok (canon (allOf P))
      ∨ ∃ k, (retryOnTimeout r (getServerValuesImpl s) w).1 = .err k := by
  have hlenOf : ∀ ds : List NPart, (∀ a ∈ ds, a ∈ P) → (∀ a ∈ P, (encN y P.length a).length ≤ PACKET_SIZE) →
      ∀ d ∈ ds.map (encN y P.length), d.length ≤ PACKET_SIZE := fun ds hall hsz d hd => by
    obtain ⟨a, ha, rfl⟩ := List.mem_map.mp hd
    exact hsz a (hall a ha)
  intro r
  induction r with
  | zero =>
    intro w ds hr hall hsz
    have hlen := hlenOf ds hall hsz
    simp only [retryOnTimeout]
    rw [(attempt_ready s w _ hr hlen).1]
    exact loopOn_drawn hP hne ds [] LoopSt.init (Inv.init y P) hall
  | succ r ih =>
    intro w ds hr hall hsz
    have hlen := hlenOf ds hall hsz
    obtain ⟨h1, ds', hr', hsub⟩ := attempt_ready s w _ hr hlen
    simp only [retryOnTimeout]
    cases hf : getServerValuesImpl s w with
    | mk res w' =>
      rw [hf] at h1 hr'
      simp only at h1 hr'
      cases res with
      | ok m =>
        rcases loopOn_drawn hP hne ds [] LoopSt.init (Inv.init y P) hall with h | ⟨k, h⟩
        · left; simp only; rw [h1, h]
        · rw [← h1] at h; cases h
      | crash => 
        rcases loopOn_drawn hP hne ds [] LoopSt.init (Inv.init y P) hall with h | ⟨k, h⟩
        · rw [← h1] at h; cases h
        · rw [← h1] at h; cases h
      | err k =>
        simp only
        split
        · -- a timeout: the next attempt starts from what is left of the queue
          have hdrawn : ∀ d ∈ ds', ∃ a, a ∈ P ∧ d = encN y P.length a := by
            intro d hd
            obtain ⟨a, ha, e⟩ := List.mem_map.mp (hsub d hd)
            exact ⟨a, hall a ha, e.symm⟩
          obtain ⟨dsP, e, hallP⟩ := exists_map_of_drawn _ _ ds' hdrawn
          exact ih w' dsP (e ▸ hr') hallP hsz
        · exact Or.inr ⟨k, rfl⟩

end Gd.Gs1
