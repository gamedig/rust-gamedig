import GdVerif.Proto.Cli
import GdVerif.Lemmas.Codec
/-
  Helper lemmas for C19: element names, tag nesting, escaping.
-/
open Gd Gd.Cli
theorem utf8EncodeChar_bytes (c : Nat) (hc : c < 0x110000) :
    ∀ b ∈ utf8EncodeChar c, (c < 128 ∧ b.toNat = c) ∨ b.toNat ≥ 128 := by
  intro b hb
  unfold utf8EncodeChar at hb
  by_cases h1 : c < 0x80
  · rw [if_pos h1, List.mem_singleton] at hb
    exact Or.inl ⟨h1, hb ▸ toNat_ofNat_lt c (by omega)⟩
  · -- every byte of a longer encoding is `ofNat n` with `128 ≤ n < 256`
    have hge : ∀ n, 128 ≤ n → n < 256 → (UInt8.ofNat n).toNat ≥ 128 := fun n h128 h256 => by
      rw [toNat_ofNat_lt n h256]; exact h128
    right
    rw [if_neg h1] at hb
    by_cases h2 : c < 0x800
    · rw [if_pos h2] at hb
      simp only [List.mem_cons, List.not_mem_nil, or_false] at hb
      rcases hb with rfl | rfl <;> exact hge _ (by omega) (by omega)
    rw [if_neg h2] at hb
    by_cases h3 : c < 0x10000
    · rw [if_pos h3] at hb
      simp only [List.mem_cons, List.not_mem_nil, or_false] at hb
      rcases hb with rfl | rfl | rfl <;> exact hge _ (by omega) (by omega)
    rw [if_neg h3] at hb
    simp only [List.mem_cons, List.not_mem_nil, or_false] at hb
    rcases hb with rfl | rfl | rfl | rfl <;> exact hge _ (by omega) (by omega)

theorem isControl_iff (c : Nat) : isControl c = true ↔ c < 32 ∨ (127 ≤ c ∧ c < 160) := by
  simp only [isControl, Bool.or_eq_true, Bool.and_eq_true, decide_eq_true_eq]

/-- a numeric character reference to a scalar below 0x100: printable ASCII from `#` on, and no `<` -/
theorem charRef_bytes (c : Nat) (hc : c < 256) :
    ∀ b ∈ asciiBytes "&#x" ++ hexUpper c ++ asciiBytes ";", (35 ≤ b.toNat ∧ b.toNat ≠ 60) ∧ b.toNat < 128 := by
  have hd : ∀ n, n < 16 → (35 ≤ (hexUpperDigit n).toNat ∧ (hexUpperDigit n).toNat ≠ 60) ∧ (hexUpperDigit n).toNat < 128 := by
    decide
  intro b hb
  simp only [List.mem_append] at hb
  rcases hb with (hb | hb) | hb
  · revert b; decide
  · unfold hexUpper at hb
    by_cases h16 : c < 16
    · rw [if_pos h16, List.mem_singleton] at hb
      exact hb ▸ hd c h16
    · rw [if_neg h16] at hb
      simp only [List.mem_cons, List.not_mem_nil, or_false] at hb
      rcases hb with rfl | rfl <;> exact hd _ (by omega)
  · revert b; decide

theorem namedRef_bytes : ∀ bs ∈ [asciiBytes "&amp;", asciiBytes "&lt;", asciiBytes "&gt;", asciiBytes "&quot;", asciiBytes "&apos;"],
    ∀ b ∈ bs, (35 ≤ b.toNat ∧ b.toNat ≠ 60) ∧ b.toNat < 128 := by decide

/-- what `xml_escape` writes for a scalar: one of the five named references; U+FFFD; a numeric reference, for a control
character other than NUL (for TAB / LF only inside an attribute value); or the character itself, which then is none of
the characters with a reference, not a control character other than TAB / LF in element text, and not NUL / U+FFFE /
U+FFFF -/
theorem escapeScalar_cases (isAttr : Bool) (c : Nat) :
    escapeScalar isAttr c ∈ [asciiBytes "&amp;", asciiBytes "&lt;", asciiBytes "&gt;", asciiBytes "&quot;", asciiBytes "&apos;"]
    ∨ escapeScalar isAttr c = utf8EncodeChar 0xFFFD
    ∨ (isControl c = true ∧ c ≠ 0 ∧ escapeScalar isAttr c = asciiBytes "&#x" ++ hexUpper c ++ asciiBytes ";")
    ∨ ((((c = 9 ∨ c = 10) ∧ isAttr = false) ∨ ¬ isControl c = true)
        ∧ (c ≠ 38 ∧ c ≠ 60 ∧ c ≠ 62 ∧ c ≠ 34 ∧ c ≠ 39 ∧ c ≠ 0 ∧ c ≠ 0xFFFE ∧ c ≠ 0xFFFF)
        ∧ escapeScalar isAttr c = utf8EncodeChar c) := by
  by_cases hnamed : c = 38 ∨ c = 60 ∨ c = 62 ∨ c = 34 ∨ c = 39
  · rcases hnamed with rfl | rfl | rfl | rfl | rfl <;> exact Or.inl (by revert isAttr; decide +kernel)
  simp only [not_or] at hnamed
  obtain ⟨h38, h60, h62, h34, h39⟩ := hnamed
  rw [escapeScalar, if_neg (mt beq_iff_eq.mp h38), if_neg (mt beq_iff_eq.mp h60), if_neg (mt beq_iff_eq.mp h62),
    if_neg (mt beq_iff_eq.mp h34), if_neg (mt beq_iff_eq.mp h39)]
  by_cases hnon : (c == 0 || c == 0xFFFE || c == 0xFFFF) = true
  · rw [if_pos hnon]; exact Or.inr (Or.inl rfl)
  rw [if_neg hnon]
  simp only [Bool.or_eq_true, beq_iff_eq, not_or] at hnon
  by_cases htl : ((c == 9 || c == 10) && !isAttr) = true
  · rw [if_pos htl]
    simp only [Bool.and_eq_true, Bool.or_eq_true, beq_iff_eq, Bool.not_eq_true'] at htl
    exact Or.inr (Or.inr (Or.inr ⟨Or.inl htl, ⟨h38, h60, h62, h34, h39, hnon.1.1, hnon.1.2, hnon.2⟩, rfl⟩))
  rw [if_neg htl]
  by_cases hctl : isControl c = true
  · rw [if_pos hctl]; exact Or.inr (Or.inr (Or.inl ⟨hctl, hnon.1.1, rfl⟩))
  · rw [if_neg hctl]
    exact Or.inr (Or.inr (Or.inr ⟨Or.inr hctl, ⟨h38, h60, h62, h34, h39, hnon.1.1, hnon.1.2, hnon.2⟩, rfl⟩))

theorem harmless_of_all (isAttr : Bool) (bs : Bytes) (h : ∀ b ∈ bs, 35 ≤ b.toNat ∧ b.toNat ≠ 60) :
    (60 : UInt8) ∉ bs ∧ (∀ b ∈ bs, b.toNat < 32 → (isAttr = false ∧ (b.toNat = 9 ∨ b.toNat = 10)))
    ∧ (isAttr = true → (34 : UInt8) ∉ bs) :=
  ⟨fun hm => (h _ hm).2 rfl, fun b hb hlt => absurd (h b hb).1 (by omega), fun _ hm => absurd (h _ hm).1 (by decide)⟩

def evNameOk : XmlEv → Bool
  | .start n _ => isXmlName n
  | .end n => isXmlName n
  | .empty n _ => isXmlName n
  | .text _ => true

theorem elemOf_name_ok (k : Bytes) : isXmlName (elemOf k).1 = true := by
  unfold elemOf
  split
  · assumption
  · show isXmlName (asciiBytes "entry") = true
    decide

mutual
  theorem names_json (key : Option Bytes) : ∀ j : J, ∀ e ∈ jsonToXml key j, evNameOk e = true
    | .obj ms => by
      cases key with
      | some k =>
        simp only [jsonToXml, List.forall_mem_append, List.forall_mem_singleton]
        exact ⟨⟨elemOf_name_ok k, names_members ms⟩, elemOf_name_ok k⟩
      | none => simp only [jsonToXml]; exact names_members ms
    | .arr items => by simp only [jsonToXml]; exact names_items _ items
    | .null => by
      cases key with
      | some k => simp only [jsonToXml, List.forall_mem_singleton]; exact elemOf_name_ok k
      | none => simp [jsonToXml]
    | .bool _ | .num _ | .str _ => by simp only [jsonToXml]; exact names_leaf key _
  theorem names_items (key : Option Bytes) : ∀ l : JList, ∀ e ∈ itemsToXml key l, evNameOk e = true
    | .nil => by simp [itemsToXml]
    | .cons h t => by
      simp only [itemsToXml, List.forall_mem_append]
      exact ⟨names_json key h, names_items key t⟩
  theorem names_members : ∀ m : JMembers, ∀ e ∈ membersToXml m, evNameOk e = true
    | .nil => by simp [membersToXml]
    | .cons k v t => by
      simp only [membersToXml, List.forall_mem_append]
      exact ⟨names_json (some k) v, names_members t⟩
  theorem names_leaf (key : Option Bytes) (text : Bytes) : ∀ e ∈ leaf key text, evNameOk e = true := by
    cases key with
    | some k =>
      simp only [leaf, List.forall_mem_cons]
      exact ⟨elemOf_name_ok k, rfl, elemOf_name_ok k, nofun⟩
    | none => simp only [leaf, List.forall_mem_singleton]; rfl
end

/-- tag nesting: process events with a stack of open element names -/
def nest : List XmlEv → List Bytes → Option (List Bytes)
  | [], st => some st
  | .start n _ :: r, st => nest r (n :: st)
  | .end n :: r, st =>
    match st with
    | top :: st' => if top == n then nest r st' else none
    | [] => none
  | .empty _ _ :: r, st => nest r st
  | .text _ :: r, st => nest r st

theorem nest_append_start_end (n : Bytes) (a : Option Bytes) (mid rest : List XmlEv) (st : List Bytes)
    (h : ∀ st', nest (mid ++ ([XmlEv.end n] ++ rest)) st' = nest ([XmlEv.end n] ++ rest) st') :
    nest ([XmlEv.start n a] ++ mid ++ [XmlEv.end n] ++ rest) st = nest rest st := by
  have := h (n :: st)
  simp only [List.singleton_append] at this
  rw [show [XmlEv.start n a] ++ mid ++ [XmlEv.end n] ++ rest = XmlEv.start n a :: (mid ++ XmlEv.end n :: rest) by simp]
  simp only [nest, this, beq_self_eq_true, ↓reduceIte]

mutual
  theorem nest_json (key : Option Bytes) : ∀ (j : J) (rest : List XmlEv) (st : List Bytes),
      nest (jsonToXml key j ++ rest) st = nest rest st
    | .obj ms, rest, st => by
      cases key with
      | some k =>
        simp only [jsonToXml]
        exact nest_append_start_end _ _ _ rest st (fun st' => nest_members ms _ st')
      | none => simp only [jsonToXml]; exact nest_members ms rest st
    | .arr items, rest, st => by simp only [jsonToXml]; exact nest_items _ items rest st
    | .null, rest, st => by cases key <;> simp [jsonToXml, nest]
    | .bool _, rest, st | .num _, rest, st | .str _, rest, st => by simp only [jsonToXml]; exact nest_leaf key _ rest st
  theorem nest_items (key : Option Bytes) : ∀ (l : JList) (rest : List XmlEv) (st : List Bytes),
      nest (itemsToXml key l ++ rest) st = nest rest st
    | .nil, rest, st => by simp [itemsToXml]
    | .cons h t, rest, st => by
      simp only [itemsToXml, List.append_assoc]
      rw [nest_json key h, nest_items key t]
  theorem nest_members : ∀ (m : JMembers) (rest : List XmlEv) (st : List Bytes),
      nest (membersToXml m ++ rest) st = nest rest st
    | .nil, rest, st => by simp [membersToXml]
    | .cons k v t, rest, st => by
      simp only [membersToXml, List.append_assoc]
      rw [nest_json (some k) v, nest_members t]
  theorem nest_leaf (key : Option Bytes) (text : Bytes) (rest : List XmlEv) (st : List Bytes) :
      nest (leaf key text ++ rest) st = nest rest st := by
    cases key <;> simp [leaf, nest]
end

