import GdVerif.Lemmas.Reassembly
import GdVerif.Lemmas.Gs3Response
import GdVerif.Lemmas.Gs3Exchange
/-
  GameSpy 3: the whole query against the SPEC's server (any arrival order of the data packets).
-/
namespace Gd.Gs3
open Gd Gd.Gs3.Spec

/-- The data packets `i, i + 1, …` of any payloads `ps`, each within the client's 2048-byte buffer and with an id that
fits seven bits, decode to the packets `fragsFrom` of those payloads. -/
theorem wire_packets (unknown : List Nat) (total : Nat) (ps : List Bytes) (i : Nat)
    (hcount : i + ps.length ≤ 128)
    (hsize : ∀ d ∈ packetsFrom unknown total i ps, d.length ≤ PACKET_SIZE) :
    (packetsFrom unknown total i ps).map decodeFrag = (fragsFrom total i ps).map .ok := by
  induction ps generalizing i with
  | nil => rfl
  | cons p r ih =>
    simp only [packetsFrom, fragsFrom, List.map_cons, List.length_cons] at hsize hcount ⊢
    rw [decodeFrag_dataPacket i (by omega) _ _ p (hsize _ (by simp)), ih (i + 1) (by omega) (fun d hd => hsize d (by simp [hd]))]

theorem payloads_ne_nil (cfg : Config) (st : State) : payloads cfg st ≠ [] := by
  unfold payloads; split <;> simp

/-- the receive loop on the data packets of any non-empty list of non-empty payloads (at most 128: the id is seven
bits of a byte), in any order of arrival -/
theorem feed_arrival_ps (unknown : List Nat) (ps : List Bytes) (hne : ps ≠ [])
    (hcount : ps.length ≤ 128) (hpay : ∀ p ∈ ps, p ≠ [])
    (hsize : ∀ d ∈ packetsFrom unknown ps.length 0 ps, d.length ≤ PACKET_SIZE)
    (arrival : List Bytes) (h : arrival.Perm (packetsFrom unknown ps.length 0 ps)) :
    feed Acc.init (arrival.map decodeFrag) = .ok ps := by
  have hdec : (arrival.map decodeFrag).Perm ((frags ps).map .ok) := by
    have := h.map decodeFrag
    rwa [wire_packets _ _ _ 0 (by omega) hsize] at this
  obtain ⟨L, hperm, hL⟩ := perm_map_inv Res.ok hdec
  rw [hL]
  -- `feed_frags`: the payloads, or some id seen twice; the ids that arrive are a permutation of `0 … n-1`
  have hids : (ids L).Perm (List.range ps.length) := by
    rw [← ids_frags]; exact hperm.map _
  rcases feed_frags ps hne hpay L [] Acc.init (Rep.init _) (by simp [ids])
      (fun f hf => (mem_frags _ f).mp (hperm.subset (by simpa using hf)))
      (fun i hi => by simpa using hids.symm.subset (List.mem_range.mpr hi)) with hok | ⟨_, hdup⟩
  · exact hok
  · exact absurd (hids.symm.nodup List.nodup_range) (by simpa using hdup)

theorem feed_arrival (cfg : Config) (st : State)
    (hcount : (payloads cfg st).length ≤ 128) (hpay : ∀ p ∈ payloads cfg st, p ≠ [])
    (hsize : ∀ d ∈ dataPackets cfg st, d.length ≤ PACKET_SIZE)
    (arrival : List Bytes) (h : arrival.Perm (dataPackets cfg st)) :
    feed Acc.init (arrival.map decodeFrag) = .ok (payloads cfg st) :=
  feed_arrival_ps cfg.unknown (payloads cfg st) (payloads_ne_nil cfg st) hcount hpay hsize arrival h

theorem encSlice_ne_nil (st : State) (sl : Slice) : encSlice st sl ≠ [] := by
  simp [encSlice, cstr]

theorem wf_wire (cfg : Config) (st : State) (h : wf cfg st = true) :
    (payloads cfg st).length ≤ 128 ∧ (∀ p ∈ payloads cfg st, p ≠ []) ∧ (∀ d ∈ dataPackets cfg st, d.length ≤ PACKET_SIZE)
    ∧ -(2 ^ 31 : Int) ≤ cfg.challenge ∧ cfg.challenge < 2 ^ 31 := by
  obtain ⟨_, _, _, _, _, _, _, hne, hrest, hlen, hlo, hhi, hsize⟩ := wf_parts cfg st h
  refine ⟨?_, ?_, fun d hd => of_decide_eq_true (List.all_eq_true.mp hsize d hd), hlo, hhi⟩ <;> unfold payloads <;>
    cases hl : cfg.layout with
    | nil => rw [hl] at hne; cases hne
    | cons first rest => ?_
  · rw [hl] at hlen
    simpa using hlen
  · rw [hl, List.drop_succ_cons, List.drop_zero, List.all_eq_true] at hrest
    intro p hp
    rcases List.mem_cons.mp hp with rfl | hp
    · exact List.append_ne_nil_of_left_ne_nil (List.append_ne_nil_of_right_ne_nil _ (List.cons_ne_nil _ _)) _
    · obtain ⟨ss, hss, rfl⟩ := List.mem_map.mp hp
      cases ss with
      | nil => exact absurd (hrest [] hss) (by decide)
      | cons sl r => exact List.append_ne_nil_of_left_ne_nil (encSlice_ne_nil st sl) _

/-! The client's two requests are the SPEC's: the data request with the challenge as a big-endian i32, without it for `0`. -/

theorem handshakeRequest_eq : requestBytes 9 none none = handshakeRequest := by decide

theorem dataRequest_eq (c : Int) :
    requestBytes 0 (if c = 0 then none else some c) (some DEFAULT_PAYLOAD) = dataRequest c := by
  unfold requestBytes dataRequest
  by_cases hc : c = 0
  · subst hc; decide
  · simp only [hc, ↓reduceIte]
    have h1 : natBE 2 65277 ++ [UInt8.ofNat 0] ++ natBE 4 SESSION_ID = [0xFE, 0xFD, 0x00] ++ sessionId := by decide
    rw [h1]
    rfl

/-- The whole exchange against a server that answers the handshake with challenge `c` and then sends
the data packets of the payloads `ps` in ANY order of arrival, then silence; no send fails: the
post-processing `post` is applied to `ps`, and the client has sent exactly the two requests. -/
theorem exchange_wire (c : Int) (hlo : -(2 ^ 31 : Int) ≤ c) (hhi : c < 2 ^ 31) (unknown : List Nat) (ps : List Bytes)
    (hne : ps ≠ []) (hcount : ps.length ≤ 128) (hpay : ∀ p ∈ ps, p ≠ [])
    (hsize : ∀ d ∈ packetsFrom unknown ps.length 0 ps, d.length ≤ PACKET_SIZE)
    (port r : Nat) {α : Type} (post : List Bytes → Res α)
    (arrival : List Bytes) (harr : arrival.Perm (packetsFrom unknown ps.length 0 ps)) :
    (exchange port r DEFAULT_PAYLOAD false post
        (Net.init [.opened ((handshakeReply c :: arrival).map .data)] [])).1 = post ps
    ∧ sentOf (exchange port r DEFAULT_PAYLOAD false post
        (Net.init [.opened ((handshakeReply c :: arrival).map .data)] [])).2.log = [handshakeRequest, dataRequest c] := by
  let s : Sock := ⟨0, port, false⟩
  let w1 : Net := ⟨[], [(handshakeReply c :: arrival).map .data], [], [.opened 0 false port false]⟩
  have hopen : openSock false port (Net.init [.opened ((handshakeReply c :: arrival).map .data)] []) = (.ok s, w1) := rfl
  obtain ⟨himpl, hsent⟩ := impl_after_handshake s rfl DEFAULT_PAYLOAD w1 c hlo hhi arrival rfl rfl
  rw [feed_arrival_ps unknown ps hne hcount hpay hsize arrival harr] at himpl
  have hretry : getServerPackets s r DEFAULT_PAYLOAD false w1 = getServerPacketsImpl s DEFAULT_PAYLOAD false w1 :=
    retryOnTimeout_of_ok himpl r
  unfold exchange
  rw [Q.bind_ok hopen, Q.bind_apply, hretry]
  cases himp : getServerPacketsImpl s DEFAULT_PAYLOAD false w1 with
  | mk res w2 =>
    rw [himp] at himpl hsent
    simp only at himpl hsent
    subst himpl
    simp only [Q.lift, true_and]
    rw [hsent]
    simp [sentOf, w1, handshakeRequest_eq, dataRequest_eq]

/-- The whole exchange against the SPEC's server for a well-formed state — handshake reply, then the
data packets in ANY order of arrival, then silence; no send fails: the post-processing `post` is
applied to the SPEC's payloads, and the client has sent exactly the SPEC's two requests. -/
theorem exchange_spec (cfg : Config) (st : State) (h : wf cfg st = true) (port r : Nat) {α : Type}
    (post : List Bytes → Res α) (arrival : List Bytes) (harr : arrival.Perm (dataPackets cfg st)) :
    (exchange port r DEFAULT_PAYLOAD false post
        (Net.init [.opened ((handshakeReply cfg.challenge :: arrival).map .data)] [])).1 = post (payloads cfg st)
    ∧ sentOf (exchange port r DEFAULT_PAYLOAD false post
        (Net.init [.opened ((handshakeReply cfg.challenge :: arrival).map .data)] [])).2.log = requests cfg := by
  obtain ⟨hcount, hpay, hsize, hlo, hhi⟩ := wf_wire cfg st h
  exact exchange_wire cfg.challenge hlo hhi cfg.unknown (payloads cfg st) (payloads_ne_nil cfg st) hcount hpay hsize
    port r post arrival harr

end Gd.Gs3
