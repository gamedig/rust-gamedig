import GdVerif.Lemmas.MasterSafe
/-
  Valve master-server service: the exact transport log of a query for EVERY script and fault vector
  (`roundsLog`: a chain of request/reply rounds, each follow-up request seeded with the last address of the page
  received before), and the number of requests (`Cost`).
-/
namespace Gd.Master
open Gd

theorem cost_querySpecific (s : Sock) (region : Nat) (fb ip : Bytes) (port : Nat) :
    Cost 0 1 (querySpecific s region fb ip port) := by
  unfold querySpecific
  have := Cost.bind (Cost.send s (constructPayload region fb ip port)) fun _ =>
    Cost.bind (Cost.recv s (some 1400)) fun d => Cost.parse parsePage d
  exact this.weaken (by omega) (by omega)

/-- a paging run sends at most one request more than the datagrams it received — whatever its fuel -/
theorem cost_pageLoop (s : Sock) (region : Nat) (fb : Bytes) :
    ∀ (fuel : Nat) (ips : List Addr) (ip : Bytes) (port : Nat), Cost 1 1 (pageLoop s region fb fuel ips ip port) := by
  intro fuel
  induction fuel with
  | zero =>
    intro ips ip port w
    exact ⟨[], by simp [pageLoop], by simp [pageLoop, nSends, nRecvOk]⟩
  | succ fuel ih =>
    intro ips ip port
    unfold pageLoop
    refine (Cost.bind (ko2 := 1) (ke2 := 1) (cost_querySpecific s region fb ip port) fun page => ?_).weaken
      (by omega) (by omega)
    cases page.getLast? with
    | none => exact (Cost.pure _).weaken (by omega) (by omega)
    | some last =>
      obtain ⟨latestIp, latestPort⟩ := last
      simp only
      split
      · exact (Cost.pure _).weaken (by omega) (by omega)
      · split
        · exact (Cost.pure _).weaken (by omega) (by omega)
        · exact ih _ _ _

theorem cost_query (region : Nat) (fs : Option SearchFilters) : Cost 1 1 (query region fs) := by
  rw [query_eq]
  refine (Cost.bind (ko2 := 1) (ke2 := 1) (Cost.openSock false masterPort) fun s => ?_).weaken (by omega) (by omega)
  intro w
  exact cost_pageLoop s region _ _ [] zeroIp 0 w

theorem cost_querySingular (region : Nat) (fs : Option SearchFilters) : Cost 0 1 (querySingular region fs) := by
  rw [querySingular_eq]
  refine (Cost.bind (ko2 := 0) (ke2 := 1) (Cost.openSock false masterPort) fun s => ?_).weaken (by omega) (by omega)
  unfold singularBody
  refine (Cost.bind (ko2 := 0) (ke2 := 0) (cost_querySpecific s region _ zeroIp 0) fun ips => ?_).weaken
    (by omega) (by omega)
  split
  · split <;> exact Cost.pure _
  · exact Cost.pure _

def reqEv (s : Sock) (region : Nat) (fb ip : Bytes) (port : Nat) (failed : Bool) : Ev :=
  .send s.id s.port (constructPayload region fb ip port) failed

def replyEv (s : Sock) (got : Option Nat) : Ev := .recv s.id (some 1400) got

/-- The seed of the follow-up request, if the reply `data` to a request seeded with `ip:port` calls for one: the
reply decodes as a page, the page is not empty, and its last address is neither the terminator `0.0.0.0:0` nor the
seed itself. -/
def nextSeed (ip : Bytes) (port : Nat) (data : Bytes) : Option Addr :=
  match parsePage.run data with
  | .ok page =>
    match page.getLast? with
    | none => none
    | some a =>
      if ipText a.1 == zeroIp && a.2 == 0 then none
      else if ipText a.1 == ip && a.2 == port then none
      else some a
  | _ => none

theorem nextSeed_iff (ip : Bytes) (port : Nat) (data : Bytes) (a : Addr) :
    nextSeed ip port data = some a ↔
      ∃ page, parsePage.run data = .ok page ∧ page.getLast? = some a
        ∧ ¬(ipText a.1 = zeroIp ∧ a.2 = 0) ∧ ¬(ipText a.1 = ip ∧ a.2 = port) := by
  unfold nextSeed
  cases hp : parsePage.run data with
  | err k => simp
  | crash => simp
  | ok page =>
    simp only [Res.ok.injEq, exists_eq_left']
    cases page.getLast? with
    | none => simp
    | some last =>
      simp only [Option.some.injEq, Bool.and_eq_true, beq_iff_eq]
      constructor
      · intro h
        split at h
        · cases h
        · split at h
          · cases h
          · cases h
            exact ⟨rfl, ‹_›, ‹_›⟩
      · rintro ⟨rfl, h1, h2⟩
        rw [if_neg h1, if_neg h2]

/-- What a paging run seeded with `ip:port` does on socket `s` when `q` is what the peer will deliver and `fl` the
send-fault flags: one request per round; the run ends with a failed send, a receive that times out, or a reply that
calls for no follow-up; otherwise the next round is seeded with the last address of the page just received. -/
def roundsLog (s : Sock) (region : Nat) (fb : Bytes) : List Delivery → List Bool → Bytes → Nat → List Ev
  | [], fl, ip, port =>
    if sendFails fl then [reqEv s region fb ip port true] else [reqEv s region fb ip port false, replyEv s none]
  | .silence :: _, fl, ip, port =>
    if sendFails fl then [reqEv s region fb ip port true] else [reqEv s region fb ip port false, replyEv s none]
  | .data d :: r, fl, ip, port =>
    if sendFails fl then [reqEv s region fb ip port true]
    else reqEv s region fb ip port false :: replyEv s (some (d.take 1400).length) ::
      (match nextSeed ip port (d.take 1400) with
       | some a => roundsLog s region fb r fl.tail (ipText a.1) a.2
       | none => [])

theorem round_cases (fl : List Bool) (q : List Delivery) :
    sendFails fl = true ∨ sendFails fl = false ∧ ((q = [] ∨ ∃ r, q = .silence :: r) ∨ ∃ d r, q = .data d :: r) := by
  cases sendFails fl with
  | true => exact Or.inl rfl
  | false =>
    refine Or.inr ⟨rfl, ?_⟩
    rcases q with _ | ⟨d | _, r⟩
    · exact Or.inl (Or.inl rfl)
    · exact Or.inr ⟨d, r, rfl⟩
    · exact Or.inl (Or.inr ⟨r, rfl⟩)

theorem roundsLog_sendFails {s : Sock} {region : Nat} {fb : Bytes} {q : List Delivery} {fl : List Bool} {ip : Bytes}
    {port : Nat} (hf : sendFails fl = true) : roundsLog s region fb q fl ip port = [reqEv s region fb ip port true] := by
  rcases q with _ | ⟨_ | _, _⟩ <;> simp only [roundsLog, hf, ↓reduceIte]

theorem roundsLog_silent {s : Sock} {region : Nat} {fb : Bytes} {q : List Delivery} {fl : List Bool} {ip : Bytes}
    {port : Nat} (hf : sendFails fl = false) (hq : q = [] ∨ ∃ r, q = .silence :: r) :
    roundsLog s region fb q fl ip port = [reqEv s region fb ip port false, replyEv s none] := by
  rcases hq with rfl | ⟨r, rfl⟩ <;> simp only [roundsLog, hf, Bool.false_eq_true, ↓reduceIte]

theorem querySpecific_sendFails (s : Sock) (region : Nat) (fb ip : Bytes) (port : Nat) (w : Net)
    (hf : sendFails w.faults = true) :
    querySpecific s region fb ip port w
      = (.err .packetSend, { w with faults := w.faults.tail, log := w.log ++ [reqEv s region fb ip port true] }) := by
  unfold querySpecific
  rw [Q.bind_apply, send_apply, hf]
  rfl

theorem querySpecific_silent (s : Sock) (hudp : s.tcp = false) (region : Nat) (fb ip : Bytes) (port : Nat) (w : Net)
    (hf : sendFails w.faults = false) (hq : w.conns.getD s.id [] = [] ∨ ∃ r, w.conns.getD s.id [] = .silence :: r) :
    (querySpecific s region fb ip port w).1 = .err .packetReceive
    ∧ (querySpecific s region fb ip port w).2.log = w.log ++ [reqEv s region fb ip port false, replyEv s none] := by
  unfold querySpecific
  rw [Q.bind_apply, send_apply, hf]
  simp only [Bool.false_eq_true, ↓reduceIte]
  rw [Q.bind_apply]
  unfold Gd.recv
  rcases hq with hq | ⟨r, hq⟩
  · simp only [hq, hudp, Bool.false_eq_true, ↓reduceIte]
    exact ⟨trivial, by simp [reqEv, replyEv]⟩
  · simp only [hq]
    exact ⟨trivial, by simp [reqEv, replyEv]⟩

theorem querySpecific_data (s : Sock) (hudp : s.tcp = false) (region : Nat) (fb ip : Bytes) (port : Nat) (w : Net)
    (hf : sendFails w.faults = false) (d : Bytes) (r : List Delivery) (hq : w.conns.getD s.id [] = .data d :: r) :
    querySpecific s region fb ip port w
      = (parsePage.run (d.take 1400),
         { w with faults := w.faults.tail, conns := setAt w.conns s.id r,
                  log := w.log ++ [reqEv s region fb ip port false, replyEv s (some (d.take 1400).length)] }) := by
  unfold querySpecific
  rw [Q.bind_apply, send_apply, hf]
  simp only [Bool.false_eq_true, ↓reduceIte]
  rw [Q.bind_apply]
  unfold Gd.recv
  simp only [hq, hudp, Bool.false_eq_true, ↓reduceIte, Option.getD_some]
  simp only [parse, Q.lift, reqEv, replyEv, List.append_assoc, List.cons_append, List.nil_append]

theorem pageLoop_err {s : Sock} {region : Nat} {fb : Bytes} {fuel : Nat} {ips : List Addr} {ip : Bytes} {port : Nat}
    {w : Net} {k : ErrKind} (h : (querySpecific s region fb ip port w).1 = .err k) :
    pageLoop s region fb (fuel + 1) ips ip port w = (.err k, (querySpecific s region fb ip port w).2) := by
  unfold pageLoop
  exact Q.bind_of_err h

theorem pageLoop_log (s : Sock) (hudp : s.tcp = false) (region : Nat) (fb : Bytes) :
    ∀ (fuel : Nat) (ips : List Addr) (ip : Bytes) (port : Nat) (w : Net), IsOpen s w → qlen w s.id < fuel →
      (pageLoop s region fb fuel ips ip port w).2.log
        = w.log ++ roundsLog s region fb (w.conns.getD s.id []) w.faults ip port := by
  intro fuel
  induction fuel with
  | zero => intro _ _ _ w _ h; omega
  | succ fuel ih =>
    intro ips ip port w hopen hfuel
    rcases round_cases w.faults (w.conns.getD s.id []) with hf | ⟨hf, hq | ⟨d, r, hq⟩⟩
    · have h := querySpecific_sendFails s region fb ip port w hf
      rw [pageLoop_err (congrArg Prod.fst h), roundsLog_sendFails hf, h]
    · obtain ⟨h1, h2⟩ := querySpecific_silent s hudp region fb ip port w hf hq
      rw [pageLoop_err h1, roundsLog_silent hf hq, h2]
    · unfold pageLoop
      rw [Q.bind_apply, querySpecific_data s hudp region fb ip port w hf d r hq, hq]
      simp only [roundsLog, hf, Bool.false_eq_true, ↓reduceIte, nextSeed]
      cases hp : parsePage.run (d.take 1400) with
      | err k => simp
      | crash => simp
      | ok page =>
        simp only
        cases hl : page.getLast? with
        | none => simp
        | some last =>
          obtain ⟨latestIp, latestPort⟩ := last
          simp only
          split
          · simp
          · split
            · simp
            · have hget : (setAt w.conns s.id r).getD s.id [] = r := by
                rw [getD_setAt]; simp [show s.id < w.conns.length from hopen]
              have hlen : r.length < fuel := by
                have : qlen w s.id = r.length + 1 := by simp only [qlen, hq, List.length_cons]
                omega
              have key := ih (ips ++ page) (ipText latestIp) latestPort
                ⟨w.pending, setAt w.conns s.id r, w.faults.tail,
                  w.log ++ [reqEv s region fb ip port false, replyEv s (some (d.take 1400).length)]⟩
                (by simpa [IsOpen, setAt_length] using hopen) (by simp only [qlen, hget]; exact hlen)
              rw [key]
              simp only [hget, List.append_assoc, List.cons_append, List.nil_append]

theorem firstRound (s : Sock) (region : Nat) (fb : Bytes) (q : List Delivery) (fl : List Bool) (ip : Bytes)
    (port : Nat) :
    ∃ failed, (roundsLog s region fb q fl ip port).take 2 = [reqEv s region fb ip port failed]
      ∨ ∃ got, (roundsLog s region fb q fl ip port).take 2 = [reqEv s region fb ip port failed, replyEv s got] := by
  rcases round_cases fl q with hf | ⟨hf, hq | ⟨d, r, rfl⟩⟩
  · exact ⟨true, Or.inl (by rw [roundsLog_sendFails hf]; rfl)⟩
  · exact ⟨false, Or.inr ⟨none, by rw [roundsLog_silent hf hq]; rfl⟩⟩
  · refine ⟨false, Or.inr ⟨some (d.take 1400).length, ?_⟩⟩
    simp only [roundsLog, hf, Bool.false_eq_true, ↓reduceIte, List.take_succ_cons, List.take_zero]

theorem querySpecific_log (s : Sock) (hudp : s.tcp = false) (region : Nat) (fb ip : Bytes) (port : Nat) (w : Net) :
    (querySpecific s region fb ip port w).2.log
      = w.log ++ (roundsLog s region fb (w.conns.getD s.id []) w.faults ip port).take 2 := by
  rcases round_cases w.faults (w.conns.getD s.id []) with hf | ⟨hf, hq | ⟨d, r, hq⟩⟩
  · rw [querySpecific_sendFails s region fb ip port w hf, roundsLog_sendFails hf]
    rfl
  · rw [(querySpecific_silent s hudp region fb ip port w hf hq).2, roundsLog_silent hf hq]
    rfl
  · rw [querySpecific_data s hudp region fb ip port w hf d r hq, hq]
    simp only [roundsLog, hf, Bool.false_eq_true, ↓reduceIte, List.take_succ_cons, List.take_zero]

theorem singularBody_log (s : Sock) (region : Nat) (fb : Bytes) (w : Net) :
    (singularBody s region fb w).2.log = (querySpecific s region fb zeroIp 0 w).2.log := by
  unfold singularBody
  rw [Q.bind_apply]
  cases hr : querySpecific s region fb zeroIp 0 w with
  | mk res w1 =>
    cases res with
    | err k => rfl
    | crash => rfl
    | ok ips =>
      simp only
      cases ips.getLast? with
      | none => rfl
      | some last =>
        obtain ⟨ip, port⟩ := last
        simp only
        split <;> rfl

/-- what the peer delivers to the first socket a query opens; `none`: the socket cannot be opened -/
def firstConn : List ConnScript → Option (List Delivery)
  | [] => some []
  | .opened ds :: _ => some ds
  | .refused :: _ => none

/-- the transport log of the complete query as a function of the script and the send faults -/
def queryLog (region : Nat) (fb : Bytes) (script : List ConnScript) (faults : List Bool) : List Ev :=
  match firstConn script with
  | none => [.opened 0 false masterPort true]
  | some ds => .opened 0 false masterPort false :: roundsLog msock region fb ds faults zeroIp 0

/-- the transport log of the single-page query: the first round only -/
def singularLog (region : Nat) (fb : Bytes) (script : List ConnScript) (faults : List Bool) : List Ev :=
  match firstConn script with
  | none => [.opened 0 false masterPort true]
  | some ds => .opened 0 false masterPort false :: (roundsLog msock region fb ds faults zeroIp 0).take 2

theorem openSock_init (script : List ConnScript) (faults : List Bool) :
    openSock false masterPort (Net.init script faults) = match firstConn script with
      | some ds => (.ok msock, ⟨script.tail, [ds], faults, [.opened 0 false masterPort false]⟩)
      | none => (.err .socketBind, ⟨script.tail, [[]], faults, [.opened 0 false masterPort true]⟩) := by
  rcases script with _ | ⟨_ | ds, rest⟩ <;> rfl

theorem query_log (region : Nat) (fs : Option SearchFilters) (script : List ConnScript) (faults : List Bool) :
    (query region fs (Net.init script faults)).2.log = queryLog region (filterBytesOf fs) script faults := by
  rw [query_eq, Q.bind_apply, openSock_init]
  unfold queryLog
  cases firstConn script with
  | none => rfl
  | some ds =>
    simp only [queryBody]
    rw [pageLoop_log msock rfl region _ _ [] zeroIp 0 _ (by simp [IsOpen, msock]) (by simp [qlen, msock])]
    simp [msock]

theorem querySingular_log (region : Nat) (fs : Option SearchFilters) (script : List ConnScript) (faults : List Bool) :
    (querySingular region fs (Net.init script faults)).2.log = singularLog region (filterBytesOf fs) script faults := by
  rw [querySingular_eq, Q.bind_apply, openSock_init]
  unfold singularLog
  cases firstConn script with
  | none => rfl
  | some ds =>
    simp only
    rw [singularBody_log, querySpecific_log msock rfl]
    simp [msock]

def countData : List Delivery → Nat
  | [] => 0
  | .data _ :: r => countData r + 1
  | .silence :: r => countData r

theorem nSends_roundsLog (s : Sock) (region : Nat) (fb : Bytes) :
    ∀ (q : List Delivery) (fl : List Bool) (ip : Bytes) (port : Nat),
      nSends (roundsLog s region fb q fl ip port) ≤ countData q + 1 := by
  have h0 : nSends [] = 0 := rfl
  intro q
  induction q with
  | nil =>
    intro fl ip port
    unfold roundsLog
    split <;> simp only [reqEv, replyEv, nSends_send, nSends_recv, h0, countData] <;> omega
  | cons x r ih =>
    intro fl ip port
    cases x with
    | silence =>
      unfold roundsLog
      split <;> simp only [reqEv, replyEv, nSends_send, nSends_recv, h0, countData] <;> omega
    | data d =>
      unfold roundsLog
      split
      · simp only [reqEv, nSends_send, h0, countData]; omega
      · cases nextSeed ip port (d.take 1400) with
        | none => simp only [reqEv, replyEv, nSends_send, nSends_recv, h0, countData]; omega
        | some a =>
          have := ih fl.tail (ipText a.1) a.2
          simp only [reqEv, replyEv, nSends_send, nSends_recv, countData]
          omega

theorem nSends_firstRound (s : Sock) (region : Nat) (fb : Bytes) (q : List Delivery) (fl : List Bool) (ip : Bytes)
    (port : Nat) : nSends ((roundsLog s region fb q fl ip port).take 2) ≤ 1 := by
  obtain ⟨failed, h | ⟨got, h⟩⟩ := firstRound s region fb q fl ip port
  all_goals
    rw [h]
    exact Nat.le_refl 1

/-- the complete query sends at most one request per datagram in the script of its socket, plus one: the request after
the last datagram meets silence -/
theorem nSends_query (region : Nat) (fs : Option SearchFilters) (ds : List Delivery) (rest : List ConnScript)
    (faults : List Bool) :
    nSends (query region fs (Net.init (.opened ds :: rest) faults)).2.log ≤ countData ds + 1 := by
  rw [query_log]
  simp only [queryLog, firstConn]
  have := nSends_roundsLog msock region (filterBytesOf fs) ds faults zeroIp 0
  simpa [nSends, isSend] using this

end Gd.Master
