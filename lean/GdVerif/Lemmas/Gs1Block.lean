import GdVerif.Lemmas.QBounds
import GdVerif.Proto.Gs1
/-
  Blocking steps of the GameSpy 1 query that can run into their timeout, and the silent server.
  The receive loop listens for the further parts of the answer: every receive that returns was
  answered by the peer; the first receive that times out ends the attempt with the receive-class
  error (`?` on `socket.receive`), so one attempt runs into at most one timeout however many parts
  arrive.
-/
namespace Gd.Gs1
open Gd Gd.Gs

theorem block_recvLoop (s : Sock) : ∀ (fuel : Nat) (st : LoopSt), Block 0 1 (recvLoop s fuel st) := by
  intro fuel
  induction fuel with
  | zero => intro st w; exact ⟨[], by simp [recvLoop], by simp [recvLoop, nBlocked]⟩
  | succ fuel ih =>
    intro st
    unfold recvLoop
    refine Block.ite ((Block.pure _).weaken (by omega) (by omega)) ?_
    have h := Block.bind (Block.recv s (some PACKET_SIZE)) fun data =>
      Block.bind (Block.lift (processPacket st data)) fun st' => ih st'
    exact h.weaken (by omega) (by omega)

theorem block_getServerValuesImpl (s : Sock) : Block 0 1 (getServerValuesImpl s) := by
  unfold getServerValuesImpl
  have h := Block.bind (Block.send s statusRequest) fun _ w => block_recvLoop s (queued s w + 1) LoopSt.init w
  exact h.weaken (by omega) (by omega)

theorem block_queryVars (port retries : Nat) : Block retries (retries + 1) (queryVars port retries) := by
  unfold queryVars
  have h := Block.bind (Block.openSock false port) fun s => Block.retrySharp (block_getServerValuesImpl s) retries
  exact h.weaken (by omega) (by omega)

theorem block_query (port retries : Nat) : Block retries (retries + 1) (query port retries) := by
  unfold query
  have h := Block.bind (block_queryVars port retries) fun vars => Block.lift (buildResponse vars)
  exact h.weaken (by omega) (by omega)

theorem silent_getServerValuesImpl (s : Sock) : SilentAttempt s 1 (getServerValuesImpl s) := by
  unfold getServerValuesImpl
  refine SilentAttempt.seq (k2 := 0) (SilentSends.send s _) fun _ w n h => ?_
  have hloop : SilentAttempt s 0 (recvLoop s (queued s w + 1) LoopSt.init) := by
    unfold recvLoop
    have hd : LoopSt.init.done = false := rfl
    simp only [hd, Bool.false_eq_true, ↓reduceIte]
    exact (SilentAttempt.recv s _).bind_left _
  exact hloop w n h

theorem silent_queryVars (port retries : Nat) (w : Net) (hf : w.faults = [])
    (hp : PendingSilent false (retries + 1) w.pending) :
    SilentOutcome w (queryVars port retries w) (retries + 1) (retries + 1) := by
  unfold queryVars
  exact SilentRun.openSock (fun s _ => (silent_getServerValuesImpl s).retry1 retries) port w hf hp

theorem silent_query (port retries : Nat) (w : Net) (hf : w.faults = [])
    (hp : PendingSilent false (retries + 1) w.pending) :
    SilentOutcome w (query port retries w) (retries + 1) (retries + 1) := by
  unfold query queryVars
  rw [Q.bind_assoc]
  exact SilentRun.openSock (fun s _ => ((silent_getServerValuesImpl s).retry1 retries).bind_left _) port w hf hp

end Gd.Gs1
