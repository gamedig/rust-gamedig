import GdVerif.Spec.Valve
/-
  Order-independence of sort-based reassembly (generic: `mergeSort_perm_eq`, `perm_map_inv`), and for Valve split
  packets: any arrival order reassembles alike (`assemble_any_order`), fragments 0, 1, … of one response to the
  concatenation of their payloads (`assemble_enum`), duplicates and foreign fragments are rejected.
-/
namespace Gd

theorem pairwise_of_mem_ne {α : Type} {R : α → α → Prop} (hsymm : ∀ x y, R x y → R y x) :
    ∀ {l : List α}, l.Pairwise R → ∀ {a b : α}, a ∈ l → b ∈ l → a ≠ b → R a b := by
  intro l hl
  induction hl with
  | nil => intro a b ha; cases ha
  | cons hhead _ ih =>
    intro a b ha hb hne
    rcases List.mem_cons.mp ha with rfl | ha'
    · rcases List.mem_cons.mp hb with rfl | hb'
      · exact (hne rfl).elim
      · exact hhead b hb'
    · rcases List.mem_cons.mp hb with rfl | hb'
      · exact hsymm _ _ (hhead a ha')
      · exact ih ha' hb' hne

theorem mergeSort_perm_eq {α : Type} (key : α → Nat) (l l' : List α) (hp : l'.Perm l)
    (hd : l.Pairwise (fun a b => key a ≠ key b)) :
    l'.mergeSort (fun a b => decide (key a ≤ key b)) = l.mergeSort (fun a b => decide (key a ≤ key b)) := by
  let le := fun a b : α => decide (key a ≤ key b)
  have htrans : ∀ a b c : α, le a b = true → le b c = true → le a c = true := by
    intro a b c h1 h2
    simp only [le, decide_eq_true_eq] at *
    omega
  have htotal : ∀ a b : α, (le a b || le b a) = true := by
    intro a b
    simp only [le, Bool.or_eq_true, decide_eq_true_eq]
    omega
  have hs' := List.pairwise_mergeSort htrans htotal l'
  have hs := List.pairwise_mergeSort htrans htotal l
  have hperm : (l'.mergeSort le).Perm (l.mergeSort le) :=
    (List.mergeSort_perm l' le).trans (hp.trans (List.mergeSort_perm l le).symm)
  refine List.Perm.eq_of_pairwise ?_ hs' hs hperm
  intro a b ha hb hab hba
  simp only [le, decide_eq_true_eq] at hab hba
  have hkey : key a = key b := by omega
  -- both are members of `l`; distinct members have distinct keys
  have ha' : a ∈ l := (hp.mem_iff).mp ((List.mergeSort_perm l' le).mem_iff.mp ha)
  have hb' : b ∈ l := (List.mergeSort_perm l le).mem_iff.mp hb
  exact Classical.byContradiction fun hne =>
    pairwise_of_mem_ne (R := fun x y => key x ≠ key y) (fun _ _ h => Ne.symm h) hd ha' hb' hne hkey

theorem perm_map_inv {α β : Type} (f : α → β) : ∀ {l : List β} {P : List α}, l.Perm (P.map f) →
    ∃ P' : List α, P'.Perm P ∧ l = P'.map f := by
  intro l P h
  generalize hm : P.map f = m at h
  induction h generalizing P with
  | nil =>
    have : P = [] := List.map_eq_nil_iff.mp hm
    exact ⟨[], by rw [this], rfl⟩
  | cons x _ ih =>
    cases P with
    | nil => cases hm
    | cons a P2 =>
      simp only [List.map_cons, List.cons.injEq] at hm
      obtain ⟨P1, hp, e⟩ := ih hm.2
      exact ⟨a :: P1, List.Perm.cons a hp, by rw [e, ← hm.1]; rfl⟩
  | swap x y l =>
    cases P with
    | nil => cases hm
    | cons a P2 =>
      cases P2 with
      | nil => cases hm
      | cons b P3 =>
        simp only [List.map_cons, List.cons.injEq] at hm
        exact ⟨b :: a :: P3, List.Perm.swap a b P3, by rw [← hm.1, ← hm.2.1, ← hm.2.2]; rfl⟩
  | trans _ _ ih1 ih2 =>
    obtain ⟨P2, hp2, e2⟩ := ih2 hm
    obtain ⟨P1, hp1, e1⟩ := ih1 e2.symm
    exact ⟨P1, hp1.trans hp2, e1⟩

end Gd

namespace Gd.Valve
open Gd

theorem sortChunks_perm (l l' : List SplitPacket) (hp : l'.Perm l)
    (hd : l.Pairwise (fun a b => a.number ≠ b.number)) : sortChunks l' = sortChunks l :=
  mergeSort_perm_eq (fun p : SplitPacket => p.number) l l' hp hd

theorem numbersFrom_spec (l : List SplitPacket) : ∀ i, numbersFrom i l = true →
    l.Pairwise (fun a b => a.number ≠ b.number) ∧ ∀ p ∈ l, i ≤ p.number := by
  induction l with
  | nil => intro i _; exact ⟨List.Pairwise.nil, fun p hp => by cases hp⟩
  | cons p r ih =>
    intro i h
    simp only [numbersFrom, Bool.and_eq_true, beq_iff_eq] at h
    obtain ⟨hpw, hge⟩ := ih (i + 1) h.2
    refine ⟨List.Pairwise.cons ?_ hpw, ?_⟩
    · intro q hq
      have := hge q hq
      omega
    · intro q hq
      rcases List.mem_cons.mp hq with rfl | hq'
      · omega
      · have := hge q hq'; omega

theorem assemble_duplicate (ext : Ext) (l : List SplitPacket)
    (hdup : ¬ l.Pairwise (fun a b => a.number ≠ b.number)) : assemble ext (sortChunks l) = .err .packetBad := by
  unfold assemble
  cases hn : numbersFrom 0 (sortChunks l) with
  | false => simp
  | true =>
    exfalso
    apply hdup
    have h := (numbersFrom_spec _ 0 hn).1
    exact h.perm (List.mergeSort_perm l _) (fun h => Ne.symm h)

theorem sameResponse_of_common (m p q : SplitPacket) (hp : sameResponse m p = true) (hq : sameResponse m q = true) :
    sameResponse p q = true := by
  simp only [sameResponse, Bool.and_eq_true, beq_iff_eq] at *
  obtain ⟨⟨a, b⟩, c⟩ := hp
  obtain ⟨⟨a', b'⟩, c'⟩ := hq
  exact ⟨⟨by rw [a', a], by rw [b', b]⟩, by rw [c', c]⟩

theorem sameResponse_refl (m : SplitPacket) : sameResponse m m = true := by
  simp [sameResponse]

theorem assemble_foreign (ext : Ext) (l : List SplitPacket) (p q : SplitPacket) (hp : p ∈ l) (hq : q ∈ l)
    (hne : sameResponse p q = false) : assemble ext (sortChunks l) = .err .packetBad := by
  have hperm : (sortChunks l).Perm l := List.mergeSort_perm l _
  have hp' : p ∈ sortChunks l := hperm.mem_iff.mpr hp
  have hq' : q ∈ sortChunks l := hperm.mem_iff.mpr hq
  unfold assemble
  split
  · rfl
  · split
    · rfl
    · rename_i main others heq
      split
      · rename_i hall
        exfalso
        rw [heq] at hp' hq'
        have hmem : ∀ x, x ∈ main :: others → sameResponse main x = true := by
          intro x hx
          rcases List.mem_cons.mp hx with rfl | hx
          · exact sameResponse_refl _
          · exact List.all_eq_true.mp hall x hx
        have := sameResponse_of_common main p q (hmem p hp') (hmem q hq')
        rw [this] at hne
        cases hne
      · rfl

theorem enumFrom_sorted {α : Type} (mk : Nat → α → SplitPacket) (hnum : ∀ i c, (mk i c).number = i)
    (cs : List α) (i : Nat) :
    ((Spec.enumFrom i cs).map fun (p : Nat × α) => mk p.1 p.2).Pairwise (fun a b => decide (a.number ≤ b.number) = true)
    ∧ numbersFrom i ((Spec.enumFrom i cs).map fun (p : Nat × α) => mk p.1 p.2) = true
    ∧ ∀ q ∈ ((Spec.enumFrom i cs).map fun (p : Nat × α) => mk p.1 p.2), i ≤ q.number := by
  induction cs generalizing i with
  | nil => simp [Spec.enumFrom, numbersFrom]
  | cons c r ih =>
    obtain ⟨h1, h2, h3⟩ := ih (i + 1)
    simp only [Spec.enumFrom, List.map_cons]
    refine ⟨List.Pairwise.cons ?_ h1, ?_, ?_⟩
    · intro q hq
      have := h3 q hq
      simp only [hnum, decide_eq_true_eq]
      omega
    · simp [numbersFrom, hnum, h2]
    · intro q hq
      rcases List.mem_cons.mp hq with rfl | hq'
      · simp [hnum]
      · have := h3 q hq'; omega

/-- every arrival order of the same fragments reassembles alike: with distinct numbers the sort does not depend on the
order, and a repeated number is rejected whatever the order -/
theorem assemble_any_order (ext : Ext) (frs frs' : List SplitPacket) (h : frs'.Perm frs) :
    assemble ext (sortChunks frs') = assemble ext (sortChunks frs) := by
  by_cases hd : frs.Pairwise (fun a b => a.number ≠ b.number)
  · rw [sortChunks_perm frs frs' h hd]
  · have hd' : ¬ frs'.Pairwise (fun a b => a.number ≠ b.number) := fun hp =>
      hd (hp.perm h (fun hne => Ne.symm hne))
    rw [assemble_duplicate ext frs hd, assemble_duplicate ext frs' hd']

/-- fragments numbered 0, 1, … of one response (same header, id, announced total), whatever the order they arrived
in, reassemble to the concatenation of their payloads, read as fragment 0 says (compressed or not) -/
theorem assemble_enum (ext : Ext) (mk : Nat → Bytes → SplitPacket) (hdr id total : Nat)
    (hnum : ∀ i ch, (mk i ch).number = i) (hh : ∀ i ch, (mk i ch).header = hdr) (hid : ∀ i ch, (mk i ch).id = id)
    (ht : ∀ i ch, (mk i ch).total = total) (hp : ∀ i ch, (mk i ch).payload = ch)
    (c : Bytes) (cs : List Bytes) (frs : List SplitPacket)
    (h : frs.Perm ((Spec.enumFrom 0 (c :: cs)).map fun p => mk p.1 p.2)) :
    assemble ext (sortChunks frs) = getPayload ext (mk 0 c).decompressed (c :: cs).flatten := by
  rw [assemble_any_order ext _ _ h]
  obtain ⟨hs, hn, _⟩ := enumFrom_sorted mk hnum (c :: cs) 0
  unfold sortChunks
  rw [List.mergeSort_of_pairwise hs]
  have hall : ∀ (i : Nat) (l : List Bytes),
      ((Spec.enumFrom i l).map fun p => mk p.1 p.2).all (sameResponse (mk 0 c)) = true := by
    intro i l
    induction l generalizing i with
    | nil => rfl
    | cons x r ih => simp [Spec.enumFrom, sameResponse, hh, hid, ht, ih]
  have hpay : ∀ (i : Nat) (l : List Bytes), (((Spec.enumFrom i l).map fun p => mk p.1 p.2).map (·.payload)) = l := by
    intro i l
    induction l generalizing i with
    | nil => rfl
    | cons x r ih => simp [Spec.enumFrom, hp, ih]
  unfold assemble
  rw [hn]
  simp only [Bool.not_true, Bool.false_eq_true, ↓reduceIte, Spec.enumFrom, List.map_cons, hall 1 cs, hpay 1 cs, hp,
    List.flatten_cons]

end Gd.Valve
