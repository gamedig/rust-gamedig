import GdVerif.Spec.GsText
import GdVerif.Lemmas.Reader
import GdVerif.Lemmas.QuakeText
/-
  Text-level lemmas for the GameSpy 1/2 proofs: decimal numbers against Rust's integer parsers,
  `str::split`, `str::trim`, UTF-8 validity of concatenations, whole-packet string reads.
-/
namespace Gd.Gs
open Gd

/-- the SPEC's decimal text is Rust's `to_string` (`natDec`, `intDec`): the digit lemmas are those of `Lemmas/Text.lean`
and `Lemmas/Decimal.lean` -/
theorem dec_eq_natDec (n : Nat) : dec n = natDec n := by
  have aux : ∀ f n, decAux f n = natDecAux f n := by
    intro f
    induction f with
    | zero => intro _; rfl
    | succ f ih => intro n; simp only [decAux, natDecAux, ih]
  exact aux _ _

theorem decInt_eq_intDec (i : Int) : decInt i = intDec i := by
  simp only [decInt, intDec, dec_eq_natDec]

theorem dec_ne_nil (n : Nat) : dec n ≠ [] := dec_eq_natDec n ▸ natDec_ne_nil n
theorem dec_digits (n : Nat) : (dec n).all isDigit = true := dec_eq_natDec n ▸ natDec_all_digits n
theorem digitsVal_dec (n : Nat) : digitsVal (dec n) = n := dec_eq_natDec n ▸ digitsVal_natDec n

theorem parseUnsigned_digits (bits : Nat) (s : Bytes) (hne : s ≠ []) (hall : s.all isDigit = true) :
    parseUnsigned bits s = if digitsVal s < 2 ^ bits then some (digitsVal s) else none := by
  have hs : stripPlus s = s := by
    unfold stripPlus
    split
    · simp [isDigit, inRange] at hall
    · rfl
  unfold parseUnsigned
  simp [hs, hne, hall]

theorem parseUnsigned_dec (bits n : Nat) (h : n < 2 ^ bits) : parseUnsigned bits (dec n) = some n :=
  dec_eq_natDec n ▸ parseUnsigned_natDec bits n h

theorem splitOn_no_delim (d : UInt8) (p : Bytes) (h : d ∉ p) : splitOn d p = [p] := splitOn_not_mem d p h

theorem splitOn_append_delim (d : UInt8) (p rest : Bytes) (h : d ∉ p) :
    splitOn d (p ++ d :: rest) = p :: splitOn d rest := _root_.Gd.splitOn_append_delim d p rest h

def joinWith (d : UInt8) : List Bytes → Bytes
  | [] => []
  | [p] => p
  | p :: q :: r => p ++ d :: joinWith d (q :: r)

theorem splitOn_joinWith (d : UInt8) : ∀ (ps : List Bytes), ps ≠ [] → (∀ p ∈ ps, d ∉ p) →
    splitOn d (joinWith d ps) = ps := by
  intro ps
  induction ps with
  | nil => intro h; exact absurd rfl h
  | cons p r ih =>
    intro _ hall
    cases r with
    | nil => simpa [joinWith] using splitOn_no_delim d p (hall p (by simp))
    | cons q r' =>
      simp only [joinWith]
      rw [splitOn_append_delim d p _ (hall p (by simp)), ih (by simp) (fun x hx => hall x (by simp [hx]))]

/-- printable ASCII other than space -/
def plain (t : Bytes) : Prop := ∀ b ∈ t, 33 ≤ b.toNat ∧ b.toNat < 127

def asciiOnly (t : Bytes) : Prop := ∀ b ∈ t, b.toNat < 128

theorem utf8DecodeAux_ascii : ∀ (f : Nat) (t : Bytes), t.length ≤ f → asciiOnly t →
    utf8DecodeAux f t = t.map UInt8.toNat := by
  intro f
  induction f with
  | zero => intro t h _; cases t <;> simp_all [utf8DecodeAux]
  | succ f ih =>
    intro t h ha
    cases t with
    | nil => rfl
    | cons b r =>
      have hb : b.toNat < 0x80 := ha b (by simp)
      simp only [utf8DecodeAux, hb, ↓reduceIte, List.map_cons]
      rw [ih r (by simpa using h) (fun x hx => ha x (by simp [hx]))]

theorem utf8Decode_ascii (t : Bytes) (h : asciiOnly t) : utf8Decode t = t.map UInt8.toNat :=
  utf8DecodeAux_ascii _ t (Nat.le_refl _) h

theorem utf8Encode_ascii (t : Bytes) (h : asciiOnly t) : utf8Encode (t.map UInt8.toNat) = t := by
  induction t with
  | nil => rfl
  | cons b r ih =>
    have hb : b.toNat < 0x80 := h b (by simp)
    simp only [utf8Encode, List.map_cons, List.flatMap_cons, utf8EncodeChar, hb, ↓reduceIte]
    have : utf8Encode (r.map UInt8.toNat) = r := ih (fun x hx => h x (by simp [hx]))
    simp only [utf8Encode] at this
    rw [this]
    simp

theorem not_ws_plain (c : Nat) (h1 : 33 ≤ c) (h2 : c < 127) : isWhiteSpaceScalar c = false := by
  simp only [isWhiteSpaceScalar, Bool.or_eq_false_iff, Bool.and_eq_false_iff, decide_eq_false_iff_not, beq_eq_false_iff_ne]
  omega

theorem dropWhile_ws_plain (t : List Nat) (h : ∀ c ∈ t.head?, isWhiteSpaceScalar c = false) :
    t.dropWhile isWhiteSpaceScalar = t := by
  cases t with
  | nil => rfl
  | cons c r => simp [List.dropWhile, h c (by simp)]

theorem dropWhile_pad (n : Nat) (t : Bytes) (hp : plain t) :
    (List.replicate n 32 ++ t.map UInt8.toNat).dropWhile isWhiteSpaceScalar = t.map UInt8.toNat := by
  induction n with
  | zero =>
    simp only [List.replicate_zero, List.nil_append]
    apply dropWhile_ws_plain
    intro c hc
    cases t with
    | nil => simp at hc
    | cons b r =>
      simp at hc
      subst hc
      have := hp b (by simp)
      exact not_ws_plain _ this.1 this.2
  | succ n ih =>
    have : isWhiteSpaceScalar 32 = true := by decide
    simp only [List.replicate_succ, List.cons_append, List.dropWhile, this]
    exact ih

/-- `str::trim` removes the padding spaces and nothing else from a padded printable-ASCII token -/
theorem trimUtf8_padded (n : Nat) (t : Bytes) (hp : plain t) : trimUtf8 (List.replicate n 32 ++ t) = t := by
  have hasc : asciiOnly (List.replicate n 32 ++ t) := by
    intro b hb
    rcases List.mem_append.mp hb with h | h
    · rw [List.mem_replicate] at h; rw [h.2]; decide
    · have := hp b h; omega
  have hasct : asciiOnly t := fun b hb => by have := hp b hb; omega
  unfold trimUtf8
  simp only
  rw [utf8Decode_ascii _ hasc, List.map_append, List.map_replicate]
  have h32 : (32 : UInt8).toNat = 32 := rfl
  rw [h32]
  have hdrop := dropWhile_pad n t hp
  rw [hdrop]
  have hrev : ((t.map UInt8.toNat).reverse.dropWhile isWhiteSpaceScalar) = (t.map UInt8.toNat).reverse := by
    apply dropWhile_ws_plain
    intro c hc
    have hmem : c ∈ (t.map UInt8.toNat).reverse := List.mem_of_mem_head? hc
    simp only [List.mem_reverse, List.mem_map] at hmem
    obtain ⟨b, hb, rfl⟩ := hmem
    have := hp b hb
    exact not_ws_plain _ this.1 this.2
  rw [hrev, List.reverse_reverse]
  exact utf8Encode_ascii t hasct

theorem inRange_false (b : UInt8) (lo hi : Nat) (h : b.toNat < lo ∨ hi < b.toNat) : inRange b lo hi = false := by
  unfold inRange
  rcases h with h | h
  · have : decide (lo ≤ b.toNat) = false := by simp; omega
    simp [this]
  · have : decide (b.toNat ≤ hi) = false := by simp; omega
    simp [this]

theorem validUtf8_head (b : UInt8) (r : Bytes) (h : validUtf8 (b :: r) = true) : isCont b = false := by
  cases hc : isCont b with
  | false => rfl
  | true =>
    exfalso
    unfold isCont inRange at hc
    simp only [Bool.and_eq_true, decide_eq_true_eq] at hc
    unfold validUtf8 at h
    have c0 : ¬ b.toNat < 0x80 := by omega
    have c1 : inRange b 0xC2 0xDF = false := inRange_false _ _ _ (by omega)
    have c2 : (b.toNat == 0xE0) = false := by simp; omega
    have c3 : inRange b 0xE1 0xEC = false := inRange_false _ _ _ (by omega)
    have c4 : inRange b 0xEE 0xEF = false := inRange_false _ _ _ (by omega)
    have c5 : (b.toNat == 0xED) = false := by simp; omega
    have c6 : (b.toNat == 0xF0) = false := by simp; omega
    have c7 : inRange b 0xF1 0xF3 = false := inRange_false _ _ _ (by omega)
    have c8 : (b.toNat == 0xF4) = false := by simp; omega
    simp only [c0, c1, c2, c3, c4, c5, c6, c7, c8, ↓reduceIte, Bool.or_self, Bool.false_eq_true] at h

theorem isDigit_iff (b : UInt8) : isDigit b = true ↔ 48 ≤ b.toNat ∧ b.toNat ≤ 57 := by
  simp [isDigit, inRange]

theorem dec_mem_digit (n : Nat) (b : UInt8) (h : b ∈ dec n) : 48 ≤ b.toNat ∧ b.toNat ≤ 57 :=
  (isDigit_iff b).mp (List.all_eq_true.mp (dec_digits n) b h)

theorem dec_plain (n : Nat) : plain (dec n) := fun b hb => by have := dec_mem_digit n b hb; omega

theorem dec_not_mem (n : Nat) (d : UInt8) (h : d.toNat < 48 ∨ 57 < d.toNat) : d ∉ dec n := by
  intro hm; have := dec_mem_digit n d hm; omega

theorem dec_inj (a b : Nat) (h : dec a = dec b) : a = b := by
  rw [← digitsVal_dec a, ← digitsVal_dec b, h]

theorem decInt_plain (i : Int) : plain (decInt i) := by
  unfold decInt
  split
  · intro b hb
    rcases List.mem_cons.mp hb with rfl | hb'
    · decide
    · exact dec_plain _ b hb'
  · exact dec_plain _

theorem parseSigned_decInt (bits : Nat) (hb : 0 < bits) (i : Int) (hlo : -(2 ^ (bits - 1) : Int) ≤ i) (hhi : i < 2 ^ (bits - 1)) :
    parseSigned bits (decInt i) = some i :=
  decInt_eq_intDec i ▸ parseSigned_intDec bits i hlo hhi

theorem validUtf8_of_ascii (t : Bytes) (h : asciiOnly t) : validUtf8 t = true := validUtf8_ascii t h

theorem plain_ascii {t : Bytes} (h : plain t) : asciiOnly t := fun b hb => by have := h b hb; omega

theorem readCStr_run_whole (d : Bytes) (h0 : (0 : UInt8) ∉ d) (hv : validUtf8 d = true) : readCStr.run d = .ok d := by
  unfold Par.run readCStr readStringWith utf8Dec
  simp [findByte_none 0 d h0, hv]

end Gd.Gs
