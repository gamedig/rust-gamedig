import GdVerif.Lemmas.Gs3Safe
import GdVerif.Spec.Gs3
/-
  Reassembly of GameSpy 3 `splitnum` packets: what the receive loop of `get_server_packets_impl`
  computes from the packets in their order of arrival (`feed`), and that for the packets of one
  well-formed response this does not depend on the order; a repeated packet is an error or harmless.
-/
namespace Gd.Gs3
open Gd

/-- The receive loop on the packets that arrive, in arrival order (each already through
`GameSpy3::receive` and the split header, hence a `Res`); running out of packets is the receive
timeout. -/
def feed : Acc → List (Res Frag) → Res (List Bytes)
  | a, [] => if a.more then .err .packetReceive else finish a
  | a, f :: r =>
    if a.more then
      match f >>= accept a with
      | .ok a' => feed a' r
      | .err k => .err k
      | .crash => .crash
    else finish a

/-- the packets of a response with payloads `ps`, in order: ids `0 … n-1`, the last one flagged -/
def fragsFrom (total : Nat) : Nat → List Bytes → List Frag
  | _, [] => []
  | i, p :: r => ⟨i, i + 1 == total, p⟩ :: fragsFrom total (i + 1) r

def frags (ps : List Bytes) : List Frag := fragsFrom ps.length 0 ps

theorem getD_padTo (v : List Bytes) (id j : Nat) : (padTo v id).getD j [] = v.getD j [] :=
  getD_append_replicate v [] _ j

theorem getD_set (l : List Bytes) (i j : Nat) (x : Bytes) :
    (l.set i x).getD j [] = if i = j ∧ j < l.length then x else l.getD j [] := by
  simp only [List.getD_eq_getElem?_getD, List.getElem?_set]
  by_cases hij : i = j
  · subst hij
    by_cases hl : i < l.length
    · simp [hl]
    · simp [hl]
  · simp [hij]

theorem accept_eq (a : Acc) (f : Frag) :
    accept a f =
      if (a.values.getD f.id []).isEmpty
      then .ok ⟨(padTo a.values f.id).set f.id f.payload, if f.last then some (f.id + 1) else a.expected, a.received + 1⟩
      else .err .packetBad := by
  unfold accept
  simp only
  have hlt : f.id < (padTo a.values f.id).length := by rw [length_padTo]; omega
  have hget : (padTo a.values f.id)[f.id]? = some ((padTo a.values f.id).getD f.id []) := by
    simp [List.getD_eq_getElem?_getD, List.getElem?_eq_getElem hlt]
  rw [hget, getD_padTo]
  simp only
  cases (a.values.getD f.id []).isEmpty <;> simp

def ids (l : List Frag) : List Nat := l.map (·.id)

/-- `f` is a packet of the response with payloads `ps` -/
def IsFragOf (ps : List Bytes) (f : Frag) : Prop :=
  f.id < ps.length ∧ f.last = (f.id + 1 == ps.length) ∧ f.payload = ps.getD f.id []

/-- loop state after storing the packets `P` of the response `ps` -/
structure Rep (ps : List Bytes) (P : List Frag) (a : Acc) : Prop where
  len : a.values.length ≤ ps.length
  ids_lt : ∀ i ∈ ids P, i < a.values.length
  slot : ∀ i, a.values.getD i [] = if i ∈ ids P then ps.getD i [] else []
  received : a.received = P.length
  expected : a.expected = if ps.length - 1 ∈ ids P then some ps.length else none

theorem Rep.init (ps : List Bytes) : Rep ps [] Acc.init :=
  ⟨by simp [Acc.init], by simp [ids], by simp [ids, Acc.init], rfl, by simp [ids, Acc.init]⟩

theorem fragsFrom_eq (total : Nat) (ps : List Bytes) (i : Nat) :
    fragsFrom total i ps = (ps.zipIdx i).map fun pj => ⟨pj.2, pj.2 + 1 == total, pj.1⟩ := by
  induction ps generalizing i with
  | nil => rfl
  | cons p r ih => simp only [fragsFrom, List.zipIdx_cons, List.map_cons, ih]

theorem mem_frags (ps : List Bytes) (f : Frag) : f ∈ frags ps ↔ IsFragOf ps f := by
  rw [frags, fragsFrom_eq, List.mem_map]
  constructor
  · rintro ⟨⟨p, j⟩, hmem, rfl⟩
    obtain ⟨_, hj⟩ := List.mk_mem_zipIdx_iff_le_and_getElem?_sub.mp hmem
    rw [Nat.sub_zero] at hj
    exact ⟨(List.getElem?_eq_some_iff.mp hj).1, rfl, by simp [List.getD_eq_getElem?_getD, hj]⟩
  · rintro ⟨hid, hlast, hpay⟩
    refine ⟨(f.payload, f.id), List.mk_mem_zipIdx_iff_le_and_getElem?_sub.mpr ⟨Nat.zero_le _, ?_⟩, ?_⟩
    · rw [hpay, Nat.sub_zero, List.getD_eq_getElem?_getD, List.getElem?_eq_getElem hid]; rfl
    · obtain ⟨id, last, payload⟩ := f
      simp only at hlast
      rw [hlast]

theorem ids_frags (ps : List Bytes) : ids (frags ps) = List.range ps.length := by
  rw [frags, fragsFrom_eq, ids, List.map_map, List.range_eq_range']
  exact List.zipIdx_map_snd ..

theorem Rep.accept {ps : List Bytes} {P : List Frag} {a : Acc} (h : Rep ps P a) {f : Frag} (hf : IsFragOf ps f)
    (hnew : f.id ∉ ids P) : ∃ a', accept a f = .ok a' ∧ Rep ps (P ++ [f]) a' := by
  obtain ⟨hid, hlast, hpay⟩ := hf
  have hslot : a.values.getD f.id [] = [] := by rw [h.slot]; simp [hnew]
  rw [accept_eq, hslot]
  simp only [List.isEmpty_nil, ↓reduceIte]
  refine ⟨_, rfl, ?_⟩
  have hids : ids (P ++ [f]) = ids P ++ [f.id] := by simp [ids]
  constructor
  · simp only [List.length_set, length_padTo]
    have := h.len
    omega
  · intro i hi
    simp only [List.length_set, length_padTo]
    rw [hids] at hi
    rcases List.mem_append.mp hi with hi | hi
    · have := h.ids_lt i hi; omega
    · simp only [List.mem_singleton] at hi; omega
  · intro i
    simp only [getD_set, length_padTo, getD_padTo, hids, List.mem_append, List.mem_singleton]
    by_cases hi : f.id = i
    · subst hi
      have : f.id < max a.values.length (f.id + 1) := by omega
      simp [this, hpay]
    · have hi' : ¬ i = f.id := fun h => hi h.symm
      simp only [hi, false_and, ↓reduceIte, h.slot i, hi', or_false]
  · simp [h.received]
  · simp only [hids, List.mem_append, List.mem_singleton]
    rw [hlast]
    by_cases hl : f.id + 1 = ps.length
    · have : ps.length - 1 = f.id := by omega
      simp [hl, this]
    · have : ¬ ps.length - 1 = f.id := by omega
      simp [hl, this, h.expected]

/-- pigeonhole: `n` distinct numbers below `n` are all of them -/
theorem all_mem_of_nodup {l : List Nat} {n : Nat} (hnd : l.Nodup) (hlt : ∀ i ∈ l, i < n) (hlen : n ≤ l.length) :
    ∀ i, i < n → i ∈ l := by
  intro i hi
  apply Classical.byContradiction
  intro hni
  have hsub : l ⊆ (List.range n).erase i := by
    intro x hx
    have hxi : x ≠ i := fun h => hni (h ▸ hx)
    exact (List.mem_erase_of_ne hxi).2 (List.mem_range.mpr (hlt x hx))
  have := hnd.length_le_of_subset hsub
  rw [List.length_erase] at this
  simp [hi] at this
  omega

theorem Rep.complete {ps : List Bytes} {P : List Frag} {a : Acc} (h : Rep ps P a) (hne : ps ≠ [])
    (hpay : ∀ p ∈ ps, p ≠ []) (hall : ∀ i, i < ps.length → i ∈ ids P) (hlen : P.length = ps.length) :
    a.more = false ∧ finish a = .ok ps := by
  have hn : 0 < ps.length := List.length_pos_iff.mpr hne
  have hvals : a.values = ps := by
    have hl : a.values.length = ps.length := by
      have := h.ids_lt (ps.length - 1) (hall _ (by omega))
      have := h.len
      omega
    apply List.ext_getElem hl
    intro i h1 h2
    have := h.slot i
    simp only [hall i h2, ↓reduceIte, List.getD_eq_getElem?_getD, List.getElem?_eq_getElem h1,
      List.getElem?_eq_getElem h2, Option.getD_some] at this
    exact this
  constructor
  · simp [Acc.more, h.expected, hall _ (show ps.length - 1 < ps.length by omega), h.received, hlen]
  · unfold finish
    rw [hvals]
    have : ps.any (·.isEmpty) = false := by
      rw [List.any_eq_false]
      intro p hp
      have := hpay p hp
      cases p with
      | nil => exact absurd rfl this
      | cons => simp
    simp [this]

theorem Rep.more {ps : List Bytes} {P : List Frag} {a : Acc} (h : Rep ps P a) (hlt : P.length < ps.length) :
    a.more = true := by
  unfold Acc.more
  rw [h.expected]
  split
  · rfl
  · rename_i e he
    split at he
    · cases he
      simp [h.received, hlt]
    · cases he

/-- The loop on packets of the response `ps` (any of them, in any order, possibly repeated) that
between them cover the response: the result is the payloads in order of the ids; unless some packet
arrives twice before the response is complete, which is an error. -/
theorem feed_frags (ps : List Bytes) (hne : ps ≠ []) (hpay : ∀ p ∈ ps, p ≠ []) :
    ∀ (R P : List Frag) (a : Acc), Rep ps P a → (ids P).Nodup → (∀ f ∈ P ++ R, IsFragOf ps f) →
      (∀ i, i < ps.length → i ∈ ids (P ++ R)) →
      feed a (R.map .ok) = .ok ps ∨ (feed a (R.map .ok) = .err .packetBad ∧ ¬ (ids (P ++ R)).Nodup) := by
  intro R
  induction R with
  | nil =>
    intro P a hrep hnd hfr hcov
    left
    simp only [List.append_nil] at hcov hfr
    have hlen : P.length = ps.length := by
      have h1 : (ids P).length ≤ (List.range ps.length).length :=
        hnd.length_le_of_subset (fun i hi => by
          obtain ⟨f, hf, rfl⟩ := List.mem_map.mp hi
          exact List.mem_range.mpr (hfr f hf).1)
      have h2 : (List.range ps.length).length ≤ (ids P).length :=
        List.nodup_range.length_le_of_subset (fun i hi => hcov i (List.mem_range.mp hi))
      simp [ids] at h1 h2
      omega
    obtain ⟨hm, hfin⟩ := hrep.complete hne hpay hcov hlen
    simp [feed, hm, hfin]
  | cons f R ih =>
    intro P a hrep hnd hfr hcov
    have hPlt : ∀ i ∈ ids P, i < ps.length := by
      intro i hi
      obtain ⟨g, hg, rfl⟩ := List.mem_map.mp hi
      exact (hfr g (by simp [hg])).1
    have hPlen : P.length ≤ ps.length := by
      have := hnd.length_le_of_subset (l₂ := List.range ps.length) (fun i hi => List.mem_range.mpr (hPlt i hi))
      simpa [ids] using this
    simp only [List.map_cons, feed]
    by_cases hdone : P.length = ps.length
    · -- everything is there already: the loop is over, what follows is not read
      have hall := all_mem_of_nodup hnd hPlt (by simp [ids, hdone])
      obtain ⟨hm, hfin⟩ := hrep.complete hne hpay hall hdone
      left
      simp [hm, hfin]
    · have hm := hrep.more (by omega)
      simp only [hm, ↓reduceIte, Res.bind_ok]
      by_cases hseen : f.id ∈ ids P
      · right
        have hslot : (a.values.getD f.id []).isEmpty = false := by
          rw [hrep.slot, if_pos hseen]
          have hfid := hPlt _ hseen
          have hmem : ps.getD f.id [] ∈ ps := by
            rw [List.getD_eq_getElem?_getD, List.getElem?_eq_getElem hfid]
            exact List.getElem_mem hfid
          have := hpay _ hmem
          cases hp : ps.getD f.id [] with
          | nil => exact absurd hp this
          | cons => rfl
        rw [accept_eq, hslot]
        refine ⟨by simp, ?_⟩
        intro hnd'
        have : ids (P ++ f :: R) = ids P ++ f.id :: ids R := by simp [ids]
        rw [this] at hnd'
        have := (List.nodup_append.mp hnd').2.2 _ hseen f.id (by simp)
        exact this rfl
      · obtain ⟨a', hacc, hrep'⟩ := hrep.accept (hfr f (by simp)) hseen
        rw [hacc]
        simp only
        have hnd' : (ids (P ++ [f])).Nodup := by
          have : ids (P ++ [f]) = ids P ++ [f.id] := by simp [ids]
          rw [this]
          refine List.nodup_append.mpr ⟨hnd, by simp, ?_⟩
          intro x hx y hy
          simp only [List.mem_singleton] at hy
          subst hy
          exact fun h => hseen (h ▸ hx)
        have hassoc : (P ++ [f]) ++ R = P ++ f :: R := by simp
        have := ih (P ++ [f]) a' hrep' hnd' (by rw [hassoc]; exact hfr) (by rw [hassoc]; exact hcov)
        rw [hassoc] at this
        exact this

end Gd.Gs3
