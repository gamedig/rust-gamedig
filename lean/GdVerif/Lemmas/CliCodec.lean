import GdVerif.Proto.CliCodec
/-
  Lemmas for the hex / base64 mirrors of the command-line tool's model: decoders invert encoders, alphabets, padding.
-/
namespace Gd.Cli

theorem u8_ofNat_toNat (b : UInt8) : UInt8.ofNat b.toNat = b := by
  cases b; simp

theorem u8_lt (b : UInt8) : b.toNat < 256 := b.toNat_lt

theorem hexDigitVal_lower : ∀ n, n < 16 → hexDigitVal (hexLowerDigit n) = some n := by decide

theorem isLowerHexDigit_lower : ∀ n, n < 16 → isLowerHexDigit (hexLowerDigit n) = true := by decide

theorem hexEncode_cons (b : UInt8) (r : Bytes) :
    hexEncode (b :: r) = hexLowerDigit (b.toNat / 16) :: hexLowerDigit (b.toNat % 16) :: hexEncode r := by
  simp [hexEncode]

theorem hexDecode_encode (bs : Bytes) : hexDecode (hexEncode bs) = some bs := by
  induction bs with
  | nil => rfl
  | cons b r ih =>
    have hb := u8_lt b
    rw [hexEncode_cons]
    unfold hexDecode
    rw [hexDigitVal_lower _ (by omega), hexDigitVal_lower _ (by omega), ih]
    have : b.toNat / 16 * 16 + b.toNat % 16 = b.toNat := by omega
    simp only [this, u8_ofNat_toNat]

theorem hexEncode_alphabet (bs : Bytes) : ∀ c ∈ hexEncode bs, isLowerHexDigit c = true := by
  induction bs with
  | nil => intro c hc; cases hc
  | cons b r ih =>
    have hb := u8_lt b
    intro c hc
    rw [hexEncode_cons] at hc
    simp only [List.mem_cons] at hc
    rcases hc with rfl | rfl | hc
    · exact isLowerHexDigit_lower _ (by omega)
    · exact isLowerHexDigit_lower _ (by omega)
    · exact ih c hc

theorem hexEncode_length (bs : Bytes) : (hexEncode bs).length = 2 * bs.length := by
  induction bs with
  | nil => rfl
  | cons b r ih => rw [hexEncode_cons]; simp only [List.length_cons, ih]; omega

theorem b64Val_char : ∀ n, n < 64 → b64Val (b64Char n) = some n := by decide

theorem b64Char_ne_pad : ∀ n, n < 64 → b64Char n ≠ b64Pad := by decide

theorem isB64Char_char (n : Nat) (h : n < 64) : isB64Char (b64Char n) = true := by
  simp [isB64Char, b64Val_char n h]

theorem b64Pad_not_char : isB64Char b64Pad = false := by decide

theorem sextets_lt (a b c : UInt8) :
    a.toNat / 4 < 64 ∧ a.toNat % 4 * 16 + b.toNat / 16 < 64 ∧ b.toNat % 16 * 4 + c.toNat / 64 < 64 ∧ c.toNat % 64 < 64 := by
  have := u8_lt a; have := u8_lt b; have := u8_lt c
  omega

theorem b64Encode_group (a b c : UInt8) (r : Bytes) :
    b64Encode (a :: b :: c :: r) =
      b64Char (a.toNat / 4) :: b64Char (a.toNat % 4 * 16 + b.toNat / 16) :: b64Char (b.toNat % 16 * 4 + c.toNat / 64)
        :: b64Char (c.toNat % 64) :: b64Encode r := by
  simp [b64Encode]

theorem b64Decode_group (a b c : UInt8) (t : Bytes) (bs : Bytes) (ht : b64Decode t = some bs) :
    b64Decode (b64Char (a.toNat / 4) :: b64Char (a.toNat % 4 * 16 + b.toNat / 16)
      :: b64Char (b.toNat % 16 * 4 + c.toNat / 64) :: b64Char (c.toNat % 64) :: t) = some (a :: b :: c :: bs) := by
  have ha := u8_lt a; have hb := u8_lt b; have hc := u8_lt c
  obtain ⟨h1, h2, h3, h4⟩ := sextets_lt a b c
  have e1 : a.toNat / 4 * 4 + (a.toNat % 4 * 16 + b.toNat / 16) / 16 = a.toNat := by omega
  have e2 : (a.toNat % 4 * 16 + b.toNat / 16) % 16 * 16 + (b.toNat % 16 * 4 + c.toNat / 64) / 4 = b.toNat := by omega
  have e3 : (b.toNat % 16 * 4 + c.toNat / 64) % 4 * 64 + c.toNat % 64 = c.toNat := by omega
  cases t with
  | nil =>
    have hbs : bs = [] := by
      simp [b64Decode] at ht; exact ht
    subst hbs
    unfold b64Decode
    have n3 := b64Char_ne_pad _ h3
    have n4 := b64Char_ne_pad _ h4
    simp only [n3, n4, false_and, ↓reduceIte, b64Val_char _ h1, b64Val_char _ h2, b64Val_char _ h3, b64Val_char _ h4,
      e1, e2, e3, u8_ofNat_toNat]
  | cons x xs =>
    unfold b64Decode
    simp only [b64Val_char _ h1, b64Val_char _ h2, b64Val_char _ h3, b64Val_char _ h4, ht, e1, e2, e3, u8_ofNat_toNat]

theorem b64Decode_encode (bs : Bytes) : b64Decode (b64Encode bs) = some bs := by
  fun_induction b64Encode bs with
  | case1 => rfl
  | case2 a =>
    have ha := u8_lt a
    have h1 : a.toNat / 4 < 64 := by omega
    have h2 : a.toNat % 4 * 16 < 64 := by omega
    have e1 : a.toNat / 4 * 4 + a.toNat % 4 * 16 / 16 = a.toNat := by omega
    have e0 : a.toNat % 4 * 16 % 16 = 0 := by omega
    unfold b64Decode
    simp only [and_self, ↓reduceIte, b64Val_char _ h1, b64Val_char _ h2, e0, e1, u8_ofNat_toNat]
  | case3 a b =>
    have ha := u8_lt a; have hb := u8_lt b
    have h1 : a.toNat / 4 < 64 := by omega
    have h2 : a.toNat % 4 * 16 + b.toNat / 16 < 64 := by omega
    have h3 : b.toNat % 16 * 4 < 64 := by omega
    have e1 : a.toNat / 4 * 4 + (a.toNat % 4 * 16 + b.toNat / 16) / 16 = a.toNat := by omega
    have e2 : (a.toNat % 4 * 16 + b.toNat / 16) % 16 * 16 + b.toNat % 16 * 4 / 4 = b.toNat := by omega
    have e0 : b.toNat % 16 * 4 % 4 = 0 := by omega
    have n3 := b64Char_ne_pad _ h3
    unfold b64Decode
    simp only [n3, false_and, ↓reduceIte, b64Val_char _ h1, b64Val_char _ h2, b64Val_char _ h3, e0, e1, e2, u8_ofNat_toNat]
  | case4 a b c r ih => exact b64Decode_group a b c _ r ih

theorem b64Encode_length (bs : Bytes) : (b64Encode bs).length = 4 * ((bs.length + 2) / 3) := by
  fun_induction b64Encode bs with
  | case1 => rfl
  | case2 a => simp
  | case3 a b => simp
  | case4 a b c r ih =>
    simp only [List.length_append, List.length_cons, List.length_nil, ih]
    omega

theorem b64Encode_shape (bs : Bytes) :
    ∃ body, b64Encode bs = body ++ List.replicate ((3 - bs.length % 3) % 3) b64Pad ∧ ∀ c ∈ body, isB64Char c = true := by
  fun_induction b64Encode bs with
  | case1 => exact ⟨[], rfl, fun c hc => by cases hc⟩
  | case2 a =>
    have ha := u8_lt a
    refine ⟨[b64Char (a.toNat / 4), b64Char (a.toNat % 4 * 16)], rfl, fun c hc => ?_⟩
    simp only [List.mem_cons, List.not_mem_nil, or_false] at hc
    rcases hc with rfl | rfl <;> exact isB64Char_char _ (by omega)
  | case3 a b =>
    have ha := u8_lt a; have hb := u8_lt b
    refine ⟨[b64Char (a.toNat / 4), b64Char (a.toNat % 4 * 16 + b.toNat / 16), b64Char (b.toNat % 16 * 4)], rfl, fun c hc => ?_⟩
    simp only [List.mem_cons, List.not_mem_nil, or_false] at hc
    rcases hc with rfl | rfl | rfl <;> exact isB64Char_char _ (by omega)
  | case4 a b c r ih =>
    obtain ⟨body, hbody, hall⟩ := ih
    obtain ⟨h1, h2, h3, h4⟩ := sextets_lt a b c
    refine ⟨[b64Char (a.toNat / 4), b64Char (a.toNat % 4 * 16 + b.toNat / 16), b64Char (b.toNat % 16 * 4 + c.toNat / 64),
      b64Char (c.toNat % 64)] ++ body, ?_, ?_⟩
    · have hl : (a :: b :: c :: r).length % 3 = r.length % 3 := by simp only [List.length_cons]; omega
      rw [hl, hbody, List.append_assoc]
    · simp only [List.forall_mem_append, List.forall_mem_cons]
      exact ⟨⟨isB64Char_char _ h1, isB64Char_char _ h2, isB64Char_char _ h3, isB64Char_char _ h4, nofun⟩, hall⟩

end Gd.Cli
