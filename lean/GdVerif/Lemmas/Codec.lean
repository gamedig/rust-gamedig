import GdVerif.Base
/-
  Number codecs: little / big-endian encoding and decoding are mutually inverse; 16-bit units as bytes; two's complement
  (`ofSigned` and `toSigned` are mutually inverse on the representable range).
-/
namespace Gd

theorem natLE_length (w n : Nat) : (natLE w n).length = w := by
  induction w generalizing n with
  | zero => rfl
  | succ w ih => simp [natLE, ih]

theorem UInt8.toNat_ofNat_mod (n : Nat) : (UInt8.ofNat (n % 256)).toNat = n % 256 := by
  simp [UInt8.toNat_ofNat']

theorem toNat_ofNat_lt (t : Nat) (h : t < 256) : (UInt8.ofNat t).toNat = t := by
  simp [UInt8.toNat_ofNat', Nat.mod_eq_of_lt h]

theorem toNat_ne_of_ne {b c : UInt8} (h : b ≠ c) : b.toNat ≠ c.toNat := fun e => h (UInt8.toNat_inj.mp e)

theorem leNat_natLE (w n : Nat) : leNat (natLE w n) = n % 256 ^ w := by
  induction w generalizing n with
  | zero => simp [natLE, leNat, Nat.mod_one]
  | succ w ih =>
    simp only [natLE, leNat, ih]
    rw [UInt8.toNat_ofNat_mod, Nat.pow_succ, Nat.mul_comm (256 ^ w) 256, Nat.mod_mul]

theorem natLE_leNat (l : Bytes) : natLE l.length (leNat l) = l := by
  induction l with
  | nil => rfl
  | cons b r ih =>
    have hb := b.toNat_lt
    have e1 : (b.toNat + 256 * leNat r) % 256 = b.toNat := by omega
    have e2 : (b.toNat + 256 * leNat r) / 256 = leNat r := by omega
    simp only [List.length_cons, leNat, natLE, e1, e2, ih, UInt8.ofNat_toNat]

theorem leNat_lt (bs : Bytes) : leNat bs < 256 ^ bs.length := by
  induction bs with
  | nil => simp [leNat]
  | cons b r ih =>
    simp only [leNat, List.length_cons, Nat.pow_succ]
    have := b.toNat_lt
    omega

theorem leNat_eq_foldr (l : Bytes) : leNat l = l.foldr (fun b acc => acc * 256 + b.toNat) 0 := by
  induction l with
  | nil => rfl
  | cons b r ih => rw [leNat, List.foldr_cons, ← ih, Nat.mul_comm, Nat.add_comm]

theorem beNat_eq_leNat_reverse (bs : Bytes) : beNat bs = leNat bs.reverse := by
  rw [leNat_eq_foldr, List.foldr_reverse]
  rfl

theorem beNat_natBE (w n : Nat) : beNat (natBE w n) = n % 256 ^ w := by
  rw [beNat_eq_leNat_reverse, natBE, List.reverse_reverse, leNat_natLE]

theorem natBE_beNat (l : Bytes) : natBE l.length (beNat l) = l := by
  rw [beNat_eq_leNat_reverse, natBE, ← List.length_reverse, natLE_leNat, List.reverse_reverse]

theorem eq_natBE_of_beNat {l : Bytes} {w n : Nat} (hl : l.length = w) (h : beNat l = n) : l = natBE w n := by
  rw [← hl, ← h, natBE_beNat]

theorem Endian.encode_length (e : Endian) (w n : Nat) : (e.encode w n).length = w := by
  cases e <;> simp [Endian.encode, natBE, natLE_length]

theorem Endian.decode_encode (e : Endian) (w n : Nat) (h : n < 256 ^ w) : e.decode (e.encode w n) = n := by
  cases e
  · simp [Endian.decode, Endian.encode, leNat_natLE, Nat.mod_eq_of_lt h]
  · simp [Endian.decode, Endian.encode, beNat_natBE, Nat.mod_eq_of_lt h]

theorem Endian.decode_lt (e : Endian) (bs : Bytes) : e.decode bs < 256 ^ bs.length := by
  cases e
  · exact leNat_lt bs
  · simp only [Endian.decode, beNat_eq_leNat_reverse]
    have := leNat_lt bs.reverse
    simpa using this

theorem bytesOfUnits_cons (e : Endian) (u : Nat) (us : List Nat) :
    bytesOfUnits e (u :: us) = e.encode 2 u ++ bytesOfUnits e us := by
  simp [bytesOfUnits]

theorem bytesOfUnits_append (e : Endian) (a b : List Nat) :
    bytesOfUnits e (a ++ b) = bytesOfUnits e a ++ bytesOfUnits e b := by
  simp [bytesOfUnits]

theorem bytesOfUnits_length (e : Endian) (us : List Nat) : (bytesOfUnits e us).length = 2 * us.length := by
  induction us with
  | nil => rfl
  | cons u r ih => rw [bytesOfUnits_cons, List.length_append, Endian.encode_length, ih]; simp; omega

theorem encode2 (e : Endian) (u : Nat) : ∃ a b, e.encode 2 u = [a, b] := by
  have := Endian.encode_length e 2 u
  match h : e.encode 2 u, this with
  | [a, b], _ => exact ⟨a, b, rfl⟩

theorem unitsOf_bytesOfUnits (e : Endian) (us : List Nat) (h : ∀ u ∈ us, u < 65536) :
    unitsOf e (bytesOfUnits e us) = us := by
  induction us with
  | nil => rfl
  | cons u r ih =>
    obtain ⟨a, b, hab⟩ := encode2 e u
    rw [bytesOfUnits_cons, hab]
    simp only [List.cons_append, List.nil_append, unitsOf]
    rw [← hab, Endian.decode_encode e 2 u (by have := h u (by simp); omega), ih fun x hx => h x (by simp [hx])]

theorem toSigned_of_lt {bits n : Nat} (h : n < 2 ^ (bits - 1)) : toSigned bits n = n := by
  simp [toSigned, h]

theorem ofSigned_toSigned (bits n : Nat) (hb : 0 < bits) (h : n < 2 ^ bits) :
    ofSigned bits (toSigned bits n) = n := by
  unfold ofSigned toSigned
  generalize hT : ((2 ^ bits : Nat) : Int) = T
  have hn : (n : Int) % T = n := Int.emod_eq_of_lt (Int.natCast_nonneg n) (by omega)
  split
  · rw [hn, Int.toNat_natCast]
  · rw [← Int.add_emod_right, Int.sub_add_cancel, hn, Int.toNat_natCast]

theorem ofSigned_lt (bits : Nat) (i : Int) : ofSigned bits i < 2 ^ bits := by
  unfold ofSigned
  have hP : (0 : Int) < ((2 ^ bits : Nat) : Int) := Int.natCast_pos.2 (Nat.pow_pos (by omega))
  have := Int.emod_lt_of_pos i hP
  have := Int.emod_nonneg i (Int.ne_of_gt hP)
  omega

theorem two_pow_pred (bits : Nat) (hb : 0 < bits) : (2 : Nat) ^ bits = 2 * 2 ^ (bits - 1) := by
  obtain ⟨k, rfl⟩ : ∃ k, bits = k + 1 := ⟨bits - 1, by omega⟩
  rw [Nat.pow_succ, Nat.mul_comm, Nat.add_sub_cancel]

theorem toSigned_ofSigned (bits : Nat) (hb : 0 < bits) (i : Int) (hlo : -(2 ^ (bits - 1) : Int) ≤ i)
    (hhi : i < 2 ^ (bits - 1)) : toSigned bits (ofSigned bits i) = i := by
  rw [show (2 : Int) ^ (bits - 1) = ((2 ^ (bits - 1) : Nat) : Int) by rw [Int.natCast_pow]; rfl] at hlo hhi
  unfold toSigned ofSigned
  rw [two_pow_pred bits hb]
  -- with `H` for half the range and `T` for the whole of it everything is linear
  generalize 2 ^ (bits - 1) = H at hlo hhi ⊢
  generalize hT : ((2 * H : Nat) : Int) = T
  by_cases hneg : i < 0
  · have h : 0 ≤ i + T ∧ i + T < T := by omega
    obtain ⟨n, hn⟩ := Int.eq_ofNat_of_zero_le h.1
    have hnH : ¬ n < H := by omega
    rw [← Int.add_emod_right, Int.emod_eq_of_lt h.1 h.2, hn, Int.toNat_natCast, if_neg hnH, ← hn]
    exact Int.add_sub_cancel i T
  · have h : 0 ≤ i ∧ i < T := by omega
    obtain ⟨n, hn⟩ := Int.eq_ofNat_of_zero_le h.1
    have hnH : n < H := by omega
    rw [Int.emod_eq_of_lt h.1 h.2, hn, Int.toNat_natCast, if_pos hnH]

end Gd
