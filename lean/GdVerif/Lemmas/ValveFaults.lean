import GdVerif.Lemmas.ValveWhole2
import GdVerif.Lemmas.QStepsN
import GdVerif.Lemmas.QFlags
import GdVerif.Spec.ValveFaults
/-
  The whole Valve query under a fault plan (C10 end to end), and without faults (C02, the whole query).

  The query is followed with the logic `Steps` of `Lemmas/QSteps.lean` — the queue, the send-fault flags still to be
  consumed and the datagrams sent so far, for ANY outcome of a computation — through scripts in which attempts time out
  (silence, failed send) or receive a malformed datagram; `receive` on the server's reply is `Lemmas/ValveWhole2.lean`'s.
  A plan scripts one flag per send.  The theorems about a fault-free exchange start from a state with NO flags; the
  query cannot tell that from flags that are all `false` (`FlagBlind`, `Lemmas/QFlags.lean`), so `query_whole` at the
  end of this file is `query_faulty` at the plan without faults.
-/
namespace Gd.Valve
open Gd Gd.Valve.Spec Gd.Faults

theorem steps_receive_silence (ext : Ext) (s : Sock) (engine : Engine) (protocol : Nat) (q : List Delivery)
    (fs : List Bool) (sn : List (Bytes × Bool)) :
    Steps s (receive ext s engine protocol) (.err .packetReceive) ⟨.silence :: q, fs, sn⟩ ⟨q, fs, sn⟩ := by
  rw [receive_eq]
  exact Steps.bind_err (steps_recv_silence s _ q fs sn)

theorem run_short {α : Type} (e : Endian) (w : Nat) (g : Nat → Nat → Par α) (data : Bytes) (h : data.length < 4 + w) :
    (readUnsigned .little 4 >>= fun a => readUnsigned e w >>= g a).run data = .err .packetUnderflow := by
  show Par.run (Par.bind' (readUnsigned .little 4) fun a => Par.bind' (readUnsigned e w) (g a)) data = _
  unfold Par.run Par.bind'
  by_cases h4 : data.length < 4
  · simp [readUnsigned, Buf.new, Buf.remaining, h4]
  · have h5 : data.length - 4 < w := by omega
    simp [readUnsigned, Buf.new, Buf.remaining, Buf.advance, h4, h5]

theorem run_readU8_short (data : Bytes) : (∃ v, readU8.run data = .ok v) ∨ readU8.run data = .err .packetUnderflow := by
  unfold readU8 Par.run readUnsigned
  by_cases h : (Buf.new data).remaining < 1
  · right; simp [h]
  · left; simp [h]

/-- a datagram shorter than a packet header (5 bytes) is rejected with `PacketUnderflow`, whatever its bytes -/
theorem afterFirst_short (ext : Ext) (s : Sock) (engine : Engine) (protocol : Nat) (m : Bytes) (hm : m.length < 5) :
    afterFirst ext s engine protocol m = Q.lift (.err .packetUnderflow) := by
  have hsplit : (splitPacketNew engine protocol).run m = .err .packetUnderflow := by
    unfold splitPacketNew
    exact run_short .little 4 _ m (by omega)
  have hpkt : packetFromBuffer.run m = .err .packetUnderflow := by
    unfold packetFromBuffer readU8
    exact run_short .little 1 _ m (by omega)
  funext w
  unfold afterFirst
  rw [Q.bind_apply, parse_apply]
  rcases run_readU8_short m with ⟨v, hv⟩ | hv
  · rw [hv]
    simp only
    split
    · rw [Q.bind_apply, parse_apply, hsplit]; rfl
    · rw [parse_apply, hpkt]; rfl
  · rw [hv]; rfl

theorem steps_receive_short (ext : Ext) (s : Sock) (hudp : s.tcp = false) (engine : Engine) (protocol : Nat)
    (m : Bytes) (hm : m.length < 5) (q : List Delivery) (fs : List Bool) (sn : List (Bytes × Bool)) :
    Steps s (receive ext s engine protocol) (.err .packetUnderflow) ⟨.data m :: q, fs, sn⟩ ⟨q, fs, sn⟩ := by
  rw [receive_eq]
  refine Steps.bind (steps_recv s hudp PACKET_SIZE m (by unfold PACKET_SIZE; omega) q fs sn) ?_
  rw [afterFirst_short ext s engine protocol m hm]
  exact Steps.lift s _ _

/-- what the client reads from each datagram of a reply that travels as two or more datagrams: a fragment (first byte
`FE`) that announces as many fragments as there are datagrams -/
def PoolOk (engine : Engine) (protocol : Nat) (pool : List Bytes) : Prop :=
  2 ≤ pool.length → ∀ d ∈ pool, readU8.run d = .ok 0xFE ∧
    ∃ sp, (splitPacketNew engine protocol).run d = .ok sp ∧ sp.total = pool.length

theorem poolOk_enum (engine : Engine) (protocol : Nat) (frag : Nat → Bytes → Bytes) (id size : Nat)
    (dec : Nat → Option (Nat × Nat)) (cs : List Bytes) (F : Fragments engine protocol cs.length frag id size dec) :
    PoolOk engine protocol ((Spec.enumFrom 0 cs).map fun p => frag p.1 p.2) := by
  intro _ d hd
  obtain ⟨e, he, rfl⟩ := List.mem_map.mp hd
  have hb := (enumFrom_bounds cs 0 e he).2
  refine ⟨F.first _ _, _, F.parse _ _ (by omega), ?_⟩
  rw [List.length_map, enumFrom_length]

theorem poolOk_datagrams (ext : Ext) (engine : Engine) (protocol : Nat) (t : Transport)
    (ht : wfTransport engine t = true) (packet : Bytes) (hbz : BzOk ext packet t) :
    PoolOk engine protocol (datagrams (withSize engine protocol) t packet) := by
  by_cases hs : t = .single
  · subst hs
    intro h
    simp [datagrams] at h
  · obtain ⟨frag, id, size, dec, c, cs, hd, F, _⟩ := datagrams_split ext engine protocol t ht hs packet hbz
    rw [hd]
    exact poolOk_enum engine protocol frag id size dec (c :: cs) F

/-- `for _ in 1 .. total { receive; SplitPacket::new }` on fragments `r` (fewer than it waits for) followed by a delivery
`x` at which one more round of the loop ends with the error `e`: the loop ends with `e` -/
theorem steps_recvChunks_stop (s : Sock) (hudp : s.tcp = false) (engine : Engine) (protocol : Nat) (e : ErrKind)
    (x : Delivery) (q : List Delivery)
    (hx : ∀ n fs sn, Steps s (recvChunks s engine protocol (n + 1)) (.err e) ⟨x :: q, fs, sn⟩ ⟨q, fs, sn⟩) :
    ∀ (r : List Bytes) (n : Nat), r.length < n → (∀ d ∈ r, d.length ≤ PACKET_SIZE) →
      (∀ d ∈ r, ∃ sp, (splitPacketNew engine protocol).run d = .ok sp) → ∀ fs sn,
      Steps s (recvChunks s engine protocol n) (.err e) ⟨r.map .data ++ x :: q, fs, sn⟩ ⟨q, fs, sn⟩ := by
  intro r
  induction r with
  | nil =>
    intro n hn _ _ fs sn
    obtain ⟨n', rfl⟩ : ∃ n', n = n' + 1 := ⟨n - 1, by simp at hn; omega⟩
    exact hx n' fs sn
  | cons d r ih =>
    intro n hn hfit hparse fs sn
    obtain ⟨n', rfl⟩ : ∃ n', n = n' + 1 := ⟨n - 1, by simp at hn; omega⟩
    obtain ⟨sp, hsp⟩ := hparse d (by simp)
    unfold recvChunks
    simp only [List.map_cons, List.cons_append]
    refine Steps.bind (steps_recv s hudp PACKET_SIZE d (hfit d (by simp)) _ fs sn) ?_
    refine Steps.bind ((Steps.parse s _ d _).congrRes hsp.symm) ?_
    exact Steps.bind_err (ih n' (by simp at hn; omega) (fun y hy => hfit y (by simp [hy]))
      (fun y hy => hparse y (by simp [hy])) fs sn)

theorem steps_recvChunks_silence (s : Sock) (engine : Engine) (protocol : Nat) (q : List Delivery) (n : Nat)
    (fs : List Bool) (sn : List (Bytes × Bool)) :
    Steps s (recvChunks s engine protocol (n + 1)) (.err .packetReceive) ⟨.silence :: q, fs, sn⟩ ⟨q, fs, sn⟩ := by
  unfold recvChunks
  exact Steps.bind_err (steps_recv_silence s _ q fs sn)

theorem steps_recvChunks_short (s : Sock) (hudp : s.tcp = false) (engine : Engine) (protocol : Nat) (m : Bytes)
    (hm : m.length < 5) (q : List Delivery) (n : Nat) (fs : List Bool) (sn : List (Bytes × Bool)) :
    Steps s (recvChunks s engine protocol (n + 1)) (.err .packetUnderflow) ⟨.data m :: q, fs, sn⟩ ⟨q, fs, sn⟩ := by
  have hsplit : (splitPacketNew engine protocol).run m = .err .packetUnderflow := by
    unfold splitPacketNew
    exact run_short .little 4 _ m (by omega)
  unfold recvChunks
  refine Steps.bind (steps_recv s hudp PACKET_SIZE m (by unfold PACKET_SIZE; omega) q fs sn) ?_
  exact Steps.bind_err ((Steps.parse s _ m _).congrRes hsplit.symm)

theorem steps_receive_stop (ext : Ext) (s : Sock) (hudp : s.tcp = false) (engine : Engine) (protocol : Nat)
    (e : ErrKind) (x : Delivery) (q : List Delivery)
    (hx0 : ∀ fs sn, Steps s (receive ext s engine protocol) (.err e) ⟨x :: q, fs, sn⟩ ⟨q, fs, sn⟩)
    (hx : ∀ n fs sn, Steps s (recvChunks s engine protocol (n + 1)) (.err e) ⟨x :: q, fs, sn⟩ ⟨q, fs, sn⟩)
    (pool : List Bytes) (hpool : PoolOk engine protocol pool) (hfit : ∀ d ∈ pool, d.length ≤ PACKET_SIZE)
    (got : List Bytes) (hgot : partOf got pool = true) (fs : List Bool) (sn : List (Bytes × Bool)) :
    Steps s (receive ext s engine protocol) (.err e) ⟨got.map .data ++ x :: q, fs, sn⟩ ⟨q, fs, sn⟩ := by
  cases got with
  | nil => exact hx0 fs sn
  | cons d r =>
    have hlen := partOf_length hgot (by simp)
    have hmem := partOf_mem hgot
    simp only [List.length_cons] at hlen
    have hp := hpool (by omega)
    obtain ⟨hfe, sp, hsp, htot⟩ := hp d (hmem d (by simp))
    rw [receive_eq]
    simp only [List.map_cons, List.cons_append]
    refine Steps.bind (steps_recv s hudp PACKET_SIZE d (hfit d (hmem d (by simp))) _ fs sn) ?_
    unfold afterFirst
    refine Steps.bind ((Steps.parse s _ d _).congrRes hfe.symm) ?_
    simp only [beq_self_eq_true, ↓reduceIte]
    refine Steps.bind ((Steps.parse s _ d _).congrRes hsp.symm) ?_
    refine Steps.bind_err (steps_recvChunks_stop s hudp engine protocol e x q hx r (sp.total - 1) (by omega)
      (fun y hy => hfit y (hmem y (by simp [hy])))
      (fun y hy => by
        obtain ⟨_, sp', hsp', _⟩ := hp y (hmem y (by simp [hy]))
        exact ⟨sp', hsp'⟩) fs sn)

theorem steps_receive_lost (ext : Ext) (s : Sock) (hudp : s.tcp = false) (engine : Engine) (protocol : Nat)
    (pool : List Bytes) (hpool : PoolOk engine protocol pool) (hfit : ∀ d ∈ pool, d.length ≤ PACKET_SIZE)
    (got : List Bytes) (hgot : partOf got pool = true) (q : List Delivery) (fs : List Bool) (sn : List (Bytes × Bool)) :
    Steps s (receive ext s engine protocol) (.err .packetReceive) ⟨got.map .data ++ .silence :: q, fs, sn⟩ ⟨q, fs, sn⟩ :=
  steps_receive_stop ext s hudp engine protocol .packetReceive .silence q
    (fun fs sn => steps_receive_silence ext s engine protocol q fs sn)
    (fun n fs sn => steps_recvChunks_silence s engine protocol q n fs sn) pool hpool hfit got hgot fs sn

theorem steps_receive_shortAfter (ext : Ext) (s : Sock) (hudp : s.tcp = false) (engine : Engine) (protocol : Nat)
    (pool : List Bytes) (hpool : PoolOk engine protocol pool) (hfit : ∀ d ∈ pool, d.length ≤ PACKET_SIZE)
    (got : List Bytes) (hgot : partOf got pool = true) (m : Bytes) (hm : m.length < 5) (q : List Delivery)
    (fs : List Bool) (sn : List (Bytes × Bool)) :
    Steps s (receive ext s engine protocol) (.err .packetUnderflow) ⟨got.map .data ++ .data m :: q, fs, sn⟩
      ⟨q, fs, sn⟩ :=
  steps_receive_stop ext s hudp engine protocol .packetUnderflow (.data m) q
    (fun fs sn => steps_receive_short ext s hudp engine protocol m hm q fs sn)
    (fun n fs sn => steps_recvChunks_short s hudp engine protocol m hm q n fs sn) pool hpool hfit got hgot fs sn

/-- The rounds of `get_request_data_impl` from a request `d` about to be sent, with fuel `n` for the loop behind it, while
the server will issue the challenges `cs` and the attempt then ends as `hlast` says: the last request (flagged `b`) meets
`tq` on the queue and `tf` among the flags, with outcome `r`.  Every challenge is answered, the outcome is `r`. -/
theorem steps_rounds (ext : Ext) (s : Sock) (hudp : s.tcp = false) (engine : Engine) (protocol reqKind : Nat)
    (r : Res Bytes) (b : Bool) (tq q : List Delivery) (tf fs : List Bool) (k : Nat)
    (hlast : ∀ (n : Nat) (d : Bytes) (sn : List (Bytes × Bool)), k ≤ n →
      Steps s (send s d >>= fun _ => receive ext s engine protocol >>= challengeLoop ext s engine protocol reqKind n) r
        ⟨tq ++ q, tf ++ fs, sn⟩ ⟨q, fs, sn ++ [(d, b)]⟩) :
    ∀ (cs : List Bytes) (d : Bytes) (n : Nat) (sn : List (Bytes × Bool)),
      (∀ x ∈ cs, (challengeReply x).length ≤ PACKET_SIZE) → cs.length + k ≤ n →
      Steps s (send s d >>= fun _ => receive ext s engine protocol >>= challengeLoop ext s engine protocol reqKind n) r
        ⟨challengeDeliveries cs ++ (tq ++ q), List.replicate cs.length false ++ (tf ++ fs), sn⟩
        ⟨q, fs, sn ++ flagLast (d :: cs.map (answer reqKind)) b⟩ := by
  intro cs
  induction cs with
  | nil =>
    intro d n sn _ hn
    exact hlast n d sn (by simpa using hn)
  | cons c cs ih =>
    intro d n sn hfit hn
    obtain ⟨f, rfl⟩ : ∃ f, n = f + 1 := ⟨n - 1, by simp at hn; omega⟩
    refine Steps.bind (steps_send_ok s _ _ _ sn) ?_
    have hr := steps_receive_single ext s hudp engine protocol 0x41 (by decide) c (hfit c (by simp))
      (challengeDeliveries cs ++ (tq ++ q)) (List.replicate cs.length false ++ (tf ++ fs)) (sn ++ [(d, false)])
    refine Steps.bind hr ?_
    have := ih (answer reqKind c) f (sn ++ [(d, false)]) (fun x hx => hfit x (by simp [hx]))
      (by simp at hn ⊢; omega)
    rw [challengeLoop_answer]
    simpa [List.append_assoc, flagLast] using this

/-- the same for a whole attempt; `hlast0` is `hlast` for the first request, whose loop takes its fuel from the queue -/
theorem steps_requestImpl_rounds (ext : Ext) (s : Sock) (hudp : s.tcp = false) (engine : Engine)
    (protocol reqKind : Nat) (payload : Bytes) (r : Res Bytes) (b : Bool) (tq q : List Delivery) (tf fs : List Bool)
    (k : Nat) (hk : k ≤ tq.length)
    (hlast : ∀ (n : Nat) (d : Bytes) (sn : List (Bytes × Bool)), k ≤ n →
      Steps s (send s d >>= fun _ => receive ext s engine protocol >>= challengeLoop ext s engine protocol reqKind n) r
        ⟨tq ++ q, tf ++ fs, sn⟩ ⟨q, fs, sn ++ [(d, b)]⟩)
    (hlast0 : ∀ sn, Steps s (requestImpl ext s engine protocol reqKind payload) r
        ⟨tq ++ q, tf ++ fs, sn⟩ ⟨q, fs, sn ++ [(packetBytes reqKind payload, b)]⟩)
    (cs : List Bytes) (hfit : ∀ x ∈ cs, (challengeReply x).length ≤ PACKET_SIZE) (sn : List (Bytes × Bool)) :
    Steps s (requestImpl ext s engine protocol reqKind payload) r
      ⟨challengeDeliveries cs ++ (tq ++ q), List.replicate cs.length false ++ (tf ++ fs), sn⟩
      ⟨q, fs, sn ++ flagLast (packetBytes reqKind payload :: cs.map (answer reqKind)) b⟩ := by
  cases cs with
  | nil => exact hlast0 sn
  | cons c cs =>
    unfold requestImpl
    refine Steps.bind (steps_send_ok s _ _ _ sn) ?_
    have hr := steps_receive_single ext s hudp engine protocol 0x41 (by decide) c (hfit c (by simp))
      (challengeDeliveries cs ++ (tq ++ q)) (List.replicate cs.length false ++ (tf ++ fs))
      (sn ++ [(packetBytes reqKind payload, false)])
    refine Steps.bind hr ?_
    refine Steps.fuelled (g := fun n => challengeLoop ext s engine protocol reqKind n ⟨0xFFFFFFFF, 0x41, c⟩) fun n hn => ?_
    obtain ⟨f, rfl⟩ : ∃ f, n = f + 1 := ⟨n - 1, by omega⟩
    rw [challengeLoop_answer]
    have := steps_rounds ext s hudp engine protocol reqKind r b tq q tf fs k hlast cs (answer reqKind c) f
      (sn ++ [(packetBytes reqKind payload, false)]) (fun x hx => hfit x (by simp [hx]))
      (by simp [challengeDeliveries] at hn; omega)
    simpa [List.append_assoc, flagLast] using this

theorem steps_requestImpl_recv (ext : Ext) (s : Sock) (hudp : s.tcp = false) (engine : Engine)
    (protocol reqKind : Nat) (payload : Bytes) (R : Res Packet) (hR : ∀ p, R = .ok p → p.kind ≠ 0x41)
    (final q : List Delivery) (hne : final ≠ [])
    (hfinal : ∀ fs sn, Steps s (receive ext s engine protocol) R ⟨final ++ q, fs, sn⟩ ⟨q, fs, sn⟩)
    (cs : List Bytes) (hfit : ∀ x ∈ cs, (challengeReply x).length ≤ PACKET_SIZE) (fs : List Bool)
    (sn : List (Bytes × Bool)) :
    Steps s (requestImpl ext s engine protocol reqKind payload) (R >>= fun p => .ok p.payload)
      ⟨challengeDeliveries cs ++ (final ++ q), List.replicate (cs.length + 1) false ++ fs, sn⟩
      ⟨q, fs, sn ++ (packetBytes reqKind payload, false) :: cs.map fun c => (answer reqKind c, false)⟩ := by
  -- a reply that is no challenge ends the loop, whatever fuel is left
  have hdone : ∀ p, R = .ok p → ∀ n σ, 1 ≤ n →
      Steps s (challengeLoop ext s engine protocol reqKind n p) (.ok p.payload) σ σ := by
    intro p hp n σ hn
    obtain ⟨f, rfl⟩ : ∃ f, n = f + 1 := ⟨n - 1, by omega⟩
    rw [challengeLoop_done ext s engine protocol reqKind f p (hR p hp)]
    exact Steps.pure s _ _
  have h := steps_requestImpl_rounds ext s hudp engine protocol reqKind payload (R >>= fun p => .ok p.payload) false
    final q [false] fs 1 (List.length_pos_iff.mpr hne)
    (fun n d sn hn => Steps.bind (steps_send_ok s _ _ fs sn) (Steps.bind_res (hfinal fs _) fun p hp => hdone p hp n _ hn))
    (fun sn => Steps.bind (steps_send_ok s _ _ fs sn) (Steps.bind_res (hfinal fs _) fun p hp =>
      Steps.fuelled (g := fun n => challengeLoop ext s engine protocol reqKind n p) fun n hn => hdone p hp n _ (by omega)))
    cs hfit sn
  simpa [flagLast_false, List.replicate_succ', List.append_assoc, Function.comp_def] using h

theorem steps_requestImpl_sendFault (ext : Ext) (s : Sock) (hudp : s.tcp = false) (engine : Engine)
    (protocol reqKind : Nat) (payload : Bytes) (q : List Delivery)
    (cs : List Bytes) (hfit : ∀ x ∈ cs, (challengeReply x).length ≤ PACKET_SIZE) (fs : List Bool)
    (sn : List (Bytes × Bool)) :
    Steps s (requestImpl ext s engine protocol reqKind payload) (.err .packetSend)
      ⟨challengeDeliveries cs ++ q, List.replicate cs.length false ++ true :: fs, sn⟩
      ⟨q, fs, sn ++ flagLast (packetBytes reqKind payload :: cs.map (answer reqKind)) true⟩ :=
  steps_requestImpl_rounds ext s hudp engine protocol reqKind payload (.err .packetSend) true [] q [true] fs 0
    (Nat.le_refl 0) (fun _ d sn _ => Steps.bind_err (steps_send_fault s d q fs sn))
    (fun sn => Steps.bind_err (steps_send_fault s _ q fs sn)) cs hfit sn

-- model and SPEC nest the appends of the info request differently
theorem request_bytes (u : Request) : packetBytes u.kind u.defaultPayload = unitRequest u none := by
  cases u with
  | info => exact (List.append_assoc _ _ _).symm
  | players => rfl
  | rules => rfl

theorem answer_eq (u : Request) (c : Bytes) : answer u.kind c = unitRequest u (some c) := by
  cases u with
  | info =>
    show _ ++ _ ++ (_ ++ _ ++ c) = _ ++ _ ++ _ ++ _ ++ c
    simp only [List.append_assoc]
    rfl
  | players => rfl
  | rules => rfl

theorem requests_eq (u : Request) (cs : List Bytes) :
    (packetBytes u.kind u.defaultPayload, false) :: cs.map (fun c => (answer u.kind c, false))
      = (unitRequest u none :: cs.map fun c => unitRequest u (some c)).map (·, false) := by
  simp only [List.map_cons, List.map_map, request_bytes]
  congr 1
  exact List.map_congr_left fun c _ => by simp [answer_eq]

theorem challengeData_eq (x : Exchange) (j : Nat) : challengeData x j = challengeDeliveries (x.challenges.take j) :=
  rfl

def FitsCh (x : Exchange) : Prop := ∀ c ∈ x.challenges, (challengeReply c).length ≤ PACKET_SIZE

theorem Attempt.error_timeout (a : Attempt) : a.error.isTimeout = true :=
  attemptError_timeout a.sendFault

theorem steps_attempt (ext : Ext) (s : Sock) (hudp : s.tcp = false) (engine : Engine) (protocol : Nat) (u : Request)
    (x : Exchange) (hfit : FitsCh x) (pool : List Bytes) (hpool : PoolOk engine protocol pool)
    (hpfit : ∀ d ∈ pool, d.length ≤ PACKET_SIZE) (a : Attempt) (ha : a.wf pool = true) (q : List Delivery)
    (fs : List Bool) (sn : List (Bytes × Bool)) :
    Steps s (requestImpl ext s engine protocol u.kind u.defaultPayload) (.err a.error)
      ⟨a.deliveries x ++ q, a.faults x ++ fs, sn⟩ ⟨q, fs, sn ++ a.sends u x⟩ := by
  obtain ⟨j, sf, got⟩ := a
  have hfit' : ∀ c ∈ x.challenges.take j, (challengeReply c).length ≤ PACKET_SIZE :=
    fun c hc => hfit c (List.mem_of_mem_take hc)
  have hmap : (x.challenges.take j).map (answer u.kind) = (x.challenges.take j).map fun c => unitRequest u (some c) :=
    List.map_congr_left fun c _ => answer_eq u c
  cases sf with
  | false =>
    have hgot : partOf got pool = true := by simpa [Attempt.wf] using ha
    have h := steps_requestImpl_recv ext s hudp engine protocol u.kind u.defaultPayload (.err .packetReceive)
      (fun p hp => by cases hp) (got.map .data ++ [.silence]) q (by simp)
      (fun fs sn => by
        simpa [List.append_assoc] using
          steps_receive_lost ext s hudp engine protocol pool hpool hpfit got hgot q fs sn)
      (x.challenges.take j) hfit' fs sn
    rw [requests_eq] at h
    simpa [Attempt.deliveries, Attempt.faults, Attempt.error, Attempt.sends, requestsUpTo, flagLast_false,
      challengeData_eq, List.replicate_succ', List.append_assoc] using h
  | true =>
    have hgot : got = [] := by simpa [Attempt.wf] using ha
    subst hgot
    have h := steps_requestImpl_sendFault ext s hudp engine protocol u.kind u.defaultPayload q
      (x.challenges.take j) hfit' fs sn
    have hs : (Attempt.mk j true []).sends u x
        = flagLast (packetBytes u.kind u.defaultPayload :: (x.challenges.take j).map (answer u.kind)) true := by
      simp only [Attempt.sends, requestsUpTo, request_bytes, hmap]
    rw [hs]
    simpa [Attempt.deliveries, Attempt.faults, Attempt.error, challengeData_eq,
      List.append_assoc] using h

theorem steps_validAttempt (ext : Ext) (s : Sock) (hudp : s.tcp = false) (engine : Engine) (protocol : Nat)
    (u : Request) (kind : Nat) (hkind : kind < 256) (hk : kind ≠ 0x41) (body : Bytes) (x : Exchange)
    (hx : wfTransport engine x.transport = true) (hbz : BzOk ext (reply kind body) x.transport)
    (arrival : List Bytes)
    (harr : arrival.Perm (datagrams (withSize engine protocol) x.transport (reply kind body)))
    (hfit : ∀ d ∈ exchangeAs x arrival, d.length ≤ PACKET_SIZE) (q : List Delivery) (fs : List Bool)
    (sn : List (Bytes × Bool)) :
    Steps s (requestImpl ext s engine protocol u.kind u.defaultPayload) (.ok body)
      ⟨Ending.valid.deliveries x arrival ++ q, Ending.valid.faults x ++ fs, sn⟩
      ⟨q, fs, sn ++ Ending.valid.sends u x⟩ := by
  have hfinal : ∀ fs sn, Steps s (receive ext s engine protocol) (.ok ⟨0xFFFFFFFF, kind, body⟩)
      ⟨arrival.map .data ++ q, fs, sn⟩ ⟨q, fs, sn⟩ := fun fs sn =>
    steps_receive_final ext s hudp engine protocol kind hkind body x.transport hx hbz arrival harr
      (fun d hd => hfit d (by simp [exchangeAs, hd])) q fs sn
  have h := steps_requestImpl_recv ext s hudp engine protocol u.kind u.defaultPayload
    (.ok ⟨0xFFFFFFFF, kind, body⟩) (fun p hp => by cases hp; exact hk) (arrival.map .data) q (arrival_ne_nil harr) hfinal x.challenges
    (fun c hc => hfit _ (by simp only [exchangeAs, List.mem_append, List.mem_map]; exact Or.inl ⟨c, hc, rfl⟩)) fs sn
  rw [requests_eq] at h
  have he : Ending.valid.deliveries x arrival ++ q = challengeDeliveries x.challenges ++ (arrival.map .data ++ q) := by
    simp [Ending.deliveries, exchangeAs, challengeDeliveries, List.append_assoc]
  rw [he]
  simpa [Ending.faults, Ending.sends, Nat.add_comm] using h

theorem steps_malformedAttempt (ext : Ext) (s : Sock) (hudp : s.tcp = false) (engine : Engine) (protocol : Nat)
    (u : Request) (x : Exchange) (hfit : FitsCh x) (pool : List Bytes) (hpool : PoolOk engine protocol pool)
    (hpfit : ∀ d ∈ pool, d.length ≤ PACKET_SIZE) (j : Nat) (got : List Bytes) (hgot : partOf got pool = true)
    (m : Bytes) (hm : m.length < 5) (arrival : List Bytes)
    (q : List Delivery) (fs : List Bool) (sn : List (Bytes × Bool)) :
    Steps s (requestImpl ext s engine protocol u.kind u.defaultPayload) (.err .packetUnderflow)
      ⟨(Ending.malformed j got m).deliveries x arrival ++ q, (Ending.malformed j got m).faults x ++ fs, sn⟩
      ⟨q, fs, sn ++ (Ending.malformed j got m).sends u x⟩ := by
  have hfit' : ∀ c ∈ x.challenges.take j, (challengeReply c).length ≤ PACKET_SIZE :=
    fun c hc => hfit c (List.mem_of_mem_take hc)
  have h := steps_requestImpl_recv ext s hudp engine protocol u.kind u.defaultPayload (.err .packetUnderflow)
    (fun p hp => by cases hp) (got.map .data ++ [.data m]) q (by simp)
    (fun fs sn => by
      simpa [List.append_assoc] using
        steps_receive_shortAfter ext s hudp engine protocol pool hpool hpfit got hgot m hm q fs sn)
    (x.challenges.take j) hfit' fs sn
  rw [requests_eq] at h
  simpa [Ending.deliveries, Ending.faults, Ending.sends, requestsUpTo, challengeData_eq,
    List.append_assoc] using h

def unitRes {α : Type} (p : UnitPlan) (v : α) : Res α :=
  match p.error with
  | none => .ok v
  | some k => .err k

theorem steps_unit (ext : Ext) (s : Sock) (hudp : s.tcp = false) (engine : Engine) (protocol retries : Nat)
    (u : Request) (kind : Nat) (hkind : kind < 256) (hk : kind ≠ 0x41) (body : Bytes) (x : Exchange)
    (hx : wfTransport engine x.transport = true) (hbz : BzOk ext (reply kind body) x.transport)
    (arrival : List Bytes)
    (harr : arrival.Perm (datagrams (withSize engine protocol) x.transport (reply kind body)))
    (hfit : ∀ d ∈ exchangeAs x arrival, d.length ≤ PACKET_SIZE)
    (p : UnitPlan)
    (hp : wfUnit retries (datagrams (withSize engine protocol) x.transport (reply kind body)) p = true)
    (q : List Delivery) (fs : List Bool) (sn : List (Bytes × Bool)) :
    Steps s (requestData ext s retries engine protocol u) (unitRes p body)
      ⟨p.deliveries x arrival ++ q, p.faults x ++ fs, sn⟩ ⟨q, fs, sn ++ p.sends u x⟩ := by
  have hch : FitsCh x := fun c hc =>
    hfit _ (by simp only [exchangeAs, List.mem_append, List.mem_map]; exact Or.inl ⟨c, hc, rfl⟩)
  have hpool := poolOk_datagrams ext engine protocol x.transport hx (reply kind body) hbz
  have hpfit : ∀ d ∈ datagrams (withSize engine protocol) x.transport (reply kind body), d.length ≤ PACKET_SIZE :=
    fun d hd => hfit d (by simp only [exchangeAs, List.mem_append]; exact Or.inr (harr.symm.subset hd))
  have hstep := fun a ha q fs sn => steps_attempt ext s hudp engine protocol u x hch _ hpool hpfit a ha q fs sn
  obtain ⟨fails, ending⟩ := p
  simp only [wfUnit, Bool.and_eq_true, List.all_eq_true] at hp
  obtain ⟨hfails, hend⟩ := hp
  unfold requestData
  cases ending with
  | valid =>
    have h := Steps.retry_recovers_of _ _ _ _ _ Attempt.error_timeout hstep (R := .ok body) (fun k hk => by cases hk)
      _ q _ fs _
      (fun sn => steps_validAttempt ext s hudp engine protocol u kind hkind hk body x hx hbz arrival harr hfit q fs sn)
      fails retries sn hfails (by simpa using hend)
    simpa [UnitPlan.deliveries, UnitPlan.faults, UnitPlan.sends, unitRes, UnitPlan.error, List.append_assoc] using h
  | malformed j got m =>
    have hlen : (fails.length ≤ retries ∧ m.length < 5) ∧
        partOf got (datagrams (withSize engine protocol) x.transport (reply kind body)) = true := by
      simpa using hend
    have h := Steps.retry_recovers_of _ _ _ _ _ Attempt.error_timeout hstep (R := (.err .packetUnderflow : Res Bytes))
      (fun k hk => by cases hk; rfl) _ q _ fs _
      (fun sn => steps_malformedAttempt ext s hudp engine protocol u x hch _ hpool hpfit j got hlen.2 m hlen.1.2 arrival
        q fs sn)
      fails retries sn hfails hlen.1.1
    simpa [UnitPlan.deliveries, UnitPlan.faults, UnitPlan.sends, unitRes, UnitPlan.error, List.append_assoc] using h
  | gaveUp =>
    have h := Steps.retry_exhausted_of _ _ _ _ _ Attempt.error_timeout hstep q fs retries fails sn hfails
      (by simpa using hend)
    simpa [UnitPlan.deliveries, UnitPlan.faults, UnitPlan.sends, unitRes, UnitPlan.error, Ending.deliveries,
      Ending.faults, Ending.sends] using h

theorem steps_unit_parse {α : Type} {s : Sock} {f : Q Bytes} {par : Par α} {p : UnitPlan} {body : Bytes} {v : α}
    {σ σ' : St} (h : Steps s f (unitRes p body) σ σ') (hpar : par.run body = .ok v) :
    Steps s (f >>= fun data => parse par data) (unitRes p v) σ σ' := by
  unfold unitRes at h ⊢
  cases hp : p.error with
  | none =>
    rw [hp] at h
    exact Steps.bind h ((Steps.parse s par body σ').congrRes hpar.symm)
  | some k =>
    rw [hp] at h
    exact Steps.bind_err h

theorem steps_gather {α : Type} {s : Sock} {f : Q α} {p : UnitPlan} {v : α} {σ σ' : St} (t : Toggle) (ht : t ≠ .skip)
    (h : Steps s f (unitRes p v) σ σ') : Steps s (maybeGather t f) (sectionOutcome t p v) σ σ' := by
  have hb : (t == Toggle.skip) = false := by simpa using ht
  unfold unitRes at h
  unfold sectionOutcome
  simp only [hb, Bool.false_eq_true, ↓reduceIte]
  cases hp : p.error with
  | none =>
    rw [hp] at h
    exact Steps.gather_ok h t ht
  | some k =>
    rw [hp] at h
    cases t with
    | skip => exact absurd rfl ht
    | try_ => exact Steps.gather_try_err h
    | enforce => exact Steps.gather_enforce_err h

/-- what a section contributes under a gathering toggle and a plan for its unit (nothing when skipped) to the script
(as `sectionAs` does without faults), to the send-fault flags, to the wire -/
def sectionDeliveries (t : Toggle) (x : Exchange) (arrival : List Bytes) (p : UnitPlan) : List Delivery :=
  if t == .skip then [] else p.deliveries x arrival
def sectionFaults (t : Toggle) (x : Exchange) (p : UnitPlan) : List Bool :=
  if t == .skip then [] else p.faults x
def sectionSends (t : Toggle) (u : Request) (x : Exchange) (p : UnitPlan) : List (Bytes × Bool) :=
  if t == .skip then [] else p.sends u x

theorem steps_getServerInfo (ext : Ext) (s : Sock) (hudp : s.tcp = false) (retries : Nat) (cfg : Config) (st : State)
    (hwf : wf cfg st = true) (hx : wfTransport cfg.engine cfg.info.transport = true)
    (hbz : BzOk ext (infoPacket cfg st) cfg.info.transport) (ai : List Bytes)
    (hai : ai.Perm (infoDatagrams cfg st)) (hfit : ∀ d ∈ exchangeAs cfg.info ai, d.length ≤ PACKET_SIZE)
    (p : UnitPlan) (hp : wfUnit retries (infoDatagrams cfg st) p = true) (q : List Delivery) (fs : List Bool)
    (sn : List (Bytes × Bool)) :
    Steps s (getServerInfo ext s retries cfg.engine) (unitRes p st.info)
      ⟨p.deliveries cfg.info ai ++ q, p.faults cfg.info ++ fs, sn⟩ ⟨q, fs, sn ++ p.sends .info cfg.info⟩ := by
  unfold getServerInfo
  rw [infoDatagrams, infoPacket_eq] at hai hp
  rw [infoPacket_eq] at hbz
  exact steps_unit_parse (steps_unit ext s hudp cfg.engine 0 retries .info (infoKind cfg.engine) (infoKind_ok _).1
    (infoKind_ok _).2 (infoBody cfg st) cfg.info hx hbz ai hai hfit p hp q fs sn) (run_parseInfo cfg st hwf)

theorem steps_section {α : Type} (ext : Ext) (s : Sock) (hudp : s.tcp = false) (engine : Engine)
    (protocol retries : Nat) (u : Request) (kind : Nat) (hkind : kind < 256) (hk : kind ≠ 0x41) (body : Bytes)
    (par : Par α) (v : α) (hpar : par.run body = .ok v) (x : Exchange) (t : Toggle)
    (hx : (t == .skip || wfTransport engine x.transport) = true) (hbz : BzOk ext (reply kind body) x.transport)
    (arrival : List Bytes) (harr : arrival.Perm (datagrams (withSize engine protocol) x.transport (reply kind body)))
    (hfit : ∀ d ∈ sectionAs t x arrival, d.length ≤ PACKET_SIZE) (p : UnitPlan)
    (hp : (t == .skip || wfUnit retries (datagrams (withSize engine protocol) x.transport (reply kind body)) p) = true)
    (q : List Delivery) (fs : List Bool) (sn : List (Bytes × Bool)) :
    Steps s (maybeGather t (requestData ext s retries engine protocol u >>= fun data => parse par data))
      (sectionOutcome t p v) ⟨sectionDeliveries t x arrival p ++ q, sectionFaults t x p ++ fs, sn⟩ ⟨q, fs, sn ++ sectionSends t u x p⟩ := by
  by_cases ht : t = .skip
  · subst ht
    simpa [sectionDeliveries, sectionFaults, sectionSends, sectionOutcome] using Steps.gather_skip s _ ⟨q, fs, sn⟩
  · have hb : (t == Toggle.skip) = false := by simpa using ht
    simp only [sectionAs, sectionDeliveries, sectionFaults, sectionSends, hb, Bool.false_or, Bool.false_eq_true, ↓reduceIte] at hx hfit hp ⊢
    exact steps_gather t ht (steps_unit_parse (steps_unit ext s hudp engine protocol retries u kind hkind hk body x hx
      hbz arrival harr hfit p hp q fs sn) hpar)

theorem sectionOutcome_stops {α : Type} (t : Toggle) (p : UnitPlan) (v : α) :
    (∃ k, sectionOutcome t p v = .err k ∧ (t == .enforce && p.error.isSome) = true)
    ∨ (∃ o, sectionOutcome t p v = .ok o ∧ (t == .enforce && p.error.isSome) = false) := by
  unfold sectionOutcome
  cases t <;> cases p.error <;> simp

theorem faultyScript_sections (cfg : Config) (plan : Plan) (ai ap ar : List Bytes) (rest : List Delivery) :
    faultyScript cfg plan ai ap ar ++ rest
      = plan.info.deliveries cfg.info ai ++ (sectionDeliveries cfg.gather.players cfg.players ap plan.players ++
          (sectionDeliveries cfg.gather.rules cfg.rules ar plan.rules ++ rest)) := by
  simp [faultyScript, sectionDeliveries, List.append_assoc]

theorem faultyFaults_sections (cfg : Config) (plan : Plan) (rest : List Bool) :
    faultyFaults cfg plan ++ rest
      = plan.info.faults cfg.info ++ (sectionFaults cfg.gather.players cfg.players plan.players ++
          (sectionFaults cfg.gather.rules cfg.rules plan.rules ++ rest)) := by
  simp [faultyFaults, sectionFaults, List.append_assoc]

theorem faultySends_sections (cfg : Config) (st : State) (plan : Plan) :
    faultySends cfg st plan
      = plan.info.sends .info cfg.info ++
        (if plan.info.error.isSome || !appIdOk cfg.engine cfg.gather st.info.appid then []
         else sectionSends cfg.gather.players .players cfg.players plan.players ++
          (if cfg.gather.players == .enforce && plan.players.error.isSome then []
           else sectionSends cfg.gather.rules .rules cfg.rules plan.rules)) := rfl

/-- `get_response` after the info section -/
def afterInfo (ext : Ext) (s : Sock) (engine : Engine) (g : Gather) (retries : Nat) (info : ServerInfo) : Q Response :=
  if !appIdOk engine g info.appid then Q.fail .badGame
  else
    maybeGather g.players (getServerPlayers ext s retries engine info.protocolVersion) >>= fun players =>
    maybeGather g.rules (getServerRules ext s retries engine info.protocolVersion) >>= fun rules =>
    pure (Response.mk info players rules)

theorem queryBody_afterInfo (ext : Ext) (s : Sock) (engine : Engine) (g : Gather) (retries : Nat) :
    queryBody ext s engine g retries = (getServerInfo ext s retries engine >>= afterInfo ext s engine g retries) := rfl

theorem afterInfo_bad (ext : Ext) (s : Sock) (engine : Engine) (g : Gather) (retries : Nat) (info : ServerInfo)
    (h : appIdOk engine g info.appid = false) : afterInfo ext s engine g retries info = Q.fail .badGame := by
  simp [afterInfo, h]

theorem afterInfo_ok (ext : Ext) (s : Sock) (engine : Engine) (g : Gather) (retries : Nat) (info : ServerInfo)
    (h : appIdOk engine g info.appid = true) :
    afterInfo ext s engine g retries info
      = (maybeGather g.players (getServerPlayers ext s retries engine info.protocolVersion) >>= fun players =>
          maybeGather g.rules (getServerRules ext s retries engine info.protocolVersion) >>= fun rules =>
          pure (Response.mk info players rules)) := by
  simp [afterInfo, h]

theorem wfPlanReached_of_wfPlan (retries : Nat) (cfg : Config) (st : State) (plan : Plan)
    (h : wfPlan retries cfg st plan = true) : wfPlanReached retries cfg st plan = true := by
  simp only [wfPlan, Bool.and_eq_true] at h
  obtain ⟨⟨h1, h2⟩, h3⟩ := h
  simp only [wfPlanReached, h1, h2, Bool.true_and, Bool.or_eq_true, Bool.and_eq_true]
  simp only [Bool.or_eq_true] at h3
  rcases h3 with h3 | h3
  · exact Or.inr (Or.inl (Or.inr h3))
  · exact Or.inr (Or.inr h3)

/-- the query after the socket is open, on the script of a plan followed by ANY further deliveries and flags: the outcome
is the one the property prescribes, the datagrams sent are the plan's, nothing else -/
theorem queryBody_faulty (ext : Ext) (s : Sock) (hudp : s.tcp = false) (retries : Nat) (cfg : Config) (st : State)
    (hwf : wf cfg st = true) (hx : wfExchanges cfg = true)
    (hdec : DecodersAgree ext cfg st) (ai ap ar : List Bytes)
    (hai : ai.Perm (infoDatagrams cfg st)) (hap : ap.Perm (playersDatagrams cfg st))
    (har : ar.Perm (rulesDatagrams cfg st)) (hfit : fits (scriptAs cfg ai ap ar) = true)
    (plan : Plan) (hplan : wfPlanReached retries cfg st plan = true) (restQ : List Delivery) (restF : List Bool)
    (sn : List (Bytes × Bool)) (w : Net)
    (hw : AtS s w ⟨faultyScript cfg plan ai ap ar ++ restQ, faultyFaults cfg plan ++ restF, sn⟩) :
    (queryBody ext s cfg.engine cfg.gather retries w).1 = faultyExpected cfg st plan
    ∧ sentOf (queryBody ext s cfg.engine cfg.gather retries w).2.log = sn ++ faultySends cfg st plan := by
  obtain ⟨hbi, hbp, hbr⟩ := hdec
  simp only [wfExchanges, Bool.and_eq_true] at hx
  obtain ⟨⟨hxi, hxp⟩, hxr⟩ := hx
  simp only [wfPlanReached, Bool.and_eq_true] at hplan
  obtain ⟨hpi, hplan⟩ := hplan
  obtain ⟨hfi, hfp, hfr⟩ := fits_sections cfg ai ap ar hfit
  rw [faultyScript_sections, faultyFaults_sections] at hw
  rw [faultySends_sections]
  have h1 := steps_getServerInfo ext s hudp retries cfg st hwf hxi hbi ai hai hfi plan.info hpi
    (sectionDeliveries cfg.gather.players cfg.players ap plan.players ++ (sectionDeliveries cfg.gather.rules cfg.rules ar plan.rules ++ restQ))
    (sectionFaults cfg.gather.players cfg.players plan.players ++ (sectionFaults cfg.gather.rules cfg.rules plan.rules ++ restF)) sn
  unfold faultyExpected
  unfold unitRes at h1
  rw [queryBody_afterInfo]
  cases hie : plan.info.error with
  | some k =>
    simp only [hie] at h1
    simpa using (Steps.bind_err h1).outcome w hw
  | none =>
    simp only [hie] at h1
    simp only [Option.isSome_none, Bool.false_or]
    by_cases happ : appIdOk cfg.engine cfg.gather st.info.appid = true
    · simp only [happ, Bool.not_true, Bool.false_eq_true, ↓reduceIte]
      simp only [hie, happ, Option.isSome_none, Bool.not_true, Bool.or_self, Bool.false_or, Bool.and_eq_true] at hplan
      obtain ⟨hpp, hplan⟩ := hplan
      have hai' := afterInfo_ok ext s cfg.engine cfg.gather retries st.info happ
      obtain ⟨_, hpn, hpl, hrn, hrl, hrd⟩ := wf_parts cfg st hwf
      have h2 := steps_section ext s hudp cfg.engine st.info.protocolVersion retries .players 0x44 (by decide)
        (by decide) (encPlayers st.players) _ _ (decodes_players cfg.engine st.players hpn hpl).run cfg.players
        cfg.gather.players hxp hbp ap hap hfp plan.players
        hpp (sectionDeliveries cfg.gather.rules cfg.rules ar plan.rules ++ restQ)
        (sectionFaults cfg.gather.rules cfg.rules plan.rules ++ restF) (sn ++ plan.info.sends .info cfg.info)
      rcases sectionOutcome_stops cfg.gather.players plan.players st.players with ⟨k, hk, hc⟩ | ⟨op, hop, hc⟩
      · rw [hk] at h2 ⊢
        rw [hc]
        have hS := Steps.bind h1 ((Steps.bind_err h2).congr hai')
        simpa [List.append_assoc] using hS.outcome w hw
      · rw [hop] at h2 ⊢
        rw [hc]
        have hpr : (cfg.gather.rules == .skip || wfUnit retries (rulesDatagrams cfg st) plan.rules) = true := by
          simpa [hc] using hplan
        have h3 := steps_section ext s hudp cfg.engine st.info.protocolVersion retries .rules 0x45 (by decide)
          (by decide) (encRules st.rules) _ _ (decodes_rules cfg.engine st.rules hrn hrl hrd).run cfg.rules
          cfg.gather.rules hxr hbr ar har hfr plan.rules hpr restQ restF
          (sn ++ plan.info.sends .info cfg.info ++ sectionSends cfg.gather.players .players cfg.players plan.players)
        rcases sectionOutcome_stops cfg.gather.rules plan.rules (expectedRules cfg.engine st.rules)
          with ⟨k, hk, _⟩ | ⟨or, hor, _⟩
        · rw [hk] at h3 ⊢
          have hS := Steps.bind h1 ((Steps.bind h2 (Steps.bind_err h3)).congr hai')
          simpa [List.append_assoc] using hS.outcome w hw
        · rw [hor] at h3 ⊢
          have hS := Steps.bind h1 ((Steps.bind h2 (Steps.bind h3 (Steps.pure s (Response.mk st.info op or) _))).congr hai')
          simpa [List.append_assoc] using hS.outcome w hw
    · have hf' : appIdOk cfg.engine cfg.gather st.info.appid = false := by simpa using happ
      simp only [hf', Bool.not_false, ↓reduceIte]
      have hS := Steps.bind h1 ((Steps.fail s .badGame _).congr (afterInfo_bad ext s cfg.engine cfg.gather retries st.info hf'))
      simpa using hS.outcome w hw

/-- the whole query from the initial state: one socket with the plan's deliveries queued on it, the plan's send
faults scripted; anything may follow both -/
theorem query_faulty (ext : Ext) (port retries : Nat) (cfg : Config) (st : State)
    (hwf : wf cfg st = true) (hx : wfExchanges cfg = true)
    (hdec : DecodersAgree ext cfg st) (ai ap ar : List Bytes)
    (hai : ai.Perm (infoDatagrams cfg st)) (hap : ap.Perm (playersDatagrams cfg st))
    (har : ar.Perm (rulesDatagrams cfg st)) (hfit : fits (scriptAs cfg ai ap ar) = true)
    (plan : Plan) (hplan : wfPlanReached retries cfg st plan = true) (restQ : List Delivery) (restF : List Bool) :
    (query ext port cfg.engine cfg.gather retries
        (Net.init [.opened (faultyScript cfg plan ai ap ar ++ restQ)] (faultyFaults cfg plan ++ restF))).1
      = faultyExpected cfg st plan
    ∧ sentOf (query ext port cfg.engine cfg.gather retries
        (Net.init [.opened (faultyScript cfg plan ai ap ar ++ restQ)] (faultyFaults cfg plan ++ restF))).2.log
      = faultySends cfg st plan := by
  rw [query_eq, Q.bind_apply]
  have ho : openSock false port
        (Net.init [.opened (faultyScript cfg plan ai ap ar ++ restQ)] (faultyFaults cfg plan ++ restF))
      = (.ok ⟨0, port, false⟩,
          ⟨[], [faultyScript cfg plan ai ap ar ++ restQ], faultyFaults cfg plan ++ restF,
            [.opened 0 false port false]⟩) := rfl
  rw [ho]
  have h := queryBody_faulty ext ⟨0, port, false⟩ rfl retries cfg st hwf hx hdec ai ap ar hai hap har hfit
    plan hplan restQ restF []
    ⟨[], [faultyScript cfg plan ai ap ar ++ restQ], faultyFaults cfg plan ++ restF, [.opened 0 false port false]⟩
    ⟨rfl, by simp, by simp, rfl⟩
  simpa using h

theorem sectionOutcome_none {α : Type} (t : Toggle) (p : UnitPlan) (v : α) (h : t ≠ .skip → p.error = none) :
    sectionOutcome t p v = .ok (if t == .skip then none else some v) := by
  unfold sectionOutcome
  cases t with
  | skip => rfl
  | try_ => simp [h (by decide)]
  | enforce => simp [h (by decide)]

theorem toggleOf_info (cfg : Config) : toggleOf cfg .info ≠ .skip := by simp [toggleOf]

theorem faultyExpected_recovers (cfg : Config) (st : State) (plan : Plan)
    (h : ∀ u, toggleOf cfg u ≠ .skip → (plan.unit u).error = none) :
    faultyExpected cfg st plan = expected cfg st := by
  have hi := h .info (toggleOf_info cfg)
  have hp := h .players
  have hr := h .rules
  simp only [Plan.unit, toggleOf] at hi hp hr
  unfold faultyExpected expected
  simp only [hi, sectionOutcome_none _ _ _ hp, sectionOutcome_none _ _ _ hr]
  split <;> rfl

theorem faultyExpected_stops (cfg : Config) (st : State) (plan : Plan) (u : Request) (k : ErrKind)
    (hearlier : ∀ v ∈ earlier u, toggleOf cfg v ≠ .skip → (plan.unit v).error = none)
    (hu : (plan.unit u).error = some k) (ht : toggleOf cfg u = .enforce)
    (happ : u ≠ .info → appIdOk cfg.engine cfg.gather st.info.appid = true) :
    faultyExpected cfg st plan = .err k := by
  unfold faultyExpected
  cases u with
  | info =>
    simp only [Plan.unit] at hu
    rw [hu]
  | players =>
    have hi := hearlier .info (by simp [earlier]) (toggleOf_info cfg)
    simp only [Plan.unit, toggleOf] at hi hu ht
    simp only [hi]
    simp [happ (by decide), sectionOutcome, hu, ht]
  | rules =>
    have hi := hearlier .info (by simp [earlier]) (toggleOf_info cfg)
    have hp := hearlier .players (by simp [earlier])
    simp only [Plan.unit, toggleOf] at hi hp hu ht
    simp only [hi, sectionOutcome_none _ _ _ hp]
    simp [happ (by decide), sectionOutcome, hu, ht]

theorem wfPlanReached_stops (retries : Nat) (cfg : Config) (st : State) (plan : Plan) (u : Request) (k : ErrKind)
    (hwfu : ∀ v ∈ earlier u ++ [u], toggleOf cfg v ≠ .skip → wfUnit retries (poolOf cfg st v) (plan.unit v) = true)
    (hu : (plan.unit u).error = some k) (ht : toggleOf cfg u = .enforce) :
    wfPlanReached retries cfg st plan = true := by
  have hi := hwfu .info (by cases u <;> simp [earlier]) (toggleOf_info cfg)
  simp only [Plan.unit, poolOf] at hi
  unfold wfPlanReached
  cases u with
  | info =>
    simp only [Plan.unit] at hu
    simp [hi, hu]
  | players =>
    have hp := hwfu .players (by simp [earlier]) (by rw [ht]; decide)
    simp only [Plan.unit, toggleOf, poolOf] at hp hu ht
    simp [hi, hp, hu, ht]
  | rules =>
    have hp := hwfu .players (by simp [earlier])
    have hr := hwfu .rules (by simp [earlier]) (by rw [ht]; decide)
    simp only [Plan.unit, toggleOf, poolOf] at hp hr hu ht
    by_cases hs : cfg.gather.players = .skip
    · simp [hi, hs, hr]
    · simp [hi, hp hs, hr]

theorem faultyExpected_try (cfg : Config) (st : State) (plan : Plan) (u : Request) (k : ErrKind)
    (hothers : ∀ v, v ≠ u → toggleOf cfg v ≠ .skip → (plan.unit v).error = none)
    (hu : (plan.unit u).error = some k) (ht : toggleOf cfg u = .try_) :
    faultyExpected cfg st plan = (expected cfg st >>= fun r => .ok (withoutSection r u)) := by
  unfold faultyExpected expected
  cases u with
  | info => simp [toggleOf] at ht
  | players =>
    have hi := hothers .info (by decide) (toggleOf_info cfg)
    have hr := hothers .rules (by decide)
    simp only [Plan.unit, toggleOf] at hi hr hu ht
    simp only [hi, sectionOutcome_none _ _ _ hr]
    split
    · rfl
    · simp [sectionOutcome, hu, ht, withoutSection]
  | rules =>
    have hi := hothers .info (by decide) (toggleOf_info cfg)
    have hp := hothers .players (by decide)
    simp only [Plan.unit, toggleOf] at hi hp hu ht
    simp only [hi, sectionOutcome_none _ _ _ hp]
    split
    · rfl
    · simp [sectionOutcome, hu, ht, withoutSection]

/-- the units the query runs under a plan: it stops behind the info unit when that fails or the app id is refused, and
behind an enforced players unit that fails -/
def reached (cfg : Config) (st : State) (plan : Plan) : List Request :=
  .info :: if plan.info.error.isSome || !appIdOk cfg.engine cfg.gather st.info.appid then []
    else .players :: if cfg.gather.players == .enforce && plan.players.error.isSome then [] else [.rules]

theorem faultySends_reached (cfg : Config) (st : State) (plan : Plan) :
    faultySends cfg st plan = sendsOf cfg plan (reached cfg st plan) := by
  unfold faultySends sendsOf reached
  by_cases h1 : (plan.info.error.isSome || !appIdOk cfg.engine cfg.gather st.info.appid) = true
  · simp only [if_pos h1, List.flatMap_cons, List.flatMap_nil, List.append_nil]
    rfl
  · by_cases h2 : (cfg.gather.players == .enforce && plan.players.error.isSome) = true
    · simp only [if_neg h1, if_pos h2, List.flatMap_cons, List.flatMap_nil, List.append_nil]
      rfl
    · simp only [if_neg h1, if_neg h2, List.flatMap_cons, List.flatMap_nil, List.append_nil]
      rfl

theorem reached_all (cfg : Config) (st : State) (plan : Plan)
    (h : ∀ v, toggleOf cfg v = .enforce → (plan.unit v).error = none) :
    reached cfg st plan
      = if appIdOk cfg.engine cfg.gather st.info.appid then [.info, .players, .rules] else [.info] := by
  have hi : plan.info.error = none := h .info rfl
  have hp : (cfg.gather.players == .enforce && plan.players.error.isSome) = false := by
    cases ht : cfg.gather.players with
    | skip => rfl
    | try_ => rfl
    | enforce => rw [show plan.players.error = none from h .players ht]; rfl
  unfold reached
  rw [hi, hp]
  cases appIdOk cfg.engine cfg.gather st.info.appid <;> rfl

theorem reached_stops (cfg : Config) (st : State) (plan : Plan) (u : Request) (k : ErrKind)
    (hearlier : ∀ v ∈ earlier u, toggleOf cfg v ≠ .skip → (plan.unit v).error = none)
    (hu : (plan.unit u).error = some k) (ht : toggleOf cfg u = .enforce)
    (happ : u ≠ .info → appIdOk cfg.engine cfg.gather st.info.appid = true) :
    reached cfg st plan = earlier u ++ [u] := by
  unfold reached
  cases u with
  | info => rw [show plan.info.error = some k from hu]; rfl
  | players =>
    rw [show plan.info.error = none from hearlier .info (by decide) (toggleOf_info cfg), happ (by decide),
      show cfg.gather.players = .enforce from ht, show plan.players.error = some k from hu]
    rfl
  | rules =>
    have hp : (cfg.gather.players == .enforce && plan.players.error.isSome) = false := by
      cases htp : cfg.gather.players with
      | skip => rfl
      | try_ => rfl
      | enforce =>
        rw [show plan.players.error = none from hearlier .players (by decide) (by rw [toggleOf, htp]; decide)]
        rfl
    rw [show plan.info.error = none from hearlier .info (by decide) (toggleOf_info cfg), happ (by decide), hp]
    rfl

theorem attemptsOf_append (u : Request) (a b : List (Bytes × Bool)) :
    attemptsOf u (a ++ b) = attemptsOf u a + attemptsOf u b := by
  simp [attemptsOf, List.filter_append]

theorem attemptsOf_fst (u : Request) (l : List (Bytes × Bool)) :
    attemptsOf u l = ((l.map Prod.fst).filter fun d => d == unitRequest u none).length := by
  rw [List.filter_map, List.length_map]
  rfl

theorem attemptsOf_flagLast (u : Request) (ds : List Bytes) (f : Bool) :
    attemptsOf u (flagLast ds f) = (ds.filter fun d => d == unitRequest u none).length := by
  rw [attemptsOf_fst, flagLast_fst]
theorem attemptsOf_map (u : Request) (ds : List Bytes) :
    attemptsOf u (ds.map (·, false)) = (ds.filter fun d => d == unitRequest u none).length := by
  rw [← flagLast_false, attemptsOf_flagLast]

/-- the fifth byte of a unit's requests is the unit's kind -/
theorem unitRequest_kind (u : Request) (c : Option Bytes) : (unitRequest u c)[4]? = some (UInt8.ofNat u.kind) := by
  cases u <;> cases c <;> rfl

theorem unitRequest_ne (v u : Request) (h : v ≠ u) (c : Option Bytes) : unitRequest v c ≠ unitRequest u none := by
  intro he
  have hk := congrArg (·[4]?) he
  simp only [unitRequest_kind] at hk
  cases v <;> cases u <;> first | exact absurd rfl h | cases hk

theorem count_requestsUpTo_self (u : Request) (x : Exchange) (j : Nat) (hf : freshChallenges u x = true) :
    ((requestsUpTo u x j).filter fun d => d == unitRequest u none).length = 1 := by
  have hnone : ((x.challenges.take j).map fun c => unitRequest u (some c)).filter (fun d => d == unitRequest u none) = [] := by
    rw [List.filter_eq_nil_iff]
    intro d hd
    obtain ⟨c, hc, rfl⟩ := List.mem_map.mp hd
    have := (List.all_eq_true.mp hf) c (List.mem_of_mem_take hc)
    simpa using this
  simp only [requestsUpTo, List.filter_cons, hnone, beq_self_eq_true, ↓reduceIte, List.length_cons, List.length_nil]

theorem count_requestsUpTo_other (u v : Request) (h : v ≠ u) (x : Exchange) (j : Nat) :
    ((requestsUpTo v x j).filter fun d => d == unitRequest u none).length = 0 := by
  have : (requestsUpTo v x j).filter (fun d => d == unitRequest u none) = [] := by
    rw [List.filter_eq_nil_iff]
    intro d hd
    simp only [requestsUpTo, List.mem_cons, List.mem_map] at hd
    rcases hd with rfl | ⟨c, _, rfl⟩
    · simpa using unitRequest_ne v u h none
    · simpa using unitRequest_ne v u h (some c)
  rw [this]; rfl

theorem requestsUpTo_all (u : Request) (x : Exchange) :
    (unitRequest u none :: x.challenges.map fun c => unitRequest u (some c)) = requestsUpTo u x x.challenges.length := by
  simp [requestsUpTo]

/-- when every attempt of unit `v` puts the initial request of `u` on the wire `c` times (once for `v = u` with fresh
challenges, never for another unit), a plan for `v` does so `c` times per attempt -/
theorem attemptsOf_fails (u v : Request) (x : Exchange) (c : Nat)
    (hc : ∀ j, ((requestsUpTo v x j).filter fun d => d == unitRequest u none).length = c) (fails : List Attempt) :
    attemptsOf u (fails.flatMap (Attempt.sends v x)) = c * fails.length := by
  induction fails with
  | nil => rfl
  | cons a r ih =>
    simp only [List.flatMap_cons, attemptsOf_append, ih, Attempt.sends, attemptsOf_flagLast, hc, List.length_cons,
      Nat.mul_succ, Nat.add_comm]

theorem attemptsOf_unit (u v : Request) (x : Exchange) (c : Nat)
    (hc : ∀ j, ((requestsUpTo v x j).filter fun d => d == unitRequest u none).length = c) (p : UnitPlan) :
    attemptsOf u (p.sends v x) = c * p.attempts := by
  obtain ⟨fails, ending⟩ := p
  simp only [UnitPlan.sends, attemptsOf_append, attemptsOf_fails u v x c hc, UnitPlan.attempts, Nat.mul_add]
  cases ending with
  | valid => simp only [Ending.sends, requestsUpTo_all, attemptsOf_map, hc, Nat.mul_one]
  | gaveUp => rfl
  | malformed j got m => simp only [Ending.sends, attemptsOf_map, hc, Nat.mul_one]

theorem attemptsOf_sendsOf_other (cfg : Config) (plan : Plan) (u : Request) (us : List Request) (hnot : u ∉ us) :
    attemptsOf u (sendsOf cfg plan us) = 0 := by
  unfold sendsOf
  induction us with
  | nil => rfl
  | cons w r ih =>
    simp only [List.mem_cons, not_or] at hnot
    simp only [List.flatMap_cons, attemptsOf_append, ih hnot.2, Nat.add_zero]
    split
    · rfl
    · rw [attemptsOf_unit u w _ 0 (count_requestsUpTo_other u w (Ne.symm hnot.1) _), Nat.zero_mul]

theorem attemptsOf_sendsOf (cfg : Config) (plan : Plan) (u : Request)
    (hf : freshChallenges u (exchangeOf cfg u) = true) (us : List Request) (hnd : us.Nodup) :
    attemptsOf u (sendsOf cfg plan us)
      = if u ∈ us ∧ toggleOf cfg u ≠ .skip then (plan.unit u).attempts else 0 := by
  induction us with
  | nil => simp [sendsOf, attemptsOf]
  | cons v r ih =>
    have hnd' := List.nodup_cons.mp hnd
    have ih' := ih hnd'.2
    simp only [sendsOf, List.flatMap_cons, attemptsOf_append] at ih' ⊢
    rw [ih']
    by_cases hvu : v = u
    · subst hvu
      by_cases hs : toggleOf cfg v = .skip
      · simp [hs, attemptsOf]
      · have hb : (toggleOf cfg v == Toggle.skip) = false := by simpa using hs
        have hnr : ¬ v ∈ r := hnd'.1
        simp [hb, hs, hnr, attemptsOf_unit v v _ 1 (count_requestsUpTo_self v _ · hf)]
    · have hmem : (u ∈ v :: r) ↔ u ∈ r := by simp [List.mem_cons, Ne.symm hvu]
      have h0 : attemptsOf u (if toggleOf cfg v == .skip then [] else (plan.unit v).sends v (exchangeOf cfg v)) = 0 := by
        split
        · rfl
        · rw [attemptsOf_unit u v _ 0 (count_requestsUpTo_other u v hvu _), Nat.zero_mul]
      rw [h0]
      simp only [hmem, Nat.zero_add]

theorem error_of_valid {p : UnitPlan} (h : p.ending = .valid) : p.error = none := by
  simp [UnitPlan.error, h]

theorem error_of_gaveUp {p : UnitPlan} (h : p.ending = .gaveUp) : p.error = some (lastError Attempt.error p.fails) := by
  simp [UnitPlan.error, h]

theorem error_of_malformed {p : UnitPlan} {j : Nat} {got : List Bytes} {m : Bytes} (h : p.ending = .malformed j got m) :
    p.error = some .packetUnderflow := by
  simp [UnitPlan.error, h]

theorem error_of_not_valid {p : UnitPlan} (h : p.ending ≠ .valid) : ∃ k, p.error = some k := by
  unfold UnitPlan.error
  cases he : p.ending with
  | valid => exact absurd he h
  | gaveUp => exact ⟨_, rfl⟩
  | malformed j got m => exact ⟨_, rfl⟩

theorem lastError_class (fails : List Attempt) :
    lastError Attempt.error fails = .packetReceive ∨ lastError Attempt.error fails = .packetSend :=
  lastError_recv_or_send _ (fun a => attemptError_class a.sendFault) fails

theorem flagBlind_recvChunks (s : Sock) (engine : Engine) (protocol : Nat) (n : Nat) :
    FlagBlind (recvChunks s engine protocol n) := by
  induction n with
  | zero => exact FlagBlind.pure _
  | succ n ih =>
    unfold recvChunks
    exact FlagBlind.bind (FlagBlind.recv _ _) fun _ => FlagBlind.bind (FlagBlind.parse _ _) fun _ =>
      FlagBlind.bind ih fun _ => FlagBlind.pure _

theorem flagBlind_receive (ext : Ext) (s : Sock) (engine : Engine) (protocol : Nat) :
    FlagBlind (receive ext s engine protocol) := by
  rw [receive_eq]
  refine FlagBlind.bind (FlagBlind.recv _ _) fun data => ?_
  unfold afterFirst
  refine FlagBlind.bind (FlagBlind.parse _ _) fun header => ?_
  split
  · exact FlagBlind.bind (FlagBlind.parse _ _) fun _ => FlagBlind.bind (flagBlind_recvChunks _ _ _ _) fun _ =>
      FlagBlind.bind (FlagBlind.lift _) fun _ => FlagBlind.parse _ _
  · exact FlagBlind.parse _ _

theorem flagBlind_challengeLoop (ext : Ext) (s : Sock) (engine : Engine) (protocol kind : Nat) :
    ∀ (fuel : Nat) (p : Packet), FlagBlind (challengeLoop ext s engine protocol kind fuel p) := by
  intro fuel
  induction fuel with
  | zero => exact fun _ _ h => ⟨rfl, h⟩
  | succ fuel ih =>
    intro p
    unfold challengeLoop
    split
    · exact FlagBlind.bind (FlagBlind.send _ _) fun _ => FlagBlind.bind (flagBlind_receive _ _ _ _) fun p' => ih p'
    · exact FlagBlind.pure _

theorem flagBlind_requestData (ext : Ext) (s : Sock) (retries : Nat) (engine : Engine) (protocol : Nat) (u : Request) :
    FlagBlind (requestData ext s retries engine protocol u) := by
  unfold requestData requestImpl
  refine FlagBlind.retry (FlagBlind.bind (FlagBlind.send _ _) fun _ =>
    FlagBlind.bind (flagBlind_receive _ _ _ _) fun p => ?_) retries
  exact FlagBlind.fuelled (s := s) fun n => flagBlind_challengeLoop ext s engine protocol u.kind n p

theorem flagBlind_query (ext : Ext) (port : Nat) (engine : Engine) (g : Gather) (retries : Nat) :
    FlagBlind (query ext port engine g retries) := by
  rw [query_eq]
  refine FlagBlind.bind (FlagBlind.openSock _ _) fun s => ?_
  unfold queryBody getServerInfo getServerPlayers getServerRules
  refine FlagBlind.bind (FlagBlind.bind (flagBlind_requestData _ _ _ _ _ _) fun _ => FlagBlind.parse _ _) fun info => ?_
  split
  · exact FlagBlind.lift _
  · exact FlagBlind.bind (FlagBlind.maybeGather (FlagBlind.bind (flagBlind_requestData _ _ _ _ _ _) fun _ =>
        FlagBlind.parse _ _) _) fun _ =>
      FlagBlind.bind (FlagBlind.maybeGather (FlagBlind.bind (flagBlind_requestData _ _ _ _ _ _) fun _ =>
        FlagBlind.parse _ _) _) fun _ => FlagBlind.pure _

theorem faultyScript_none (cfg : Config) (ai ap ar : List Bytes) :
    faultyScript cfg Plan.none ai ap ar = (scriptAs cfg ai ap ar).map .data := by
  simp [faultyScript, scriptAs, Plan.none, UnitPlan.deliveries, Ending.deliveries]
  cases cfg.gather.players <;> cases cfg.gather.rules <;> simp

theorem faultyFaults_none (cfg : Config) : ∀ b ∈ faultyFaults cfg Plan.none, b = false := by
  intro b hb
  simp only [faultyFaults, Plan.none, UnitPlan.faults, Ending.faults, List.flatMap_nil, List.nil_append,
    List.mem_append] at hb
  rcases hb with (hb | hb) | hb
  · exact List.eq_of_mem_replicate hb
  · split at hb
    · cases hb
    · exact List.eq_of_mem_replicate hb
  · split at hb
    · cases hb
    · exact List.eq_of_mem_replicate hb

/-- the whole query from the initial state: one socket, with the server's datagrams queued on it — the query under
the plan without faults, whose flags, all `false`, are as good as none (`FlagBlind`) -/
theorem query_whole (ext : Ext) (port retries : Nat) (cfg : Config) (st : State)
    (hwf : wf cfg st = true) (hx : wfExchanges cfg = true) (hdec : DecodersAgree ext cfg st) (ai ap ar : List Bytes)
    (hai : ai.Perm (infoDatagrams cfg st)) (hap : ap.Perm (playersDatagrams cfg st))
    (har : ar.Perm (rulesDatagrams cfg st)) (hfit : fits (scriptAs cfg ai ap ar) = true) :
    (query ext port cfg.engine cfg.gather retries
        (Net.init [.opened ((scriptAs cfg ai ap ar).map .data)] [])).1 = expected cfg st := by
  have hplan : wfPlanReached retries cfg st Plan.none = true :=
    wfPlanReached_of_wfPlan retries cfg st Plan.none (by simp [wfPlan, wfUnit, Plan.none])
  have h := (query_faulty ext port retries cfg st hwf hx hdec ai ap ar hai hap har hfit Plan.none hplan [] []).1
  rw [faultyExpected_recovers cfg st Plan.none (fun u _ => by cases u <;> rfl), List.append_nil, List.append_nil,
    faultyScript_none] at h
  rw [← h]
  exact ((flagBlind_query ext port cfg.engine cfg.gather retries).init _ _ (faultyFaults_none cfg)).1
end Gd.Valve
