import GdVerif.Lemmas.ValveWhole
import GdVerif.Lemmas.Valve
import GdVerif.Spec.TheShip
/-
  The Ship: crash freedom, conformance, and the conversion against the SPEC.
-/
namespace Gd.TheShip
open Gd Gd.Valve Gd.Valve.Spec

theorem okOr_ne {α : Type} (o : Option α) (k : ErrKind) : okOr o k ≠ .crash :=
  okOr_ne_crash o k

theorem playerOf_cases (p : ServerPlayer) : playerOf p = .err .packetBad ∨ ∃ x, playerOf p = .ok x := by
  unfold playerOf
  cases p.deaths <;> cases p.money <;> simp [okOr, bind, Res.bind]

theorem playersOf_cases (ps : List ServerPlayer) : playersOf ps = .err .packetBad ∨ ∃ xs, playersOf ps = .ok xs := by
  induction ps with
  | nil => exact .inr ⟨[], rfl⟩
  | cons p r ih =>
    unfold playersOf
    rcases playerOf_cases p with h | ⟨x, h⟩
    · simp [h, bind, Res.bind]
    · rcases ih with h' | ⟨xs, h'⟩ <;> simp [h, h', bind, Res.bind]

theorem convert_ne (r : Valve.Response) : convert r ≠ .crash := by
  unfold convert
  cases r.info.theShip with
  | none => simp [okOr, bind, Res.bind]
  | some ship =>
    cases r.players with
    | none => simp [okOr, bind, Res.bind]
    | some ps =>
      rcases playersOf_cases ps with hp | ⟨xs, hp⟩
      · simp [okOr, bind, Res.bind, hp]
      · cases r.rules <;> simp [okOr, bind, Res.bind, hp]

/-- crash freedom and conformance are the Valve query's: the conversion does no I/O -/
theorem query_safe (ext : Ext) (port retries : Nat) (w : Net) :
    (query ext port retries w).1 ≠ .crash
    ∧ ∃ added, (query ext port retries w).2.log = w.log ++ added
        ∧ ∀ e ∈ added, QueryEvOk port w.conns.length e := by
  obtain ⟨h1, h2⟩ := Valve.query_safe ext port ENGINE Gather.default retries w
  unfold query
  rw [Q.bind_apply]
  cases hq : Valve.query ext port ENGINE Gather.default retries w with
  | mk res w' =>
    rw [hq] at h1 h2
    cases res with
    | ok r => exact ⟨convert_ne r, h2⟩
    | err k => exact ⟨by simp, h2⟩
    | crash => exact absurd rfl h1

theorem playersOf_wf (ps : List ServerPlayer) (h : ∀ p ∈ ps, wfPlayer true p = true) :
    playersOf ps = .ok (ps.map TheShip.Spec.playerOf) := by
  induction ps with
  | nil => rfl
  | cons p r ih =>
    have hp := h p (by simp)
    simp only [wfPlayer, Bool.and_eq_true, decide_eq_true_eq, beq_iff_eq] at hp
    obtain ⟨⟨⟨⟨_, hd⟩, hm⟩, _⟩, _⟩ := hp
    unfold playersOf
    rw [ih fun q hq => h q (by simp [hq])]
    cases hdv : p.deaths with
    | none => simp [hdv] at hd
    | some d =>
      cases hmv : p.money with
      | none => simp [hmv] at hm
      | some m => simp [playerOf, okOr, hdv, hmv, TheShip.Spec.playerOf, bind, Res.bind]

/-- converting what a Valve client is entitled to (for engine app 2400, default gathering) yields what the
user of The Ship's query is entitled to -/
theorem convert_expected (cfg : Config) (st : State) (h : TheShip.Spec.wf cfg st = true) :
    (Valve.Spec.expected (TheShip.Spec.shipConfig cfg) st >>= convert) = TheShip.Spec.expected st := by
  obtain ⟨hinfo, _, hpl, _⟩ := wf_parts (TheShip.Spec.shipConfig cfg) st h
  have hinfo : wfSourceInfo ENGINE st.info = true := hinfo
  have hship : st.info.theShip.isSome = true := by
    simp only [wfSourceInfo, Bool.and_eq_true, beq_iff_eq, ENGINE, beq_self_eq_true] at hinfo
    exact hinfo.1.1.1.1.1.2
  unfold Valve.Spec.expected TheShip.Spec.expected
  simp only [TheShip.Spec.shipConfig, TheShip.Spec.shipEngine, appIdOk, Engine.new, Gather.default]
  by_cases happ : st.info.appid = 2400
  · have hps := playersOf_wf st.players hpl
    obtain ⟨ship, hs⟩ := Option.isSome_iff_exists.mp hship
    simp [happ, convert, okOr, hs, hps, expectedRules, Engine.new, bind, Res.bind]
  · have h1 : (2400 == st.info.appid) = false := by
      simp only [beq_eq_false_iff_ne, ne_eq]; exact fun h => happ h.symm
    simp [happ, h1, bind, Res.bind]

theorem query_single (ext : Ext) (port retries : Nat) (cfg : Config) (st : State) (h : TheShip.Spec.wf cfg st = true)
    (hl1 : (reply 0x49 (encSourceInfo cfg.upper st.info)).length ≤ PACKET_SIZE)
    (hl2 : (reply 0x44 (encPlayers st.players)).length ≤ PACKET_SIZE)
    (hl3 : (reply 0x45 (encRules st.rules)).length ≤ PACKET_SIZE) :
    (query ext port retries (Net.init [.opened (singleScript cfg.upper st)] [])).1 = TheShip.Spec.expected st := by
  obtain ⟨hinfo, hpn, hpl, hrn, hrl, hrd⟩ := wf_parts (TheShip.Spec.shipConfig cfg) st h
  have hq := Valve.query_single ext port ENGINE (by decide) retries cfg.upper st hinfo hpn hpl hrn hrl hrd hl1 hl2 hl3
  unfold query
  rw [Q.bind_lift, hq, ← convert_expected cfg st h,
    expected_default (TheShip.Spec.shipConfig cfg) st rfl]
  rfl

end Gd.TheShip
