import GdVerif.Lemmas.SmallLogic
import GdVerif.Lemmas.MasterPaging
/-
  Valve master-server service: crash freedom of the reply parser and of the paging loop for every script
  (fuel = queued deliveries + 1 suffices: each round consumes a delivery), and what the loop does to the transport,
  event by event (`EvOk`).  The whole log as a chain of rounds and the number of requests are in `MasterRounds`.
-/
namespace Gd.Master
open Gd

theorem safe_parseEntry : Safe parseEntry := by
  unfold parseEntry
  exact Safe.bind safe_readU8 fun _ => Safe.bind safe_readU8 fun _ => Safe.bind safe_readU8 fun _ =>
    Safe.bind safe_readU8 fun _ => Safe.bind (safe_readUnsigned _ _) fun _ => Safe.pure _

theorem progress_parseEntry : Progress parseEntry := by
  unfold parseEntry
  exact Progress.bind (progress_readUnsigned _ 1 (by omega)) fun _ =>
    NoGrow.bind (noGrow_readUnsigned _ _) fun _ => NoGrow.bind (noGrow_readUnsigned _ _) fun _ =>
    NoGrow.bind (noGrow_readUnsigned _ _) fun _ => NoGrow.bind (noGrow_readUnsigned _ _) fun _ => NoGrow.pure _

/-- the `while remaining_length() > 0` loop: its fuel (`remaining + 1`) is never exhausted, because every entry read
moves the cursor forward -/
theorem safe_parseEntries_fuel (b : Buf) : Post b (parseEntries (b.remaining + 1) b) := by
  unfold parseEntries
  refine Post.bind ?_ (fun _ _ _ => rfl)
  exact safe_whileRemaining _ (fun acc => Safe.bind safe_parseEntry fun _ => Safe.pure _)
    (fun acc => Progress.bind progress_parseEntry fun _ => NoGrow.pure _) (b.remaining + 1) [] b (Nat.lt_succ_self _)

theorem safe_parsePage : Safe parsePage := by
  unfold parsePage
  refine Safe.bind (safe_readUnsigned _ _) fun h => Safe.ite (Safe.fail _) ?_
  exact Safe.bind (safe_readUnsigned _ _) fun k => Safe.ite (Safe.fail _) fun b => safe_parseEntries_fuel b

theorem parsePage_ne_crash (data : Bytes) : parsePage.run data ≠ .crash := safe_parsePage.run_ne_crash data

/-- what a paging run on socket `id` may do to the transport when every datagram it sends satisfies `D` -/
def EvOk (D : Bytes → Prop) (id : Nat) : Ev → Prop
  | .opened c tcp p _ => c = id ∧ tcp = false ∧ p = masterPort
  | .send c p data _ => c = id ∧ p = masterPort ∧ D data
  | .recv c size _ => c = id ∧ size = some 1400

/-- the datagrams a master-server query sends: the request for the given region and filter bytes, seeded with
`0.0.0.0:0` or with the text of an address (the last one of the page received before, see `roundsLog` in
`Lemmas/MasterRounds.lean`) -/
def IsRequest (region : Nat) (fb : Bytes) (data : Bytes) : Prop :=
  data = constructPayload region fb zeroIp 0 ∨ ∃ a : Addr, data = constructPayload region fb (ipText a.1) a.2

theorem qsafe_querySpecific (D : Bytes → Prop) (s : Sock) (hp : s.port = masterPort) (region : Nat)
    (fb ip : Bytes) (port : Nat) (hD : D (constructPayload region fb ip port)) :
    QSafe s (EvOk D s.id) (querySpecific s region fb ip port) := by
  unfold querySpecific
  exact QSafe.bind (QSafe.send s _ _ fun _ => ⟨rfl, hp, hD⟩) fun _ =>
    QSafe.bind (QSafe.recv s _ _ fun _ => ⟨rfl, rfl⟩) fun data => QSafe.parse _ _ safe_parsePage _

theorem querySpecific_consumes (s : Sock) (hudp : s.tcp = false) (region : Nat) (fb ip : Bytes) (port : Nat)
    (w w' : Net) (page : List Addr) (hopen : IsOpen s w) (h : querySpecific s region fb ip port w = (.ok page, w')) :
    qlen w' s.id < qlen w s.id := by
  unfold querySpecific at h
  rw [Q.bind_apply] at h
  have hsend := QSafe.send s (fun _ => True) (constructPayload region fb ip port) (fun _ => trivial) w hopen
  cases hs : send s (constructPayload region fb ip port) w with
  | mk r1 w1 =>
    rw [hs] at h hsend
    cases r1 with
    | err k => cases h
    | crash => cases h
    | ok u =>
      simp only at h
      rw [Q.bind_apply] at h
      have hopen1 := hopen.step hsend.2
      cases hr : recv s (some 1400) w1 with
      | mk r2 w2 =>
        rw [hr] at h
        cases r2 with
        | err k => cases h
        | crash => cases h
        | ok d =>
          simp only [parse, Q.lift] at h
          have hw : w2 = w' := by injection h
          subst hw
          have h1 := recv_ok_consumes s hudp _ w1 w2 d hopen1 hr
          have h2 := hsend.2.shrink s.id hopen
          simp only at h2
          omega

theorem qsafe_pageLoop (D : Bytes → Prop) (s : Sock) (hp : s.port = masterPort) (hudp : s.tcp = false) (region : Nat)
    (fb : Bytes) (hD : ∀ a : Addr, D (constructPayload region fb (ipText a.1) a.2)) :
    ∀ (fuel : Nat) (ips : List Addr) (ip : Bytes) (port : Nat) (w : Net), D (constructPayload region fb ip port) →
      IsOpen s w → qlen w s.id < fuel →
      (pageLoop s region fb fuel ips ip port w).1 ≠ .crash
      ∧ Step (EvOk D s.id) w (pageLoop s region fb fuel ips ip port w).2 := by
  intro fuel
  induction fuel with
  | zero => intro _ _ _ w _ _ h; omega
  | succ fuel ih =>
    intro ips ip port w hseed hopen hq
    unfold pageLoop
    refine QSafe.bind_at (qsafe_querySpecific D s hp region fb ip port hseed w hopen) fun page w1 hr hs => ?_
    have hcons := querySpecific_consumes s hudp region fb ip port w w1 page hopen hr
    cases hl : page.getLast? with
    | none => exact ⟨by simp, Step.refl _ w1⟩
    | some last =>
      obtain ⟨latestIp, latestPort⟩ := last
      simp only
      split
      · exact ⟨by simp, Step.refl _ w1⟩
      · split
        · exact ⟨by simp, Step.refl _ w1⟩
        · exact ih (ips ++ page) (ipText latestIp) latestPort w1 (hD (latestIp, latestPort)) (hopen.step hs) (by omega)

/-- the body of `query` after the socket has been opened -/
def queryBody (s : Sock) (region : Nat) (fb : Bytes) : Q (List Addr) :=
  fun w => pageLoop s region fb ((w.conns.getD s.id []).length + 1) [] zeroIp 0 w

theorem query_eq (region : Nat) (fs : Option SearchFilters) :
    query region fs = (openSock false masterPort >>= fun s => queryBody s region (filterBytesOf fs)) := rfl

theorem qsafe_queryBody (s : Sock) (hp : s.port = masterPort) (hudp : s.tcp = false) (region : Nat) (fb : Bytes) :
    QSafe s (EvOk (IsRequest region fb) s.id) (queryBody s region fb) := fun w hopen =>
  qsafe_pageLoop (IsRequest region fb) s hp hudp region fb (fun a => Or.inr ⟨a, rfl⟩)
    ((w.conns.getD s.id []).length + 1) [] zeroIp 0 w (Or.inl rfl) hopen (by simp [qlen])

/-- the body of `query_singular` after the socket has been opened -/
def singularBody (s : Sock) (region : Nat) (fb : Bytes) : Q (List Addr) := do
  let ips ← querySpecific s region fb zeroIp 0
  match ips.getLast? with
  | some (ip, port) => if ipText ip == zeroIp && port == 0 then pure ips.dropLast else pure ips
  | none => pure ips

theorem querySingular_eq (region : Nat) (fs : Option SearchFilters) :
    querySingular region fs = (openSock false masterPort >>= fun s => singularBody s region (filterBytesOf fs)) := rfl

theorem qsafe_singularBody (s : Sock) (hp : s.port = masterPort) (region : Nat) (fb : Bytes) :
    QSafe s (EvOk (IsRequest region fb) s.id) (singularBody s region fb) := by
  unfold singularBody
  refine QSafe.bind (qsafe_querySpecific _ s hp region fb zeroIp 0 (Or.inl rfl)) fun ips => ?_
  split
  · split
    · exact QSafe.pure _ _ _
    · exact QSafe.pure _ _ _
  · exact QSafe.pure _ _ _

theorem query_safe (region : Nat) (fs : Option SearchFilters) (script : List ConnScript) (faults : List Bool) :
    (query region fs (Net.init script faults)).1 ≠ .crash
    ∧ ∀ e ∈ (query region fs (Net.init script faults)).2.log, EvOk (IsRequest region (filterBytesOf fs)) 0 e := by
  rw [query_eq]
  exact openThen_run false masterPort (EvOk (IsRequest region (filterBytesOf fs))) (fun _ _ => ⟨rfl, rfl, rfl⟩)
    (fun s hp ht => qsafe_queryBody s hp ht region _) script faults

theorem query_safe_any (region : Nat) (fs : Option SearchFilters) (w : Net) :
    (query region fs w).1 ≠ .crash := by
  rw [query_eq]
  exact (openThen_safe false masterPort (EvOk (IsRequest region (filterBytesOf fs))) (fun _ _ => ⟨rfl, rfl, rfl⟩)
    (fun s hp ht => qsafe_queryBody s hp ht region _) w).1

theorem querySingular_safe (region : Nat) (fs : Option SearchFilters) (script : List ConnScript) (faults : List Bool) :
    (querySingular region fs (Net.init script faults)).1 ≠ .crash
    ∧ ∀ e ∈ (querySingular region fs (Net.init script faults)).2.log, EvOk (IsRequest region (filterBytesOf fs)) 0 e := by
  rw [querySingular_eq]
  exact openThen_run false masterPort (EvOk (IsRequest region (filterBytesOf fs))) (fun _ _ => ⟨rfl, rfl, rfl⟩)
    (fun s hp _ => qsafe_singularBody s hp region _) script faults

theorem querySingular_safe_any (region : Nat) (fs : Option SearchFilters) (w : Net) :
    (querySingular region fs w).1 ≠ .crash := by
  rw [querySingular_eq]
  exact (openThen_safe false masterPort (EvOk (IsRequest region (filterBytesOf fs))) (fun _ _ => ⟨rfl, rfl, rfl⟩)
    (fun s hp _ => qsafe_singularBody s hp region _) w).1

end Gd.Master
