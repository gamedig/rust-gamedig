import GdVerif.Lemmas.Par
import GdVerif.Lemmas.Codec
/-
  The rules of the primitive reads in the parser logics: `Safe`, `NoGrow` / `Progress` and `Decodes` for the fixed-width
  reads (unsigned, signed, single bytes), the cursor moves and the string decoders; the run equations of `moveCursor`.
-/
namespace Gd

theorem readUnsigned_ok {e : Endian} {w : Nat} {b : Buf} (h : w ≤ b.remaining) :
    readUnsigned e w b = .ok (e.decode (b.rest.take w), b.advance w) := by
  simp [readUnsigned, Nat.not_lt.mpr h]

theorem readUnsigned_err {e : Endian} {w : Nat} {b : Buf} (h : b.remaining < w) :
    readUnsigned e w b = .err .packetUnderflow := by
  simp [readUnsigned, h]

theorem safe_readUnsigned (e : Endian) (w : Nat) : Safe (readUnsigned e w) := by
  intro b
  unfold readUnsigned
  split <;> simp [Post]

theorem safe_readSigned (e : Endian) (w : Nat) : Safe (readSigned e w) := by
  intro b
  have := safe_readUnsigned e w b
  unfold readSigned
  cases h : readUnsigned e w b with
  | ok x => obtain ⟨n, b'⟩ := x; rw [h] at this; simpa [Post] using this
  | err k => trivial
  | crash => rw [h] at this; exact this

theorem safe_readU8 : Safe readU8 := safe_readUnsigned _ _

theorem safe_readByte : Safe readByte := by
  intro b
  unfold readByte
  split <;> simp [Post]

theorem decodes_readUnsigned (e : Endian) (w n : Nat) (h : n < 256 ^ w) :
    Decodes (readUnsigned e w) (e.encode w n) n := by
  intro b post hr
  have hl : w ≤ b.remaining := by
    simp [Buf.remaining, hr, Endian.encode_length]
  refine ⟨b.advance w, ?_, ?_, by simp⟩
  · rw [readUnsigned_ok hl, hr]
    have : (e.encode w n ++ post).take w = e.encode w n := by
      rw [List.take_append_of_le_length (by simp [Endian.encode_length])]
      exact List.take_of_length_le (by simp [Endian.encode_length])
    rw [this, Endian.decode_encode e w n h]
  · have := Buf.advance_append b (e.encode w n) post hr
    rwa [Endian.encode_length] at this

theorem decodes_readU8 (x : UInt8) : Decodes readU8 [x] x.toNat := by
  have := decodes_readUnsigned .little 1 x.toNat (by have := x.toNat_lt; omega)
  simpa [Endian.encode, natLE, readU8] using this

theorem decodes_u8 (n : Nat) (h : n < 256) : Decodes readU8 [UInt8.ofNat n] n := by
  have := decodes_readU8 (UInt8.ofNat n)
  rwa [show (UInt8.ofNat n).toNat = n by simp [UInt8.toNat_ofNat', Nat.mod_eq_of_lt h]] at this

theorem decodes_le (w n : Nat) (h : n < 256 ^ w) : Decodes (readUnsigned .little w) (natLE w n) n :=
  decodes_readUnsigned .little w n h

theorem decodes_be (w n : Nat) (h : n < 256 ^ w) : Decodes (readUnsigned .big w) (natBE w n) n :=
  decodes_readUnsigned .big w n h

theorem decodes_signed (e : Endian) (w : Nat) (hw : 0 < w) (i : Int) (hlo : -(2 ^ (8 * w - 1) : Int) ≤ i) (hhi : i < 2 ^ (8 * w - 1)) :
    Decodes (readSigned e w) (e.encode w (ofSigned (8 * w) i)) i := by
  have hlt : ofSigned (8 * w) i < 256 ^ w := by
    rw [show (256 : Nat) = 2 ^ 8 from rfl, ← Nat.pow_mul]
    exact ofSigned_lt (8 * w) i
  intro b post hr
  obtain ⟨b', h1, hr1, hd1⟩ := decodes_readUnsigned e w _ hlt b post hr
  refine ⟨b', ?_, hr1, hd1⟩
  simp only [readSigned, h1, toSigned_ofSigned (8 * w) (by omega) i hlo hhi]

theorem decodes_readByte (x : UInt8) : Decodes readByte [x] x := by
  intro b post hr
  refine ⟨b.advance 1, ?_, by simp [hr], by simp⟩
  simp [readByte, hr]

theorem readUnsigned_inv {e : Endian} {w : Nat} {b b' : Buf} {n : Nat} (h : readUnsigned e w b = .ok (n, b')) :
    ∃ pre post, b.rest = pre ++ post ∧ pre.length = w ∧ n = e.decode pre ∧ b'.rest = post := by
  unfold readUnsigned at h
  split at h
  · cases h
  · rename_i hlt
    cases h
    refine ⟨b.rest.take w, b.rest.drop w, (List.take_append_drop w b.rest).symm, ?_, rfl, by simp⟩
    simp only [Buf.remaining] at hlt
    simp only [List.length_take]
    omega

theorem readU8_inv {b b' : Buf} {n : Nat} (h : readU8 b = .ok (n, b')) :
    ∃ x post, b.rest = x :: post ∧ n = x.toNat ∧ b'.rest = post := by
  obtain ⟨pre, post, hr, hl, hn, hb⟩ := readUnsigned_inv h
  match pre, hl with
  | [x], _ => exact ⟨x, post, hr, by simpa [Endian.decode, leNat] using hn, hb⟩

theorem progress_readUnsigned (e : Endian) (w : Nat) (hw : 0 < w) : Progress (readUnsigned e w) := by
  intro b a b' h
  unfold readUnsigned at h
  split at h
  · cases h
  · cases h
    simp [Buf.remaining, Buf.advance] at *
    omega

theorem noGrow_readUnsigned (e : Endian) (w : Nat) : NoGrow (readUnsigned e w) := by
  intro b a b' h
  unfold readUnsigned at h
  split at h
  · cases h
  · cases h
    simp [Buf.remaining, Buf.advance]

theorem noGrow_readSigned (e : Endian) (w : Nat) : NoGrow (readSigned e w) := by
  intro b a b' h
  unfold readSigned at h
  cases hr : readUnsigned e w b with
  | ok x =>
    rw [hr] at h
    cases h
    exact noGrow_readUnsigned e w b x.1 _ hr
  | err k => rw [hr] at h; cases h
  | crash => rw [hr] at h; cases h

theorem Buf.len_eq (b : Buf) : b.len = b.data.length := by
  simp only [Buf.len, Buf.data, List.length_append, List.length_reverse]

theorem moveCursor_err {off : Int} {b : Buf} (h : (b.pos : Int) + off < 0 ∨ (b.pos : Int) + off > b.len) :
    moveCursor off b = .err .packetBad := by
  simp only [moveCursor, Bool.or_eq_true, decide_eq_true_eq, h, ↓reduceIte]

theorem moveCursor_forward {off : Int} {b : Buf} (h0 : 0 ≤ off) (h : (b.pos : Int) + off ≤ b.len) :
    moveCursor off b = .ok ((), b.advance off.toNat) := by
  have c : ¬ ((b.pos : Int) + off < 0 ∨ (b.pos : Int) + off > b.len) := by omega
  simp only [moveCursor, Bool.or_eq_true, decide_eq_true_eq, c, h0, ↓reduceIte]

theorem moveCursor_backward {off : Int} {b : Buf} (h0 : off < 0) (h : 0 ≤ (b.pos : Int) + off) :
    moveCursor off b = .ok ((), b.retreat (-off).toNat) := by
  have c : ¬ ((b.pos : Int) + off < 0 ∨ (b.pos : Int) + off > b.len) := by
    simp only [Buf.len, Buf.pos] at h ⊢; omega
  have c0 : ¬ off ≥ 0 := by omega
  simp only [moveCursor, Bool.or_eq_true, decide_eq_true_eq, c, c0, ↓reduceIte]

theorem safe_moveCursor (off : Int) : Safe (moveCursor off) := by
  intro b
  unfold moveCursor
  simp only
  split
  · trivial
  · split <;> simp [Post]

theorem safe_remainingBytes : Safe remainingBytes := fun _ => rfl
theorem safe_remainingLength : Safe remainingLength := fun _ => rfl

theorem safe_switchEndianChunk (n : Nat) : Safe (switchEndianChunk n) := by
  intro b
  unfold switchEndianChunk
  split <;> simp [Post]

theorem decodes_switchEndianChunk (e : Bytes) : Decodes (switchEndianChunk e.length) e e := by
  intro b post hr
  refine ⟨b.advance e.length, ?_, Buf.advance_append b e post hr, by simp⟩
  unfold switchEndianChunk
  have : ¬ e.length > b.remaining := by simp [Buf.remaining, hr]
  simp [this, hr]

theorem decodes_skip (e : Bytes) : Decodes (moveCursor (e.length : Int)) e () := by
  intro b post hr
  refine ⟨b.advance e.length, ?_, Buf.advance_append b e post hr, by simp⟩
  rw [moveCursor_forward (Int.natCast_nonneg _), Int.toNat_natCast]
  simp only [Buf.len, Buf.pos, hr, List.length_append]
  omega

theorem findByte_le (d : UInt8) (sl : Bytes) : findByte d sl ≤ sl.length := by
  induction sl with
  | nil => simp [findByte]
  | cons b r ih => simp only [findByte]; split <;> simp <;> omega

theorem findByte_skip (d : UInt8) (s t : Bytes) (h : d ∉ s) : findByte d (s ++ t) = s.length + findByte d t := by
  induction s with
  | nil => rw [List.nil_append, List.length_nil, Nat.zero_add]
  | cons b r ih =>
    simp only [List.mem_cons, not_or] at h
    have hb : (b == d) = false := beq_eq_false_iff_ne.2 fun e => h.1 e.symm
    simp only [List.cons_append, findByte, hb, Bool.false_eq_true, ↓reduceIte, ih h.2, List.length_cons]
    omega

theorem findByte_append (d : UInt8) (s post : Bytes) (h : d ∉ s) :
    findByte d (s ++ d :: post) = s.length := by
  rw [findByte_skip d s _ h]
  simp only [findByte, beq_self_eq_true, ↓reduceIte, Nat.add_zero]

theorem findByte_none (d : UInt8) (s : Bytes) (h : d ∉ s) : findByte d s = s.length := by
  have := findByte_skip d s [] h
  rwa [List.append_nil] at this

theorem take_findByte (d : UInt8) (m : Bytes) : m.take (findByte d m) = m.takeWhile (· != d) := by
  induction m with
  | nil => rfl
  | cons b r ih =>
    by_cases hb : b = d
    · subst hb; simp [findByte]
    · have : (b == d) = false := by simpa using hb
      simp [findByte, this, ih, hb]

theorem safe_readStringWith (dec : Bytes → Res (Bytes × Nat)) (h : ∀ sl, (dec sl).isCrash = false) :
    Safe (readStringWith dec) := by
  intro b
  unfold readStringWith
  have := h b.rest
  cases hd : dec b.rest with
  | ok x => obtain ⟨s, n⟩ := x; simp [Post]
  | err k => trivial
  | crash => simp [hd, Res.isCrash] at this

theorem noGrow_readStringWith (dec : Bytes → Res (Bytes × Nat)) : NoGrow (readStringWith dec) := by
  intro b s b' h
  unfold readStringWith at h
  cases hd : dec b.rest with
  | ok x =>
    rw [hd] at h
    cases h
    simp [Buf.remaining]
  | err k => rw [hd] at h; cases h
  | crash => rw [hd] at h; cases h

theorem utf8Dec_noCrash (d : UInt8) (sl : Bytes) : (utf8Dec d sl).isCrash = false := by
  unfold utf8Dec
  simp only
  split <;> rfl

theorem utf8LenDec_noCrash (d : UInt8) (sl : Bytes) : (utf8LenDec d sl).isCrash = false := by
  unfold utf8LenDec
  split
  · rfl
  · simp only; split <;> rfl

theorem utf16Dec_noCrash (e : Endian) (d0 d1 : UInt8) (sl : Bytes) : (utf16Dec e d0 d1 sl).isCrash = false := by
  unfold utf16Dec
  simp only
  split <;> rfl

theorem noGrow_readCStr : NoGrow readCStr := noGrow_readStringWith _

theorem safe_readCStr : Safe readCStr := safe_readStringWith _ (utf8Dec_noCrash 0)
theorem safe_readStrUntil (d : UInt8) : Safe (readStrUntil d) := safe_readStringWith _ (utf8Dec_noCrash d)
theorem safe_readLenStr : Safe readLenStr := safe_readStringWith _ (utf8LenDec_noCrash 0)
theorem safe_readUtf16 (e : Endian) : Safe (readUtf16 e) := safe_readStringWith _ (utf16Dec_noCrash e 0 0)

theorem readStrUntil_progress (d : UInt8) (b b' : Buf) (s : Bytes) (h : readStrUntil d b = .ok (s, b'))
    (hne : b.rest ≠ []) : b'.remaining < b.remaining := by
  unfold readStrUntil readStringWith utf8Dec at h
  simp only at h
  split at h
  · rename_i s' n hdec
    split at hdec
    · cases hdec
    · cases hdec
      cases h
      have hl : 0 < b.rest.length := List.length_pos_iff.mpr hne
      simp only [Buf.remaining, Buf.advance, List.length_drop]
      omega
  · cases h
  · cases h

theorem decodes_readStrUntil (d : UInt8) (s : Bytes) (hd : d ∉ s) (hv : validUtf8 s = true) :
    Decodes (readStrUntil d) (s ++ [d]) s := by
  intro b post hr
  have hr' : b.rest = s ++ d :: post := by simpa [List.append_assoc] using hr
  refine ⟨b.advance (s.length + 1), ?_, ?_, by simp⟩
  · unfold readStrUntil readStringWith utf8Dec
    simp only [hr', findByte_append d s post hd, List.take_left', hv]
    have : min (s.length + 1) (s ++ d :: post).length = s.length + 1 := by
      simp
    simp
  · have := Buf.advance_append b (s ++ [d]) post hr
    simpa using this

theorem decodes_readCStr (s : Bytes) (hd : (0 : UInt8) ∉ s) (hv : validUtf8 s = true) :
    Decodes readCStr (s ++ [0]) s := decodes_readStrUntil 0 s hd hv

theorem decodes_readLenStr_cut (s : Bytes) (hl : s.length < 256)
    (hv : validUtf8 (s.take (findByte 0 s)) = true) :
    Decodes readLenStr (UInt8.ofNat s.length :: s) (s.take (findByte 0 s)) := by
  intro b post hr
  have hr' : b.rest = UInt8.ofNat s.length :: (s ++ post) := by simpa using hr
  have hlen : (UInt8.ofNat s.length).toNat = s.length := by
    simp [UInt8.toNat_ofNat', Nat.mod_eq_of_lt hl]
  have hpos : findByte 0 s ≤ s.length := findByte_le 0 s
  have htake : (s ++ post).take (findByte 0 s) = s.take (findByte 0 s) := List.take_append_of_le_length hpos
  refine ⟨b.advance (1 + s.length), ?_, ?_, by simp⟩
  · unfold readLenStr readStringWith utf8LenDec
    simp only [hr', hlen, List.take_left', htake, hv]
    simp
  · have := Buf.advance_append b (UInt8.ofNat s.length :: s) post hr
    simpa [Nat.add_comm] using this

theorem decodes_readLenStr (s : Bytes) (hl : s.length < 256) (h0 : (0 : UInt8) ∉ s) (hv : validUtf8 s = true) :
    Decodes readLenStr (UInt8.ofNat s.length :: s) s := by
  have hf : findByte 0 s = s.length := findByte_none 0 s h0
  have := decodes_readLenStr_cut s hl (by rw [hf, List.take_length]; exact hv)
  rwa [hf, List.take_length] at this

theorem readLenStr_at_end (b : Buf) (h : b.rest = []) : ∃ k, readLenStr b = .err k :=
  ⟨.packetBad, by simp [readLenStr, readStringWith, utf8LenDec, h]⟩

end Gd
