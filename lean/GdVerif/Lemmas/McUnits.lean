import GdVerif.Lemmas.Minecraft
import GdVerif.Lemmas.McQ
/-
  The five Minecraft units against the SPEC, evaluated in ANY transport state: answered (result, exact
  log, state left) and not answered (error, state left).  Used by C03 (decode + auto-detect order) and
  C09 (exact request sequence).
-/
open Gd Gd.Mc Gd.Mc.Spec

namespace Gd.Mc

theorem queryBedrock_eq (port r : Nat) :
    queryBedrock port r = (openSock false port >>= fun s => retryOnTimeout r (bedrockGetInfoImpl s)) := rfl
theorem queryLegacySpecific_eq (g : LegacyGroup) (port r : Nat) :
    queryLegacySpecific g port r = (openSock true port >>= fun s => retryOnTimeout r (legacyGetInfoImpl g s)) := rfl
theorem queryJava_eq (ext : Ext) (port : Nat) (st : RequestSettings) (r : Nat) :
    queryJava ext port st r = (openSock true port >>= fun s => retryOnTimeout r (javaGetInfoImpl ext s st)) := rfl

theorem bedrock_answered (st : BedrockStatus) (h : wfBedrock st = true) (port r : Nat) (w0 : Net)
    (q : List Delivery) (rest : List ConnScript)
    (hp : w0.pending = .opened (.data (unconnectedPong clientTime st) :: q) :: rest) (hf : w0.faults = []) :
    queryBedrock port r w0 = (.ok (expectedBedrock st),
      own w0 rest q [.opened w0.conns.length false port false, .send w0.conns.length port bedrockRequest false,
        .recv w0.conns.length none (some (unconnectedPong clientTime st).length)]) := by
  have hlen := (wfBedrock_parts st h).2.2.2.2.2
  have htake : (unconnectedPong clientTime st).take 1024 = unconnectedPong clientTime st := List.take_of_length_le hlen
  have := unit_answered false port r bedrockGetInfoImpl [bedrockRequest] bedrockParse.run w0 _ q rest (expectedBedrock st)
    (behaves_bedrock _ w0 rfl rest) hp hf (by
      simp only [Bool.false_eq_true, ↓reduceIte, htake]
      exact (decodesEnd_bedrockParse st h).run)
  rw [queryBedrock_eq, this]
  simp [sendEvs, htake]

theorem legacy_answered (g : LegacyGroup) (pkt : Bytes) (x : JavaResponse)
    (hdec : DecodesEnd (legacyParse g pkt.length) pkt x) (port r : Nat) (w0 : Net)
    (q : List Delivery) (rest : List ConnScript)
    (hp : w0.pending = .opened (.data pkt :: q) :: rest) (hf : w0.faults = []) :
    queryLegacySpecific g port r w0 = (.ok x,
      own w0 rest q [.opened w0.conns.length true port false, .send w0.conns.length port (legacyRequest g) false,
        .recv w0.conns.length none (some pkt.length)]) := by
  have := unit_answered true port r (legacyGetInfoImpl g) [legacyRequest g] (fun d => (legacyParse g d.length).run d) w0 _ q rest x
    (behaves_legacy g _ w0 rfl rest) hp hf (by simpa using hdec.run)
  rw [queryLegacySpecific_eq, this]
  simp [sendEvs]

theorem javaHandshakePayload_ok (st : RequestSettings) (port : Nat) (hh : st.hostname.length < 2 ^ 31) :
    javaHandshakePayload st port = .ok ([0x00] ++ asVarint (ofSigned 32 st.protocolVersion)
      ++ (asVarint st.hostname.length ++ st.hostname) ++ natBE 2 port ++ [0x01]) := by
  simp [javaHandshakePayload, asString, hh]

theorem javaReqs_eq (st : RequestSettings) (port : Nat) (hh : st.hostname.length < 2 ^ 31) :
    javaReqs ([0x00] ++ asVarint (ofSigned 32 st.protocolVersion) ++ (asVarint st.hostname.length ++ st.hostname)
      ++ natBE 2 port ++ [0x01]) = javaRequests st port := by
  have h1 := asVarint_length (ofSigned 32 st.protocolVersion) (by
    unfold ofSigned
    have : (0 : Int) < ((2 ^ 32 : Nat) : Int) := by decide
    have := Int.emod_lt_of_pos st.protocolVersion this
    have := Int.emod_nonneg st.protocolVersion (show ((2 ^ 32 : Nat) : Int) ≠ 0 by decide)
    omega)
  have h2 := asVarint_length st.hostname.length (by omega)
  have hlen : ([0x00] ++ asVarint (ofSigned 32 st.protocolVersion) ++ (asVarint st.hostname.length ++ st.hostname)
      ++ natBE 2 port ++ [0x01]).length < 2 ^ 32 := by
    simp only [List.length_append, List.length_cons, List.length_nil, natBE, List.length_reverse, natLE_length]
    omega
  simp only [javaReqs, javaRequests, handshake, statusRequest, bareFinalPing, frame, varint, mcString,
    Nat.mod_eq_of_lt hlen]
  rfl

theorem javaDec_response (ext : Ext) (text trailing : Bytes) (j : Json) (st : JavaStatus)
    (hparse : ext.parseJson text = some j) (hrep : Represents j st) (hwf : wfJava st text = true) :
    javaDec ext (statusResponse text trailing) = .ok (expectedJava ext st) := by
  have hl : text.length < 2 ^ 31 - 8 := by
    simp only [wfJava, Bool.and_eq_true, decide_eq_true_eq] at hwf; exact hwf.2
  unfold javaDec
  rw [javaUnframe_response text trailing hl]
  obtain ⟨b', h1, _, _⟩ := decodes_javaParse ext text j st hparse hrep hwf (Buf.new ([0x00] ++ mcString text ++ trailing)) trailing rfl
  show (javaParse ext).run _ = _
  unfold Par.run
  rw [h1]

theorem java_answered (ext : Ext) (text trailing : Bytes) (j : Json) (st : JavaStatus)
    (hparse : ext.parseJson text = some j) (hrep : Represents j st) (hwf : wfJava st text = true)
    (port r : Nat) (rs : RequestSettings) (hh : rs.hostname.length < 2 ^ 31) (w0 : Net)
    (q : List Delivery) (rest : List ConnScript)
    (hp : w0.pending = .opened (.data (statusResponse text trailing) :: q) :: rest) (hf : w0.faults = []) :
    queryJava ext port rs r w0 = (.ok (expectedJava ext st),
      own w0 rest q ([.opened w0.conns.length true port false] ++ sendEvs ⟨w0.conns.length, port, true⟩ (javaRequests rs port)
        ++ [.recv w0.conns.length none (some (statusResponse text trailing).length)])) := by
  have := unit_answered true port r (fun s => javaGetInfoImpl ext s rs) _ (javaDec ext) w0 _ q rest (expectedJava ext st)
    (behaves_java ext _ rs w0 rfl rest _ (javaHandshakePayload_ok rs port hh)) hp hf
    (by simpa using javaDec_response ext text trailing j st hparse hrep hwf)
  rw [queryJava_eq, this, javaReqs_eq rs port hh]
  simp

theorem bedrock_mute (m : Mute) (port r : Nat) (w0 : Net) (rest : List ConnScript)
    (hp : w0.pending = m.conn :: rest) (hf : w0.faults = []) :
    ∃ e w1, queryBedrock port r w0 = (.err e, w1) ∧ After w0 w1 rest false := by
  rw [queryBedrock_eq]
  cases m with
  | refused => exact unit_refused false port r _ w0 rest hp hf
  | silent k =>
    exact unit_silent false port r bedrockGetInfoImpl [bedrockRequest] bedrockParse.run w0 k rest
      (behaves_bedrock _ w0 rfl rest) ⟨.packetUnderflow, by decide⟩ hp hf

theorem legacy_mute (g : LegacyGroup) (m : Mute) (port r : Nat) (w0 : Net) (rest : List ConnScript)
    (hp : w0.pending = m.conn :: rest) (hf : w0.faults = []) :
    ∃ e w1, queryLegacySpecific g port r w0 = (.err e, w1) ∧ After w0 w1 rest true := by
  rw [queryLegacySpecific_eq]
  cases m with
  | refused => exact unit_refused true port r _ w0 rest hp hf
  | silent k =>
    exact unit_silent true port r (legacyGetInfoImpl g) [legacyRequest g] (fun d => (legacyParse g d.length).run d) w0 k rest
      (behaves_legacy g _ w0 rfl rest) ⟨.packetUnderflow, by cases g <;> decide⟩ hp hf

theorem java_mute (ext : Ext) (m : Mute) (port r : Nat) (rs : RequestSettings) (hh : rs.hostname.length < 2 ^ 31)
    (w0 : Net) (rest : List ConnScript) (hp : w0.pending = m.conn :: rest) (hf : w0.faults = []) :
    ∃ e w1, queryJava ext port rs r w0 = (.err e, w1) ∧ After w0 w1 rest true := by
  rw [queryJava_eq]
  cases m with
  | refused => exact unit_refused true port r _ w0 rest hp hf
  | silent k =>
    exact unit_silent true port r (fun s => javaGetInfoImpl ext s rs) _ (javaDec ext) w0 k rest
      (behaves_java ext _ rs w0 rfl rest _ (javaHandshakePayload_ok rs port hh)) ⟨.packetUnderflow, by rfl⟩ hp hf

/-- the answered lemmas in the form the fall-through proof chains -/
theorem bedrock_answered' (st : BedrockStatus) (h : wfBedrock st = true) (port r : Nat) (w0 : Net) (rest : List ConnScript)
    (hp : w0.pending = .opened [.data (unconnectedPong clientTime st)] :: rest) (hf : w0.faults = []) :
    ∃ w1, queryBedrock port r w0 = (.ok (expectedBedrock st), w1) ∧ After w0 w1 rest false :=
  ⟨_, bedrock_answered st h port r w0 [] rest hp hf, After.of_own _ _ _ _ _ (by simp [opens])⟩

theorem legacy_answered' (g : LegacyGroup) (pkt : Bytes) (x : JavaResponse)
    (hdec : DecodesEnd (legacyParse g pkt.length) pkt x) (port r : Nat) (w0 : Net) (rest : List ConnScript)
    (hp : w0.pending = .opened [.data pkt] :: rest) (hf : w0.faults = []) :
    ∃ w1, queryLegacySpecific g port r w0 = (.ok x, w1) ∧ After w0 w1 rest true :=
  ⟨_, legacy_answered g pkt x hdec port r w0 [] rest hp hf, After.of_own _ _ _ _ _ (by simp [opens])⟩

theorem java_answered' (ext : Ext) (text : Bytes) (j : Json) (st : JavaStatus)
    (hparse : ext.parseJson text = some j) (hrep : Represents j st) (hwf : wfJava st text = true)
    (port r : Nat) (rs : RequestSettings) (hh : rs.hostname.length < 2 ^ 31) (w0 : Net) (rest : List ConnScript)
    (hp : w0.pending = .opened [.data (statusResponse text [])] :: rest) (hf : w0.faults = []) :
    ∃ w1, queryJava ext port rs r w0 = (.ok (expectedJava ext st), w1) ∧ After w0 w1 rest true :=
  ⟨_, java_answered ext text [] j st hparse hrep hwf port r rs hh w0 [] rest hp hf,
    After.of_own _ _ _ _ _ (by simp [opens_append, opens_sendEvs, opens])⟩

theorem orElse_ok {α β : Type} {first : Q α} {f : α → β} {rest : Q β} {w w' : Net} {a : α}
    (h : first w = (.ok a, w')) : orElse first f rest w = (.ok (f a), w') := by
  simp [orElse, h]

theorem orElse_err {α β : Type} {first : Q α} {f : α → β} {rest : Q β} {w w' : Net} {k : ErrKind}
    (h : first w = (.err k, w')) : orElse first f rest w = rest w' := by
  simp [orElse, h]

end Gd.Mc

