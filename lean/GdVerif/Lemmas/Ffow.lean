import GdVerif.Lemmas.ValveKind
import GdVerif.Lemmas.Valve
import GdVerif.Spec.Ffow
/-
  Frontlines: Fuel of War: crash freedom, wire conformance and field-by-field decoding against the SPEC.
-/
namespace Gd.Ffow
open Gd Gd.Valve Gd.Valve.Spec Gd.Ffow.Spec

theorem safe_parseResponse : Safe parseResponse := by
  unfold parseResponse
  exact Safe.bind safe_readU8 fun _ => Safe.bind safe_readCStr fun _ => Safe.bind safe_readCStr fun _ =>
    Safe.bind safe_readCStr fun _ => Safe.bind safe_readCStr fun _ => Safe.bind safe_readCStr fun _ =>
    Safe.bind safe_readCStr fun _ => Safe.bind (safe_moveCursor _) fun _ => Safe.bind safe_readU8 fun _ =>
    Safe.bind safe_readU8 fun _ => Safe.bind safe_readU8 fun _ =>
    Safe.bind (Safe.lift_ne _ (serverFromGldsrc_ne _)) fun _ => Safe.bind safe_readU8 fun _ =>
    Safe.bind (Safe.lift_ne _ (environmentFromGldsrc_ne _)) fun _ => Safe.bind safe_readBoolByte fun _ =>
    Safe.bind safe_readBoolByte fun _ => Safe.bind (safe_moveCursor _) fun _ => Safe.bind safe_readU8 fun _ =>
    Safe.bind safe_readU8 fun _ => Safe.bind (safe_readUnsigned _ _) fun _ => Safe.pure _

/-- the datagrams an FFOW query may send: the `LSQ` request, or — after a challenge reply — the request kind
followed by the challenge bytes (what the shared Valve request loop does for every kind but A2S_INFO) -/
def Allowed (data : Bytes) : Prop :=
  data = packetBytes KIND lsq ∨ ∃ c, data = packetBytes KIND c

/-- what an FFOW query may do to the transport; `id` is the number of the socket it opens -/
def EvOkAt (port id : Nat) : Ev → Prop
  | .opened c tcp p _ => c = id ∧ tcp = false ∧ p = port
  | .send c p data _ => c = id ∧ p = port ∧ Allowed data
  | .recv c size _ => c = id ∧ size = some PACKET_SIZE

theorem qsafe_queryBody (ext : Ext) (s : Sock) (hudp : s.tcp = false) (retries : Nat) :
    QSafe s (EvOkAt s.port s.id) (queryBody ext s retries) := by
  unfold queryBody
  refine QSafe.bind (QSafe.retry (qsafe_requestImplP ext s _ (fun _ => ⟨rfl, rfl⟩) hudp _ _ _ _
    (fun _ => ⟨rfl, rfl, Or.inl rfl⟩) (fun c _ => ⟨rfl, rfl, Or.inr ⟨c, ?_⟩⟩)) retries) fun _ =>
    QSafe.parse _ _ safe_parseResponse _
  -- the kind is not A2S_INFO (0x54), the only one for which the loop sends more than the challenge
  have hkind : (KIND == 0x54) = false := by decide
  simp only [hkind, Bool.false_eq_true, ↓reduceIte]

theorem query_safe (ext : Ext) (port retries : Nat) (w : Net) :
    (query ext port retries w).1 ≠ .crash
    ∧ ∃ added, (query ext port retries w).2.log = w.log ++ added ∧ ∀ e ∈ added, EvOkAt port w.conns.length e := by
  exact openThen_safe false port (EvOkAt port) (fun _ _ => ⟨rfl, rfl, rfl⟩)
    (fun s hp ht => by have := qsafe_queryBody ext s ht retries; rwa [hp] at this) w

theorem decodesEnd_response (upper : Bool) (st : Ffow.Spec.State) (h : Ffow.Spec.wf st = true) :
    DecodesEnd parseResponse (encode upper st) (expected st) := by
  simp only [Ffow.Spec.wf, Bool.and_eq_true, decide_eq_true_eq] at h
  obtain ⟨⟨⟨⟨⟨⟨⟨⟨⟨⟨⟨⟨⟨hp, hname⟩, hmap⟩, hmod⟩, hgm⟩, hdesc⟩, hver⟩, hport⟩, hnp⟩, hmp⟩, hfps⟩, hrd⟩, hmr⟩, htl⟩ := h
  unfold parseResponse encode
  simp only [List.append_assoc]
  refine DecodesEnd.bind (decodes_u8 _ hp) ?_ rfl
  refine DecodesEnd.bind (decodes_cstr _ hname) ?_ rfl
  refine DecodesEnd.bind (decodes_cstr _ hmap) ?_ rfl
  refine DecodesEnd.bind (decodes_cstr _ hmod) ?_ rfl
  refine DecodesEnd.bind (decodes_cstr _ hgm) ?_ rfl
  refine DecodesEnd.bind (decodes_cstr _ hdesc) ?_ rfl
  refine DecodesEnd.bind (decodes_cstr _ hver) ?_ rfl
  have hskip2 : Decodes (moveCursor 2) (be 2 st.gamePort) () := by
    have := decodes_skip (be 2 st.gamePort)
    rwa [show (be 2 st.gamePort).length = 2 by simp [be, natBE, natLE_length]] at this
  refine DecodesEnd.bind hskip2 ?_ rfl
  refine DecodesEnd.bind (decodes_u8 _ hnp) ?_ rfl
  refine DecodesEnd.bind (decodes_u8 _ hmp) ?_ rfl
  refine DecodesEnd.bind (decodes_u8 _ (serverTypeByte_lt _ _)) ?_ rfl
  refine DecodesEnd.bind (e1 := []) (by rw [serverFromGldsrc_byte]; exact Decodes.lift_ok _) ?_ rfl
  refine DecodesEnd.bind (decodes_u8 _ (environmentByte_lt _ _)) ?_ rfl
  refine DecodesEnd.bind (e1 := []) (by rw [environmentFromGldsrc_byte]; exact Decodes.lift_ok _) ?_ rfl
  refine DecodesEnd.bind (decodes_boolByte _) ?_ rfl
  refine DecodesEnd.bind (decodes_boolByte _) ?_ rfl
  have hskip1 : Decodes (moveCursor 1) (u8 st.averageFps) () := decodes_skip (u8 st.averageFps)
  refine DecodesEnd.bind hskip1 ?_ rfl
  refine DecodesEnd.bind (decodes_u8 _ hrd) ?_ rfl
  refine DecodesEnd.bind (decodes_u8 _ hmr) ?_ rfl
  exact DecodesEnd.bind_pure (decodes_be 2 _ (by simpa using htl)).toEnd (fun _ => rfl)

theorem query_script (ext : Ext) (port retries : Nat) (upper : Bool) (st : Ffow.Spec.State)
    (hlen : (replyPacket upper st).length ≤ PACKET_SIZE) :
    query ext port retries (Net.init [.opened [.data (replyPacket upper st)]] [])
      = (parseResponse.run (encode upper st),
         ⟨[], [[]], [], [.opened 0 false port false, .send 0 port (packetBytes KIND lsq) false,
           .recv 0 (some PACKET_SIZE) (some (replyPacket upper st).length)]⟩) := by
  have hreq := requestImpl_single ext ⟨0, port, false⟩ rfl (.goldSrc true) 0 KIND lsq 0x49 (by decide)
    (encode upper st) ⟨[], [[.data (replyPacket upper st)]], [], [.opened 0 false port false]⟩ [] rfl rfl hlen
  have hretry := retryOnTimeout_ok hreq retries
  simp only [query, queryBody, openSock, Net.init, bind, Q.bind', List.length_nil, List.nil_append, hretry]
  simp only [parse, Q.lift, setAt]
  rfl

theorem query_script_fst (ext : Ext) (port retries : Nat) (upper : Bool) (st : Ffow.Spec.State)
    (hlen : (replyPacket upper st).length ≤ PACKET_SIZE) :
    (query ext port retries (Net.init [.opened [.data (replyPacket upper st)]] [])).1
      = parseResponse.run (encode upper st) := by
  rw [query_script ext port retries upper st hlen]

end Gd.Ffow
