import GdVerif.Lemmas.Reader
import GdVerif.Proto.McCodec
/-
  VarInt lemmas: `get_varint ∘ as_varint = id` on all 32-bit patterns.
-/
namespace Gd.Mc
open Gd

/-- the masks of `get_varint` on a 7-bit group `t`, sent as `t` (last byte) or as `t + 128` (continuation) -/
theorem bits_lt128 : ∀ t, t < 128 →
    (t &&& 0x7f = t) ∧ (t &&& 0x80 = 0) ∧ ((t + 128) &&& 0x7f = t) ∧ ((t + 128) &&& 0x80 = 128) := by
  decide +kernel

/-- the fifth byte of a 32-bit VarInt carries four bits -/
theorem bits_lt16 : ∀ t, t < 16 → t &&& 0xf0 = 0 := by decide

theorem readU8_cons (x : UInt8) (post : Bytes) (b : Buf) (hr : b.rest = x :: post) :
    readU8 b = .ok (x.toNat, b.advance 1) ∧ (b.advance 1).rest = post := by
  have hl : 1 ≤ b.remaining := by simp [Buf.remaining, hr]
  have h3 := readUnsigned_ok (e := .little) (w := 1) hl
  refine ⟨?_, by simp [hr]⟩
  unfold readU8
  rw [h3, hr]
  simp [Endian.decode, leNat]

theorem or_shift_eq_add (acc t i : Nat) (hacc : acc < 2 ^ (7 * i)) :
    acc ||| (t <<< (7 * i)) = acc + t * 2 ^ (7 * i) := by
  rw [Nat.shiftLeft_eq, Nat.or_comm, Nat.mul_comm t, ← Nat.two_pow_add_eq_or_of_lt hacc, Nat.add_comm]

theorem getVarintFrom_last (fuel i acc t : Nat) (post : Bytes) (b : Buf) (ht : t < 128)
    (h4 : i = 4 → t < 16) (hr : b.rest = UInt8.ofNat t :: post) :
    getVarintFrom (fuel + 1) i acc b = .ok ((acc ||| (t <<< (7 * i))) % 2 ^ 32, b.advance 1) := by
  obtain ⟨h1, _⟩ := readU8_cons _ post b hr
  rw [toNat_ofNat_lt t (by omega)] at h1
  obtain ⟨ha, hb, _, _⟩ := bits_lt128 t ht
  unfold getVarintFrom
  rw [Par.bind_ok h1]
  by_cases hi : i = 4
  · have := bits_lt16 t (h4 hi)
    simp [hi, ha, hb, this]
  · simp [hi, ha, hb]

theorem getVarintFrom_cont (fuel i acc t : Nat) (post : Bytes) (b : Buf) (ht : t < 128)
    (hi : i ≠ 4) (hr : b.rest = UInt8.ofNat (t + 128) :: post) :
    getVarintFrom (fuel + 1) i acc b
      = getVarintFrom fuel (i + 1) ((acc ||| (t <<< (7 * i))) % 2 ^ 32) (b.advance 1)
      ∧ (b.advance 1).rest = post := by
  obtain ⟨h1, h2⟩ := readU8_cons _ post b hr
  rw [toNat_ofNat_lt (t + 128) (by omega)] at h1
  obtain ⟨_, _, hc, hd⟩ := bits_lt128 t ht
  refine ⟨?_, h2⟩
  conv => lhs; unfold getVarintFrom
  rw [Par.bind_ok h1]
  simp [hi, hc, hd]

/-- one 7-bit group in arithmetic: the low group of `v` goes on top of `acc` (which fits below `p`), the other
groups one position further up -/
theorem group_step (acc v p : Nat) (hacc : acc < p) (hv : acc + v * p < 2 ^ 32) :
    acc + v % 128 * p < p * 128 ∧ acc + v % 128 * p < 2 ^ 32
      ∧ acc + v % 128 * p + v / 128 * (p * 128) = acc + v * p := by
  have h1 : v % 128 * p ≤ 127 * p := Nat.mul_le_mul_right _ (by omega)
  have h2 : v % 128 * p ≤ v * p := Nat.mul_le_mul_right _ (Nat.mod_le _ _)
  refine ⟨by omega, by omega, ?_⟩
  rw [Nat.mul_comm p 128, ← Nat.mul_assoc, Nat.add_assoc, ← Nat.add_mul, Nat.add_comm (v % 128), Nat.div_add_mod']

/-- the round trip from round `i` on: accumulator below bit `7i`, value fits in what is left -/
theorem getVarintFrom_asVarintFrom (fuel : Nat) : ∀ (i acc v : Nat) (post : Bytes) (b : Buf),
    i + fuel = 5 → 0 < fuel → acc < 2 ^ (7 * i) → acc + v * 2 ^ (7 * i) < 2 ^ 32 →
    b.rest = asVarintFrom fuel v ++ post →
    ∃ b', getVarintFrom fuel i acc b = .ok (acc + v * 2 ^ (7 * i), b') ∧ b'.rest = post ∧ b'.data = b.data := by
  induction fuel with
  | zero => intro i acc v post b _ h; omega
  | succ fuel ih =>
    intro i acc v post b hif _ hacc hv hr
    -- in the fifth round only four bits are left
    have h4 : i = 4 → v < 16 := by
      intro hi
      subst hi
      omega
    simp only [asVarintFrom] at hr
    by_cases hlast : v / 128 = 0
    · have hv128 : v < 128 := by omega
      simp only [hlast, beq_self_eq_true, ↓reduceIte, Nat.mod_eq_of_lt hv128, List.singleton_append] at hr
      refine ⟨b.advance 1, ?_, by simp [hr], by simp⟩
      rw [getVarintFrom_last fuel i acc v post b hv128 h4 hr, or_shift_eq_add acc v i hacc,
        Nat.mod_eq_of_lt hv]
    · have hne : (v / 128 == 0) = false := by simpa using hlast
      simp only [hne, Bool.false_eq_true, ↓reduceIte, List.cons_append] at hr
      have hi4 : i ≠ 4 := fun hi => by have := h4 hi; omega
      obtain ⟨hstep, hrest⟩ := getVarintFrom_cont fuel i acc (v % 128) (asVarintFrom fuel (v / 128) ++ post) b
        (Nat.mod_lt _ (by omega)) hi4 hr
      have hp7 : (2 : Nat) ^ (7 * (i + 1)) = 2 ^ (7 * i) * 128 := by
        rw [Nat.mul_add, Nat.pow_add]
      obtain ⟨hacc', hlt, hsum⟩ := group_step acc v (2 ^ (7 * i)) hacc hv
      obtain ⟨b', h1, h2, h3⟩ := ih (i + 1) (acc + v % 128 * 2 ^ (7 * i)) (v / 128) post (b.advance 1)
        (by omega) (by omega) (by rw [hp7]; exact hacc') (by rw [hp7, hsum]; exact hv) hrest
      refine ⟨b', ?_, h2, by rw [h3]; simp⟩
      rw [hstep, or_shift_eq_add acc (v % 128) i hacc, Nat.mod_eq_of_lt hlt, h1, hp7, hsum]

theorem decodes_getVarint (x : Nat) (hx : x < 2 ^ 32) : Decodes getVarint (asVarint x) x := by
  intro b post hr
  obtain ⟨b', h1, h2, h3⟩ := getVarintFrom_asVarintFrom 5 0 0 x post b (by omega) (by omega) (by simp) (by simpa using hx) hr
  exact ⟨b', by simpa [getVarint] using h1, h2, h3⟩

theorem safe_getVarintFrom (fuel : Nat) : ∀ i acc, Safe (getVarintFrom fuel i acc) := by
  induction fuel with
  | zero => intro i acc; exact Safe.pure _
  | succ fuel ih =>
    intro i acc
    unfold getVarintFrom
    exact Safe.bind safe_readU8 fun _ => Safe.ite (Safe.fail _) (Safe.ite (Safe.pure _) (ih _ _))

theorem safe_getVarint : Safe getVarint := safe_getVarintFrom 5 0 0

theorem readU8_ok_inv {b b' : Buf} {v : Nat} (h : readU8 b = .ok (v, b')) :
    b'.remaining + 1 = b.remaining ∧ v < 256 := by
  unfold readU8 readUnsigned at h
  split at h
  · cases h
  · rename_i hlt
    cases h
    refine ⟨?_, ?_⟩
    · simp only [Buf.remaining, Buf.advance, List.length_drop] at hlt ⊢; omega
    · have := Endian.decode_lt .little (b.rest.take 1)
      have hl : (b.rest.take 1).length ≤ 1 := by rw [List.length_take]; exact Nat.min_le_left _ _
      calc Endian.little.decode (b.rest.take 1) < 256 ^ (b.rest.take 1).length := this
        _ ≤ 256 ^ 1 := Nat.pow_le_pow_right (by omega) hl
        _ = 256 := by omega

theorem getVarintFrom_bounds (fuel : Nat) : ∀ (i acc : Nat) (b b' : Buf) (v : Nat), acc < 2 ^ 32 →
    getVarintFrom fuel i acc b = .ok (v, b') →
    v < 2 ^ 32 ∧ b'.remaining + fuel ≥ b.remaining ∧ b'.remaining ≤ b.remaining
      ∧ (0 < fuel → b'.remaining < b.remaining) := by
  induction fuel with
  | zero =>
    intro i acc b b' v hacc h
    simp only [getVarintFrom, Par.pure_apply] at h
    cases h
    exact ⟨hacc, by omega, by omega, by omega⟩
  | succ fuel ih =>
    intro i acc b b' v hacc h
    unfold getVarintFrom at h
    rw [Par.bind_apply] at h
    cases hr : readU8 b with
    | ok x =>
      obtain ⟨byte, b1⟩ := x
      obtain ⟨hrem, _⟩ := readU8_ok_inv hr
      rw [hr] at h
      simp only at h
      have hm : (acc ||| (byte &&& 0x7f) <<< (7 * i)) % 2 ^ 32 < 2 ^ 32 := Nat.mod_lt _ (by omega)
      split at h
      · cases h
      · split at h
        · simp only [Par.pure_apply, Res.ok.injEq, Prod.mk.injEq] at h
          obtain ⟨hv, hb⟩ := h
          subst hv hb
          exact ⟨hm, by omega, by omega, by omega⟩
        · obtain ⟨h1, h2, h3, _⟩ := ih _ _ _ _ _ hm h
          exact ⟨h1, by omega, by omega, by omega⟩
    | err k => rw [hr] at h; cases h
    | crash => rw [hr] at h; cases h

theorem getVarint_bounds (b b' : Buf) (v : Nat) (h : getVarint b = .ok (v, b')) :
    v < 2 ^ 32 ∧ b'.remaining + 5 ≥ b.remaining ∧ b'.remaining < b.remaining := by
  obtain ⟨h1, h2, _, h3⟩ := getVarintFrom_bounds 5 0 0 b b' v (by omega) h
  exact ⟨h1, h2, h3 (by omega)⟩

theorem asVarintFrom_length (fuel : Nat) : ∀ v, 0 < fuel → 1 ≤ (asVarintFrom fuel v).length ∧ (asVarintFrom fuel v).length ≤ fuel := by
  induction fuel with
  | zero => intro v h; omega
  | succ fuel ih =>
    intro v _
    simp only [asVarintFrom]
    split
    · simp
    · simp only [List.length_cons]
      cases fuel with
      | zero => simp [asVarintFrom]
      | succ f =>
        have := ih (v / 128) (by omega)
        omega

theorem asVarint_length (x : Nat) (_hx : x < 2 ^ 32) : 1 ≤ (asVarint x).length ∧ (asVarint x).length ≤ 5 :=
  asVarintFrom_length 5 x (by omega)

theorem getVarintFrom_contByte (fuel i acc : Nat) (x : UInt8) (post : Bytes) (b : Buf)
    (hx : x.toNat &&& 0x80 ≠ 0) (hi : i ≠ 4) (hr : b.rest = x :: post) :
    ∃ acc', getVarintFrom (fuel + 1) i acc b = getVarintFrom fuel (i + 1) acc' (b.advance 1)
      ∧ (b.advance 1).rest = post := by
  obtain ⟨h1, h2⟩ := readU8_cons x post b hr
  refine ⟨(acc ||| ((x.toNat &&& 0x7f) <<< (7 * i))) % 2 ^ 32, ?_, h2⟩
  conv => lhs; unfold getVarintFrom
  rw [Par.bind_ok h1]
  simp [hi, hx]

theorem getVarintFrom_short : ∀ (m : Bytes) (fuel i acc : Nat) (b : Buf), b.rest = m → m.length < fuel →
    i + m.length ≤ 4 → (∀ x ∈ m, x.toNat &&& 0x80 ≠ 0) → getVarintFrom fuel i acc b = .err .packetUnderflow := by
  intro m
  induction m with
  | nil =>
    intro fuel i acc b hr hf _ _
    obtain ⟨f, rfl⟩ : ∃ f, fuel = f + 1 := ⟨fuel - 1, by simp at hf; omega⟩
    unfold getVarintFrom
    rw [Par.bind_err (k := .packetUnderflow) (by simp [readU8, readUnsigned, Buf.remaining, hr])]
  | cons x r ih =>
    intro fuel i acc b hr hf hi hall
    obtain ⟨f, rfl⟩ : ∃ f, fuel = f + 1 := ⟨fuel - 1, by simp at hf; omega⟩
    simp only [List.length_cons] at hf hi
    obtain ⟨acc', e, hr'⟩ := getVarintFrom_contByte f i acc x r b (hall x (by simp)) (by omega) hr
    rw [e]
    exact ih f (i + 1) acc' _ hr' (by omega) (by omega) (fun y hy => hall y (by simp [hy]))

theorem getVarint_overlong (b0 b1 b2 b3 b4 : UInt8) (post : Bytes) (b : Buf)
    (h0 : b0.toNat &&& 0x80 ≠ 0) (h1 : b1.toNat &&& 0x80 ≠ 0) (h2 : b2.toNat &&& 0x80 ≠ 0)
    (h3 : b3.toNat &&& 0x80 ≠ 0) (h4 : b4.toNat &&& 0xf0 ≠ 0)
    (hr : b.rest = b0 :: b1 :: b2 :: b3 :: b4 :: post) :
    getVarint b = .err .packetBad := by
  unfold getVarint
  obtain ⟨a1, e1, r1⟩ := getVarintFrom_contByte 4 0 0 b0 _ b h0 (by omega) hr
  obtain ⟨a2, e2, r2⟩ := getVarintFrom_contByte 3 1 a1 b1 _ _ h1 (by omega) r1
  obtain ⟨a3, e3, r3⟩ := getVarintFrom_contByte 2 2 a2 b2 _ _ h2 (by omega) r2
  obtain ⟨a4, e4, r4⟩ := getVarintFrom_contByte 1 3 a3 b3 _ _ h3 (by omega) r3
  rw [e1, e2, e3, e4]
  obtain ⟨h5, _⟩ := readU8_cons b4 post _ r4
  unfold getVarintFrom
  rw [Par.bind_ok h5]
  simp [h4]

theorem safe_getString : Safe getString := by
  unfold getString
  exact Safe.bind safe_getVarint fun _ => Safe.ite (Safe.fail _) <|
    Safe.bind safe_remainingLength fun _ => Safe.ite (Safe.fail _) <|
    Safe.bind (safe_repeatN safe_readByte _) fun _ => Safe.ite (Safe.pure _) (Safe.fail _)

theorem decodes_repeatN_readByte (s : Bytes) : Decodes (repeatN readByte s.length) s s := by
  induction s with
  | nil => exact Decodes.pure _
  | cons x r ih =>
    simp only [List.length_cons, repeatN]
    refine Decodes.bind' (e1 := [x]) (e2 := r) (decodes_readByte x) ?_ (by simp)
    exact Decodes.bind' (e1 := r) (e2 := []) ih (Decodes.pure _) (by simp)

theorem getString_asString (s : Bytes) (hv : validUtf8 s = true) (hl : s.length < 2 ^ 31)
    (post : Bytes) (b : Buf) (enc : Bytes) (henc : asString s = .ok enc) (hr : b.rest = enc ++ post) :
    ∃ b', getString b = .ok (s, b') ∧ b'.rest = post ∧ b'.data = b.data := by
  have he : enc = asVarint s.length ++ s := by
    unfold asString at henc
    simp only [hl, ↓reduceIte] at henc
    cases henc; rfl
  subst he
  obtain ⟨b1, h1, hr1, hd1⟩ := decodes_getVarint s.length (by omega) b (s ++ post) (by simpa [List.append_assoc] using hr)
  obtain ⟨b2, h2, hr2, hd2⟩ := decodes_repeatN_readByte s b1 post hr1
  refine ⟨b2, ?_, hr2, by rw [hd2, hd1]⟩
  unfold getString
  rw [Par.bind_ok h1]
  have hs : toSigned 32 s.length = (s.length : Int) := toSigned_of_lt (bits := 32) hl
  have hnn : ¬ ((s.length : Int) < 0) := by omega
  simp only [hs, hnn, ↓reduceIte, Int.toNat_natCast]
  have hrem : remainingLength b1 = .ok (b1.remaining, b1) := rfl
  rw [Par.bind_ok hrem]
  have hle : ¬ s.length > b1.remaining := by
    simp [Buf.remaining, hr1]
  simp only [hle, ↓reduceIte]
  rw [Par.bind_ok h2]
  simp [hv]

end Gd.Mc
