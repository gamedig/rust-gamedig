import GdVerif.Lemmas.GsMap
import GdVerif.Lemmas.GsText
import GdVerif.Lemmas.QLogic
import GdVerif.Spec.Gs1
/-
  GameSpy 1, the model against the SPEC encoders: one datagram (text level), one round of the loop on a part
  (`processPacket_part`, `step_new`, `step_dup` under the invariant `Inv`), and the receive loop over any sequence of the
  reply's parts.

  The loop is described twice.  `loopOn` here feeds it a plain list of datagrams on a transport without faults
  (`recvLoop_eq_loopOn`); it carries C08's statement about any sequence drawn from the parts, repetitions included
  (`loopOn_drawn`).  `runOn` in `Lemmas/Gs1Faults.lean` is the loop in the logic `Steps`, with silences, scripted send
  faults and what is left of the queue; it carries C10, and C04 / C08 for parts in any order as the plan without
  failures.  Both rest on the same lemmas about one round.
-/
namespace Gd.Gs1
open Gd Gd.Gs Gd.Gs1.Spec

theorem statusRequest_eq : statusRequest = [92] ++ bs "status" ++ [92] ++ bs "xserverquery" := by
  rw [statusRequest, bs, bs, asciiBytes_ofList, asciiBytes_ofList, asciiBytes_ofList]
  rfl

/-- the pieces between the backslashes -/
def piecesOf (qs : List (Bytes × Bytes)) : List Bytes := qs.flatMap fun p => [p.1, p.2]

theorem pairsOf_piecesOf (qs : List (Bytes × Bytes)) : pairsOf (piecesOf qs) = qs := by
  induction qs with
  | nil => rfl
  | cons p r ih =>
    simp only [piecesOf, List.flatMap_cons, List.cons_append, List.nil_append, pairsOf] at ih ⊢
    rw [ih]

theorem flatten_encPair (qs : List (Bytes × Bytes)) (hne : qs ≠ []) :
    (qs.map encPair).flatten = 92 :: joinWith 92 (piecesOf qs) := by
  induction qs with
  | nil => exact absurd rfl hne
  | cons p r ih =>
    cases r with
    | nil => simp [encPair, piecesOf, joinWith]
    | cons q r' =>
      have := ih (by simp)
      simp only [List.map_cons, List.flatten_cons] at this ⊢
      rw [this]
      simp [encPair, piecesOf, joinWith]

theorem dropWhile_isCont_of_head {J : Bytes} (h : ∀ b ∈ J.head?, isCont b = false) : J.dropWhile isCont = J := by
  cases J with
  | nil => rfl
  | cons b r => simp [List.dropWhile, h b (by simp)]

/-- what travels as a key or value -/
def OkText (s : Bytes) : Prop := (92 : UInt8) ∉ s ∧ (0 : UInt8) ∉ s ∧ validUtf8 s = true

theorem okText_iff (s : Bytes) : okText s = true ↔ OkText s := by
  simp [okText, OkText, and_assoc]

def OkPairs (qs : List (Bytes × Bytes)) : Prop := ∀ p ∈ qs, OkText p.1 ∧ OkText p.2

theorem textPairs_enc (qs : List (Bytes × Bytes)) (hne : qs ≠ []) (hok : OkPairs qs) :
    textPairs ((qs.map encPair).flatten) = qs := by
  unfold textPairs
  rw [flatten_encPair qs hne]
  simp only [dropFirstChar]
  have hhead : ∀ b ∈ (joinWith 92 (piecesOf qs)).head?, isCont b = false := by
    cases qs with
    | nil => exact absurd rfl hne
    | cons p r =>
      intro b hb
      have hp := (hok p (by simp)).1
      cases hk : p.1 with
      | nil =>
        simp only [piecesOf, List.flatMap_cons, hk, List.cons_append, List.nil_append, joinWith] at hb
        obtain rfl : (92 : UInt8) = b := by simpa using hb
        decide
      | cons x xs =>
        simp only [piecesOf, List.flatMap_cons, hk, List.cons_append, List.nil_append, joinWith] at hb
        obtain rfl : x = b := by simpa using hb
        exact validUtf8_head _ xs (hk ▸ hp.2.2)
  rw [dropWhile_isCont_of_head hhead]
  rw [splitOn_joinWith 92 (piecesOf qs)]
  · exact pairsOf_piecesOf qs
  · cases qs with
    | nil => exact absurd rfl hne
    | cons p r => simp [piecesOf]
  · intro x hx
    simp only [piecesOf, List.mem_flatMap] at hx
    obtain ⟨p, hp, hx⟩ := hx
    have := hok p hp
    simp only [List.mem_cons, List.not_mem_nil, or_false] at hx
    rcases hx with rfl | rfl
    · exact this.1.1
    · exact this.2.1

theorem okText_flatten_encPair (qs : List (Bytes × Bytes)) (hok : OkPairs qs) :
    (0 : UInt8) ∉ (qs.map encPair).flatten ∧ validUtf8 (qs.map encPair).flatten = true := by
  induction qs with
  | nil => simp [validUtf8]
  | cons p r ih =>
    have hp := hok p (by simp)
    obtain ⟨h0, hv⟩ := ih (fun q hq => hok q (by simp [hq]))
    simp only [List.map_cons, List.flatten_cons]
    have h92 : validUtf8 [92] = true := by decide
    refine ⟨?_, ?_⟩
    · simp only [encPair, List.mem_append, List.mem_singleton, not_or]
      exact ⟨⟨⟨⟨by decide, hp.1.2.1⟩, by decide⟩, hp.2.2.1⟩, h0⟩
    · unfold encPair
      exact validUtf8_append _ _ (validUtf8_append _ _ (validUtf8_append _ _ (validUtf8_append _ _ h92 hp.1.2.2) h92) hp.2.2.2) hv

theorem insertAll_nil (m : Map Bytes) : insertAll m [] = m := rfl

theorem insertAll_cons (m : Map Bytes) (p : Bytes × Bytes) (r : List (Bytes × Bytes)) :
    insertAll m (p :: r) = insertAll (mapInsert m p.1 p.2) r := rfl

theorem insertAll_fresh (m : Map Bytes) (ps : List (Bytes × Bytes)) (hf : ∀ p ∈ ps, ¬ HasKey m p.1)
    (hd : Distinct ps) : insertAll m ps = m ++ ps :=
  foldl_mapInsert_fresh m ps hf hd

theorem kFinal_ne_kQueryId : kFinal ≠ kQueryId := by decide +kernel

theorem parseQueryId_enc (n N i : Nat) (hN : N < 2 ^ 64) (hi : i < 2 ^ 64) :
    parseQueryId n (some (dec N ++ [46] ++ dec i)) = .ok (some N, i) := by
  unfold parseQueryId
  simp only
  have h46 : ∀ k, (46 : UInt8) ∉ dec k := fun k => dec_not_mem k 46 (by decide)
  have hs : splitOn 46 (dec N ++ [46] ++ dec i) = [dec N, dec i] := by
    rw [List.append_assoc, List.singleton_append, splitOn_append_delim 46 _ _ (h46 N), splitOn_no_delim 46 _ (h46 i)]
  rw [hs]
  simp only [parseUnsigned_dec 64 N hN, parseUnsigned_dec 64 i hi]

/-- the pairs a part's datagram ends with -/
def trailer (y : Style) (total i : Nat) : List (Bytes × Bytes) :=
  if i == total then
    (if y.finalFirst then [(kFinal, []), queryIdPair y i] else [queryIdPair y i, (kFinal, [])])
  else [queryIdPair y i]

theorem encPart_eq (y : Style) (total i : Nat) (ps : List (Bytes × Bytes)) :
    encPart y total i ps = ((ps ++ trailer y total i).map encPair).flatten := by
  unfold encPart trailer
  split
  · split <;> simp [List.map_append, List.flatten_append]
  · simp [List.map_append, List.flatten_append]

theorem okText_kFinal : OkText kFinal := (okText_iff _).mp (by decide +kernel)
theorem okText_kQueryId : OkText kQueryId := (okText_iff _).mp (by decide +kernel)
theorem okText_nil : OkText [] := (okText_iff _).mp (by decide +kernel)

theorem okText_queryIdText (N i : Nat) : OkText (dec N ++ [46] ++ dec i) := by
  have hasc : asciiOnly (dec N ++ [46] ++ dec i) := by
    intro b hb
    simp only [List.mem_append, List.mem_singleton] at hb
    rcases hb with (h | rfl) | h
    · have := dec_mem_digit N b h; omega
    · decide
    · have := dec_mem_digit i b h; omega
  refine ⟨?_, ?_, validUtf8_of_ascii _ hasc⟩
  · simp only [List.mem_append, List.mem_singleton, not_or]
    exact ⟨⟨dec_not_mem N 92 (by decide), by decide⟩, dec_not_mem i 92 (by decide)⟩
  · simp only [List.mem_append, List.mem_singleton, not_or]
    exact ⟨⟨dec_not_mem N 0 (by decide), by decide⟩, dec_not_mem i 0 (by decide)⟩

theorem okPairs_trailer (y : Style) (total i : Nat) : OkPairs (trailer y total i) := by
  have hq : OkText (queryIdPair y i).1 ∧ OkText (queryIdPair y i).2 := ⟨okText_kQueryId, okText_queryIdText _ _⟩
  have hf : OkText ((kFinal, ([] : Bytes)) : Bytes × Bytes).1 ∧ OkText ((kFinal, ([] : Bytes)) : Bytes × Bytes).2 :=
    ⟨okText_kFinal, okText_nil⟩
  unfold trailer
  intro p hp
  split at hp
  · split at hp
    · simp only [List.mem_cons, List.not_mem_nil, or_false] at hp
      rcases hp with rfl | rfl
      · exact hf
      · exact hq
    · simp only [List.mem_cons, List.not_mem_nil, or_false] at hp
      rcases hp with rfl | rfl
      · exact hq
      · exact hf
  · simp only [List.mem_cons, List.not_mem_nil, or_false] at hp
    subst hp
    exact hq

theorem trailer_ne_nil (y : Style) (total i : Nat) : trailer y total i ≠ [] := by
  unfold trailer
  split
  · split <;> simp
  · simp

theorem trailer_keys (y : Style) (total i : Nat) : ∀ p ∈ trailer y total i, p.1 = kFinal ∨ p.1 = kQueryId := by
  unfold trailer
  intro p hp
  split at hp
  · split at hp <;> simp only [List.mem_cons, List.not_mem_nil, or_false] at hp <;> rcases hp with rfl | rfl <;>
      simp [queryIdPair]
  · simp only [List.mem_cons, List.not_mem_nil, or_false] at hp
    subst hp
    simp [queryIdPair]

theorem trailer_distinct (y : Style) (total i : Nat) : Distinct (trailer y total i) := by
  have h1 : kFinal ≠ kQueryId := kFinal_ne_kQueryId
  unfold trailer Distinct
  split
  · split <;> simp [queryIdPair, h1, Ne.symm h1]
  · simp

/-- what the three steps after the insertion (`final`, `queryid`) see and leave, for a map that
ends with a trailer -/
theorem trailer_effect (y : Style) (total i : Nat) (base : Map Bytes)
    (hbf : ¬ HasKey base kFinal) (hbq : ¬ HasKey base kQueryId) :
    (mapGet (base ++ trailer y total i) kFinal).isSome = (i == total)
    ∧ mapGet (mapRemove (base ++ trailer y total i) kFinal) kQueryId = some (dec y.queryId ++ [46] ++ dec i)
    ∧ mapRemove (mapRemove (base ++ trailer y total i) kFinal) kQueryId = base := by
  have h1 : (kFinal == kQueryId) = false := beq_false_of_ne kFinal_ne_kQueryId
  have h2 : (kQueryId == kFinal) = false := beq_false_of_ne kFinal_ne_kQueryId.symm
  rw [mapGet_append_right hbf, mapRemove_append, mapRemove_of_not_hasKey hbf]
  unfold trailer
  -- the three forms of a trailer: the lookups and removals only meet `final` and `queryid`
  cases he : i == total <;> cases y.finalFirst <;>
    simp only [queryIdPair, mapGet_cons, mapRemove_cons, mapRemove_append, mapGet_append_right hbq,
      mapRemove_of_not_hasKey hbq, BEq.rfl, ↓reduceIte, h1, h2, Bool.false_eq_true, mapGet_nil, Option.isSome_some,
      Option.isSome_none] <;>
    simp [mapRemove]

theorem hasKey_mapInsert {m : Map Bytes} {k' : Bytes} {v : Bytes} {k : Bytes} (h : HasKey (mapInsert m k' v) k) :
    k' = k ∨ HasKey m k := by
  induction m with
  | nil =>
    obtain ⟨p, hp, hk⟩ := h
    simp only [mapInsert, List.mem_singleton] at hp
    subst hp
    exact Or.inl hk
  | cons q r ih =>
    obtain ⟨a, b⟩ := q
    simp only [mapInsert] at h
    split at h
    · rcases hasKey_cons.mp h with h | h
      · exact Or.inl h
      · exact Or.inr (hasKey_cons.mpr (Or.inr h))
    · rcases hasKey_cons.mp h with h | h
      · exact Or.inr (hasKey_cons.mpr (Or.inl h))
      · rcases ih h with h | h
        · exact Or.inl h
        · exact Or.inr (hasKey_cons.mpr (Or.inr h))

theorem hasKey_insertAll {m : Map Bytes} {ps : List (Bytes × Bytes)} {k : Bytes} (h : HasKey (insertAll m ps) k) :
    HasKey m k ∨ ∃ p ∈ ps, p.1 = k := by
  induction ps generalizing m with
  | nil => exact Or.inl h
  | cons p r ih =>
    rw [insertAll_cons] at h
    rcases ih h with h | ⟨q, hq, hk⟩
    · rcases hasKey_mapInsert h with h | h
      · exact Or.inr ⟨p, by simp, h⟩
      · exact Or.inl h
    · exact Or.inr ⟨q, by simp [hq], hk⟩

theorem insertAll_append (m : Map Bytes) (a b : List (Bytes × Bytes)) :
    insertAll m (a ++ b) = insertAll (insertAll m a) b := by
  simp [insertAll, List.foldl_append]

theorem processPacket_part (y : Style) (total i : Nat) (st : LoopSt) (ps : List (Bytes × Bytes))
    (hok : OkPairs ps) (hnf : ∀ p ∈ ps, p.1 ≠ kFinal ∧ p.1 ≠ kQueryId)
    (hvf : ¬ HasKey st.vals kFinal) (hvq : ¬ HasKey st.vals kQueryId)
    (hN : y.queryId < 2 ^ 64) (hi : i < 2 ^ 64) :
    processPacket st (encPart y total i ps) =
      if st.qid.isSome && st.qid != some y.queryId then .err .packetBad
      else if st.parts.contains i then .err .packetBad
      else .ok ⟨insertAll st.vals ps, st.parts ++ [i], some y.queryId, if i == total then some i else st.finalPart⟩ := by
  have hokall : OkPairs (ps ++ trailer y total i) := by
    intro p hp
    rcases List.mem_append.mp hp with h | h
    · exact hok p h
    · exact okPairs_trailer y total i p h
  have hne : ps ++ trailer y total i ≠ [] := by
    intro h
    exact trailer_ne_nil y total i (List.append_eq_nil_iff.mp h).2
  obtain ⟨h0, hv⟩ := okText_flatten_encPair _ hokall
  have hbf : ¬ HasKey (insertAll st.vals ps) kFinal := by
    intro h
    rcases hasKey_insertAll h with h | ⟨p, hp, hk⟩
    · exact hvf h
    · exact (hnf p hp).1 hk
  have hbq : ¬ HasKey (insertAll st.vals ps) kQueryId := by
    intro h
    rcases hasKey_insertAll h with h | ⟨p, hp, hk⟩
    · exact hvq h
    · exact (hnf p hp).2 hk
  have hins : insertAll st.vals (ps ++ trailer y total i) = insertAll st.vals ps ++ trailer y total i := by
    rw [insertAll_append, insertAll_fresh _ _ ?_ (trailer_distinct y total i)]
    intro p hp
    rcases trailer_keys y total i p hp with hk | hk <;> rw [hk] <;> assumption
  obtain ⟨e1, e2, e3⟩ := trailer_effect y total i (insertAll st.vals ps) hbf hbq
  unfold processPacket
  rw [encPart_eq, readCStr_run_whole _ h0 hv]
  simp only
  have hnonempty : ((ps ++ trailer y total i).map encPair).flatten.isEmpty = false := by
    rw [flatten_encPair _ hne]; rfl
  rw [hnonempty]
  simp only [Bool.false_eq_true, ↓reduceIte]
  rw [textPairs_enc _ hne hokall, hins, e2, parseQueryId_enc _ _ _ hN hi]
  simp only [e1, e3]

/-- a part with its number -/
abbrev NPart := Nat × List (Bytes × Bytes)

structure PartsOk (y : Style) (P : List NPart) : Prop where
  ok : ∀ a ∈ P, OkPairs a.2
  distinct : ∀ a ∈ P, Distinct a.2
  nofinal : ∀ a ∈ P, ∀ p ∈ a.2, p.1 ≠ kFinal ∧ p.1 ≠ kQueryId
  cross : ∀ a ∈ P, ∀ b ∈ P, ∀ p ∈ a.2, ∀ q ∈ b.2, p.1 = q.1 → a.1 = b.1
  nums : P.map (·.1) = List.range' 1 P.length
  small : P.length < 2 ^ 64
  qid : y.queryId < 2 ^ 64

/-- the loop state after the parts `seen` (in arrival order) have been processed -/
structure Inv (y : Style) (P seen : List NPart) (st : LoopSt) : Prop where
  sub : ∀ a ∈ seen, a ∈ P
  nodup : (seen.map (·.1)).Nodup
  vals : st.vals = seen.flatMap (·.2)
  parts : st.parts = seen.map (·.1)
  qid : st.qid = none ∨ st.qid = some y.queryId
  fin : st.finalPart = if P.length ∈ seen.map (·.1) then some P.length else none

theorem Inv.init (y : Style) (P : List NPart) : Inv y P [] LoopSt.init :=
  ⟨by simp, by simp, rfl, rfl, Or.inl rfl, by simp [LoopSt.init]⟩

theorem PartsOk.num_range {y : Style} {P : List NPart} (hP : PartsOk y P) {a : NPart} (ha : a ∈ P) :
    1 ≤ a.1 ∧ a.1 ≤ P.length := by
  have : a.1 ∈ P.map (·.1) := List.mem_map.mpr ⟨a, ha, rfl⟩
  rw [hP.nums, List.mem_range'_1] at this
  omega

theorem Inv.not_hasKey_of_new {y : Style} {P seen : List NPart} {st : LoopSt} (hP : PartsOk y P)
    (hinv : Inv y P seen st) {a : NPart} (ha : a ∈ P) (hnew : a.1 ∉ seen.map (·.1)) :
    ∀ p ∈ a.2, ¬ HasKey st.vals p.1 := by
  intro p hp hk
  rw [hinv.vals] at hk
  obtain ⟨q, hq, hqk⟩ := hk
  obtain ⟨b, hb, hqb⟩ := List.mem_flatMap.mp hq
  have := hP.cross b (hinv.sub b hb) a ha q hqb p hp hqk
  exact hnew (List.mem_map.mpr ⟨b, hb, this⟩)

theorem Inv.no_special {y : Style} {P seen : List NPart} {st : LoopSt} (hP : PartsOk y P)
    (hinv : Inv y P seen st) : ¬ HasKey st.vals kFinal ∧ ¬ HasKey st.vals kQueryId := by
  rw [hinv.vals]
  constructor
  · rintro ⟨q, hq, hqk⟩
    obtain ⟨b, hb, hqb⟩ := List.mem_flatMap.mp hq
    exact (hP.nofinal b (hinv.sub b hb) q hqb).1 hqk
  · rintro ⟨q, hq, hqk⟩
    obtain ⟨b, hb, hqb⟩ := List.mem_flatMap.mp hq
    exact (hP.nofinal b (hinv.sub b hb) q hqb).2 hqk

def encN (y : Style) (total : Nat) (a : NPart) : Bytes := encPart y total a.1 a.2

theorem processPacket_eq {y : Style} {P seen : List NPart} {st : LoopSt} (hP : PartsOk y P)
    (hinv : Inv y P seen st) {a : NPart} (ha : a ∈ P) :
    processPacket st (encN y P.length a) =
      if st.parts.contains a.1 then .err .packetBad
      else .ok ⟨insertAll st.vals a.2, st.parts ++ [a.1], some y.queryId,
                if a.1 == P.length then some a.1 else st.finalPart⟩ := by
  have hns := hinv.no_special hP
  have hr := hP.num_range ha
  have hsm := hP.small
  unfold encN
  rw [processPacket_part y P.length a.1 st a.2 (hP.ok a ha) (hP.nofinal a ha) hns.1 hns.2 hP.qid (by omega)]
  have hq : (st.qid.isSome && st.qid != some y.queryId) = false := by
    rcases hinv.qid with h | h <;> simp [h]
  simp only [hq, Bool.false_eq_true, ↓reduceIte]

theorem step_new {y : Style} {P seen : List NPart} {st : LoopSt} (hP : PartsOk y P) (hinv : Inv y P seen st)
    {a : NPart} (ha : a ∈ P) (hnew : a.1 ∉ seen.map (·.1)) :
    ∃ st', processPacket st (encN y P.length a) = .ok st' ∧ Inv y P (seen ++ [a]) st' := by
  have hc : st.parts.contains a.1 = false := by
    rw [hinv.parts]
    simpa using hnew
  refine ⟨_, by rw [processPacket_eq hP hinv ha, hc]; rfl, ?_⟩
  refine ⟨?_, ?_, ?_, ?_, Or.inr rfl, ?_⟩
  · intro b hb
    rcases List.mem_append.mp hb with h | h
    · exact hinv.sub b h
    · simp only [List.mem_singleton] at h; exact h ▸ ha
  · rw [List.map_append, List.nodup_append]
    refine ⟨hinv.nodup, by simp, ?_⟩
    intro x hx z hz
    simp only [List.map_cons, List.map_nil, List.mem_singleton] at hz
    subst hz
    intro hxz
    exact hnew (hxz ▸ hx)
  · show insertAll st.vals a.2 = _
    rw [insertAll_fresh _ _ (hinv.not_hasKey_of_new hP ha hnew) (hP.distinct a ha), hinv.vals]
    simp
  · simp [hinv.parts]
  · simp only [hinv.fin, List.map_append, List.map_cons, List.map_nil, List.mem_append, List.mem_singleton]
    by_cases he : a.1 = P.length
    · simp [he]
    · have he' : (a.1 == P.length) = false := by simpa using he
      have : ¬ P.length = a.1 := fun h => he h.symm
      simp only [he', this, or_false, Bool.false_eq_true, ↓reduceIte]

theorem step_dup {y : Style} {P seen : List NPart} {st : LoopSt} (hP : PartsOk y P) (hinv : Inv y P seen st)
    {a : NPart} (ha : a ∈ P) (hdup : a.1 ∈ seen.map (·.1)) :
    processPacket st (encN y P.length a) = .err .packetBad := by
  have hc : st.parts.contains a.1 = true := by
    rw [hinv.parts]
    simpa using hdup
  rw [processPacket_eq hP hinv ha, hc]
  rfl

theorem nodup_of_map_nodup {α β : Type} (f : α → β) {l : List α} (h : (l.map f).Nodup) : l.Nodup :=
  List.Pairwise.of_map f (fun _ _ hab e => hab (congrArg f e)) h

theorem PartsOk.nodup {y : Style} {P : List NPart} (hP : PartsOk y P) : P.Nodup := by
  have : (P.map (·.1)).Nodup := by rw [hP.nums]; exact List.nodup_range'
  exact nodup_of_map_nodup _ this

theorem Inv.perm_of_length {y : Style} {P seen : List NPart} {st : LoopSt} (hP : PartsOk y P)
    (hinv : Inv y P seen st) (hlen : P.length ≤ seen.length) : seen.Perm P := by
  have hsn : seen.Nodup := nodup_of_map_nodup _ hinv.nodup
  rw [List.perm_ext_iff_of_nodup hsn hP.nodup]
  intro a
  refine ⟨hinv.sub a, fun ha => ?_⟩
  apply Classical.byContradiction
  intro hna
  have hnd : (a :: seen).Nodup := List.nodup_cons.mpr ⟨hna, hsn⟩
  have hsub : (a :: seen) ⊆ P := by
    intro x hx
    rcases List.mem_cons.mp hx with rfl | hx'
    · exact ha
    · exact hinv.sub x hx'
  have := hnd.length_le_of_subset hsub
  simp only [List.length_cons] at this
  omega

theorem Inv.length_le {y : Style} {P seen : List NPart} {st : LoopSt} (hP : PartsOk y P)
    (hinv : Inv y P seen st) : seen.length ≤ P.length :=
  (nodup_of_map_nodup _ hinv.nodup).length_le_of_subset (fun a ha => hinv.sub a ha)

theorem Inv.done_iff {y : Style} {P seen : List NPart} {st : LoopSt} (hP : PartsOk y P)
    (hinv : Inv y P seen st) (hne : P ≠ []) : st.done = true ↔ seen.Perm P := by
  have hle := hinv.length_le hP
  have hpos : 0 < P.length := List.length_pos_iff.mpr hne
  unfold LoopSt.done
  rw [hinv.fin, hinv.parts, List.length_map]
  constructor
  · intro h
    split at h
    · cases h
    · rename_i last heq
      split at heq
      · cases heq
        simp only [Bool.not_eq_eq_eq_not, Bool.not_true, decide_eq_false_iff_not, Nat.not_lt] at h
        exact hinv.perm_of_length hP h
      · cases heq
  · intro hp
    have hmem : P.length ∈ seen.map (·.1) := by
      have : P.length ∈ P.map (·.1) := by rw [hP.nums, List.mem_range'_1]; omega
      exact (hp.map _).mem_iff.mpr this
    simp only [hmem, ↓reduceIte, hp.length_eq]
    simp

theorem Inv.not_done {y : Style} {P seen : List NPart} {st : LoopSt} (hP : PartsOk y P) (hne : P ≠ [])
    (hinv : Inv y P seen st) (hlt : seen.length < P.length) : st.done = false := by
  cases hd : st.done with
  | false => rfl
  | true =>
    have := ((hinv.done_iff hP hne).mp hd).length_eq
    omega

def allOf (P : List NPart) : List (Bytes × Bytes) := P.flatMap (·.2)

theorem PartsOk.distinct_all {y : Style} {P : List NPart} (hP : PartsOk y P) : Distinct (allOf P) := by
  unfold allOf Distinct
  rw [List.pairwise_flatMap]
  refine ⟨fun a ha => hP.distinct a ha, ?_⟩
  have hn : P.Pairwise (fun a b => a.1 ≠ b.1) := by
    have : (P.map (·.1)).Nodup := by rw [hP.nums]; exact List.nodup_range'
    exact List.pairwise_map.mp this
  refine List.Pairwise.imp_of_mem ?_ hn
  intro a b ha hb hab p hp q hq hpq
  exact hab (hP.cross a ha b hb p hp q hq hpq)

/-- the `while` loop fed from a list of datagrams; the list running out is a receive timeout -/
def loopOn : LoopSt → List Bytes → Res (Map Bytes)
  | st, [] => if st.done then .ok (canon st.vals) else .err .packetReceive
  | st, d :: r =>
    if st.done then .ok (canon st.vals)
    else match processPacket st d with
      | .ok st' => loopOn st' r
      | .err k => .err k
      | .crash => .crash

/-- Any sequence of datagrams drawn from the parts of the reply (any order, repetitions,
omissions) gives all the variables or an error. -/
theorem loopOn_drawn {y : Style} {P : List NPart} (hP : PartsOk y P) (hne : P ≠ []) :
    ∀ (rest seen : List NPart) (st : LoopSt), Inv y P seen st → (∀ a ∈ rest, a ∈ P) →
      loopOn st (rest.map (encN y P.length)) = .ok (canon (allOf P))
      ∨ ∃ k, loopOn st (rest.map (encN y P.length)) = .err k := by
  intro rest
  induction rest with
  | nil =>
    intro seen st hinv _
    simp only [List.map_nil, loopOn]
    cases hd : st.done with
    | false => exact Or.inr ⟨.packetReceive, by simp⟩
    | true =>
      have hp := (hinv.done_iff hP hne).mp hd
      left
      simp only [↓reduceIte]
      rw [hinv.vals]
      exact congrArg _ (canon_perm hP.distinct_all (hp.flatMap_right _))
  | cons a r ih =>
    intro seen st hinv hall
    have haP : a ∈ P := hall a (by simp)
    simp only [List.map_cons, loopOn]
    cases hd : st.done with
    | true =>
      have hp := (hinv.done_iff hP hne).mp hd
      left
      simp only [↓reduceIte]
      rw [hinv.vals]
      exact congrArg _ (canon_perm hP.distinct_all (hp.flatMap_right _))
    | false =>
      simp only [Bool.false_eq_true, ↓reduceIte]
      by_cases hseen : a.1 ∈ seen.map (·.1)
      · rw [step_dup hP hinv haP hseen]
        exact Or.inr ⟨_, rfl⟩
      · obtain ⟨st', hst, hinv'⟩ := step_new hP hinv haP hseen
        rw [hst]
        exact ih (seen ++ [a]) st' hinv' (fun b hb => hall b (by simp [hb]))

theorem take_of_length_le {d : Bytes} {n : Nat} (h : d.length ≤ n) : d.take n = d := List.take_of_length_le h

theorem recv_udp_data (s : Sock) (hudp : s.tcp = false) (w : Net) (d : Bytes) (rest : List Delivery) (n : Nat)
    (hq : w.conns.getD s.id [] = .data d :: rest) :
    ∃ w1, recv s (some n) w = (.ok (d.take n), w1) ∧ w1.conns = setAt w.conns s.id rest ∧ w1.faults = w.faults := by
  unfold recv
  rw [hq]
  simp only [hudp, Bool.false_eq_true, ↓reduceIte, Option.getD_some]
  exact ⟨_, rfl, rfl, rfl⟩

theorem recv_udp_empty (s : Sock) (hudp : s.tcp = false) (w : Net) (n : Nat) (hq : w.conns.getD s.id [] = []) :
    ∃ w1, recv s (some n) w = (.err .packetReceive, w1) ∧ w1.conns = w.conns ∧ w1.faults = w.faults := by
  unfold recv
  rw [hq]
  simp only [hudp, Bool.false_eq_true, ↓reduceIte]
  exact ⟨_, rfl, rfl, rfl⟩

theorem recvLoop_eq_loopOn (s : Sock) (hudp : s.tcp = false) :
    ∀ (ds : List Bytes) (fuel : Nat) (st : LoopSt) (w : Net), s.id < w.conns.length →
      w.conns.getD s.id [] = ds.map Delivery.data → (∀ d ∈ ds, d.length ≤ PACKET_SIZE) → ds.length < fuel →
      (recvLoop s fuel st w).1 = loopOn st ds := by
  intro ds
  induction ds with
  | nil =>
    intro fuel st w hopen hq _ hf
    cases fuel with
    | zero => omega
    | succ f =>
      unfold recvLoop
      cases hd : st.done with
      | true => simp [loopOn, hd]
      | false =>
        simp only [Bool.false_eq_true, ↓reduceIte, loopOn, hd]
        rw [Q.bind_apply]
        obtain ⟨w1, hr, _⟩ := recv_udp_empty s hudp w PACKET_SIZE (by simpa using hq)
        rw [hr]
  | cons d r ih =>
    intro fuel st w hopen hq hlen hf
    cases fuel with
    | zero => omega
    | succ f =>
      unfold recvLoop
      cases hd : st.done with
      | true => simp [loopOn, hd]
      | false =>
        simp only [Bool.false_eq_true, ↓reduceIte, loopOn, hd]
        rw [Q.bind_apply]
        have hdl : d.take PACKET_SIZE = d := take_of_length_le (hlen d (by simp))
        obtain ⟨w1, hr, hc, _⟩ := recv_udp_data s hudp w d (r.map Delivery.data) PACKET_SIZE (by simpa using hq)
        rw [hr, hdl]
        simp only
        rw [Q.bind_apply]
        cases hp : processPacket st d with
        | crash => simp [Q.lift]
        | err k => simp [Q.lift]
        | ok st' =>
          simp only [Q.lift]
          apply ih
          · rw [hc]; simpa [setAt_length] using hopen
          · rw [hc, getD_setAt]; simp [hopen]
          · intro x hx; exact hlen x (by simp [hx])
          · simpa using hf

theorem retryOnTimeout_of_err {α : Type} (r : Nat) (f : Q α) (w : Net) (k : ErrKind) (h : (f w).1 = .err k)
    (hk : k.isTimeout = false) : (retryOnTimeout r f w).1 = .err k :=
  congrArg Prod.fst (retryOnTimeout_err (Prod.ext h rfl : f w = (.err k, (f w).2)) hk r)

def scriptOf (ds : List Bytes) : List ConnScript := [.opened (ds.map Delivery.data)]

theorem getServerValuesImpl_apply (s : Sock) (w : Net) :
    getServerValuesImpl s w
      = Q.bind' (send s statusRequest) (fun _ w' => recvLoop s (queued s w' + 1) LoopSt.init w') w := rfl

end Gd.Gs1
