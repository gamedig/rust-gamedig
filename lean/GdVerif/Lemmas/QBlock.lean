import GdVerif.Net
import GdVerif.Lemmas.QCost
/-
  Counting logic for *blocking steps that ran into their timeout*: receives that timed out, sends
  that failed and socket creations that were refused.  `Block ko ke q`: `q` appends at most `ko` such events when it succeeds and at
  most `ke` when it fails.  Every other blocking step returned because the peer acted, so the wall
  time of a query is bounded by (number of such events) × timeout + the time the peer took.
-/
namespace Gd

def isBlocked : Ev → Bool
  | .recv _ _ none => true
  | .send _ _ _ true => true
  | .opened _ _ _ true => true
  | _ => false

def nBlocked (l : List Ev) : Nat := l.countP isBlocked

theorem nBlocked_append (a b : List Ev) : nBlocked (a ++ b) = nBlocked a + nBlocked b := by simp [nBlocked]

/-- `Bounded` for the measure `nBlocked` (`Block.iff_bounded`); written out, because this is the form in which the
property theorems (C12) state the bound. -/
def Block (ko ke : Nat) (q : Q α) : Prop :=
  ∀ w, ∃ added, (q w).2.log = w.log ++ added ∧
    (match (q w).1 with
     | .ok _ => nBlocked added ≤ ko
     | _ => nBlocked added ≤ ke)

theorem Block.iff_bounded {q : Q α} {ko ke : Nat} : Block ko ke q ↔ Bounded (fun l => (nBlocked l : Int)) ko ke q := by
  refine forall_congr' fun w => exists_congr fun added => and_congr_right fun _ => ?_
  cases (q w).1 <;> exact Int.ofNat_le.symm

theorem nBlocked_cast_append (a b : List Ev) : (nBlocked (a ++ b) : Int) = nBlocked a + nBlocked b := by
  rw [nBlocked_append, Int.natCast_add]

theorem Block.weaken {q : Q α} {ko ke ko' ke' : Nat} (h : Block ko ke q) (h1 : ko ≤ ko') (h2 : ke ≤ ke') :
    Block ko' ke' q :=
  Block.iff_bounded.2 ((Block.iff_bounded.1 h).weaken (Int.ofNat_le.2 h1) (Int.ofNat_le.2 h2))

theorem Block.free {q : Q α} (h : Block 0 0 q) (ke : Nat) : Block 0 ke q :=
  h.weaken (Nat.le_refl 0) (Nat.zero_le ke)

theorem Block.same_iff {q : Q α} {k : Nat} :
    Block k k q ↔ ∀ w, ∃ added, (q w).2.log = w.log ++ added ∧ nBlocked added ≤ k := by
  refine forall_congr' fun w => exists_congr fun added => and_congr_right fun _ => ?_
  cases (q w).1 <;> exact Iff.rfl

theorem Block.pure (a : α) : Block 0 0 (pure a : Q α) := fun w => ⟨[], by simp, by simp [nBlocked]⟩
theorem Block.fail (k : ErrKind) : Block 0 0 (Q.fail k : Q α) :=
  fun w => ⟨[], by simp [Q.fail], by simp [Q.fail, nBlocked]⟩
theorem Block.lift (r : Res α) : Block 0 0 (Q.lift r) :=
  fun w => ⟨[], by simp [Q.lift], by cases r <;> simp [Q.lift, nBlocked]⟩
theorem Block.parse (p : Par α) (data : Bytes) : Block 0 0 (parse p data) := Block.lift _

theorem Block.bind {q : Q α} {f : α → Q β} {ko1 ke1 ko2 ke2 : Nat}
    (hq : Block ko1 ke1 q) (hf : ∀ a, Block ko2 ke2 (f a)) :
    Block (ko1 + ko2) (max ke1 (ko1 + ke2)) (q >>= f) :=
  Block.iff_bounded.2
    (((Block.iff_bounded.1 hq).bind nBlocked_cast_append fun a => Block.iff_bounded.1 (hf a)).weaken
      (by omega) (by omega))

/-! `Block.bind` for the shapes of bound that occur, with the `max` resolved. -/

theorem Block.bind_free {q : Q α} {f : α → Q β} {ko ke : Nat} (hq : Block ko ke q) (hf : ∀ a, Block 0 0 (f a))
    (h : ko ≤ ke) : Block ko ke (q >>= f) :=
  (Block.bind hq hf).weaken (Nat.le_refl _) (Nat.max_le.2 ⟨Nat.le_refl _, h⟩)

theorem Block.free_bind {q : Q α} {f : α → Q β} {ko ke : Nat} (hq : Block 0 0 q) (hf : ∀ a, Block ko ke (f a)) :
    Block ko ke (q >>= f) :=
  (Block.bind hq hf).weaken (by omega) (by omega)

/-- steps that block only when they fail, in sequence: the first failure ends the sequence -/
theorem Block.bind_same {q : Q α} {f : α → Q β} {ke : Nat} (hq : Block 0 ke q) (hf : ∀ a, Block 0 ke (f a)) :
    Block 0 ke (q >>= f) :=
  (Block.bind hq hf).weaken (by omega) (by omega)

theorem Block.bind_add {q : Q α} {f : α → Q β} {k1 k2 : Nat} (hq : Block k1 k1 q) (hf : ∀ a, Block k2 k2 (f a)) :
    Block (k1 + k2) (k1 + k2) (q >>= f) :=
  (Block.bind hq hf).weaken (Nat.le_refl _) (by omega)

theorem Block.send (s : Sock) (data : Bytes) : Block 0 1 (send s data) := by
  intro w
  unfold Gd.send
  split <;> exact ⟨_, rfl, by simp [nBlocked, isBlocked]⟩

theorem Block.recv (s : Sock) (size : Option Nat) : Block 0 1 (recv s size) := by
  intro w
  unfold Gd.recv
  split
  · exact ⟨_, rfl, by simp [nBlocked, isBlocked]⟩
  · exact ⟨_, rfl, by simp [nBlocked, isBlocked]⟩
  · split <;> exact ⟨_, rfl, by simp [nBlocked, isBlocked]⟩

theorem Block.ite {c : Prop} [Decidable c] {p q : Q α} {ko ke : Nat} (hp : Block ko ke p) (hq : Block ko ke q) :
    Block ko ke (if c then p else q) := by
  split <;> assumption

theorem Block.exchange1 {α : Type} (s : Sock) (req : Bytes) (size : Nat) (check : Bytes → Res α) :
    Block 0 1 (exchange1 s req size check) :=
  Block.bind_same (Block.send s req) fun _ => Block.bind_same (Block.recv s _) fun d => (Block.lift (check d)).free 1

/-- a unit that blocks at most `ko` times when it succeeds and `ke` times when it fails: retried,
every failed attempt before the last contributes `ke`. -/
theorem Block.retryGen {q : Q α} {ko ke : Nat} (hq : Block ko ke q) (r : Nat) :
    Block (r * ke + ko) ((r + 1) * ke) (retryOnTimeout r q) :=
  Block.iff_bounded.2
    (((Block.iff_bounded.1 hq).retry nBlocked_cast_append (Int.natCast_nonneg ke) r).weaken
      (by push_cast; exact Int.le_refl _) (by push_cast; exact Int.le_refl _))

theorem Block.retrySharp {q : Q α} (hq : Block 0 1 q) (r : Nat) : Block r (r + 1) (retryOnTimeout r q) :=
  (Block.retryGen hq r).weaken (by omega) (by omega)

theorem Block.maybeGather {q : Q α} {k : Nat} (hq : Block k k q) (t : Toggle) : Block k k (Gd.maybeGather t q) :=
  Block.iff_bounded.2 ((Block.iff_bounded.1 hq).maybeGather nBlocked_cast_append (Int.natCast_nonneg k) t)

end Gd
