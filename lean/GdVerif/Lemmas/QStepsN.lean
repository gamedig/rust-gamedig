import GdVerif.Lemmas.QSteps
import GdVerif.Spec.FaultsN
/-
  `Steps` rules for units made of several requests and one read (`exchangeN`), on a UDP or a TCP socket, under a plan
  `PlanN`; the whole query `queryN` and the three cases C10 names; counting attempts on the wire.  `exchangeN s [req]
  (some size)` does what `exchange1 s req size` of `QLogic.lean` does: a family of one request and one UDP datagram may take
  either route (Quake, GameSpy 2 use `exchange1`; Minecraft Bedrock and legacy, with one request too, use this one
  for the read of the socket's own size / the TCP stream).
-/
namespace Gd
open Gd.Faults

def sendAll (s : Sock) : List Bytes → Q Unit
  | [] => pure ()
  | d :: r => send s d >>= fun _ => sendAll s r

def exchangeN {α : Type} (s : Sock) (reqs : List Bytes) (size : Option Nat) (check : Bytes → Res α) : Q α :=
  sendAll s reqs >>= fun _ => recv s size >>= fun d => Q.lift (check d)

/-- how the read returns what arrives: whole on TCP, whole within the buffer on UDP -/
def fitsRead (tcp : Bool) (size : Option Nat) (d : Bytes) : Bool := tcp || decide (d.length ≤ size.getD 1024)

theorem fitsRead_spec (tcp : Bool) (size : Option Nat) (d : Bytes) (h : fitsRead tcp size d = true) :
    tcp = true ∨ d.length ≤ size.getD 1024 := by
  simpa [fitsRead] using h

def queryN {α : Type} (tcp : Bool) (port retries : Nat) (reqs : List Bytes) (size : Option Nat)
    (check : Bytes → Res α) : Q α :=
  openSock tcp port >>= fun s => retryOnTimeout retries (exchangeN s reqs size check)

theorem steps_sendAll_ok (s : Sock) (q : List Delivery) (fs : List Bool) :
    ∀ (reqs : List Bytes) (sn : List (Bytes × Bool)),
      Steps s (sendAll s reqs) (.ok ()) ⟨q, List.replicate reqs.length false ++ fs, sn⟩
        ⟨q, fs, sn ++ reqs.map (·, false)⟩ := by
  intro reqs
  induction reqs with
  | nil => intro sn; simpa [sendAll] using Steps.pure s () ⟨q, fs, sn⟩
  | cons d r ih =>
    intro sn
    have h1 := steps_send_ok s d q (List.replicate r.length false ++ fs) sn
    have h2 := ih (sn ++ [(d, false)])
    have := Steps.bind (g := fun _ => sendAll s r) h1 h2
    simpa [sendAll, List.replicate_succ, List.append_assoc] using this

theorem steps_sendAll_fault (s : Sock) (q : List Delivery) (fs : List Bool) :
    ∀ (reqs : List Bytes) (j : Nat) (sn : List (Bytes × Bool)), j < reqs.length →
      Steps s (sendAll s reqs) (.err .packetSend) ⟨q, List.replicate j false ++ true :: fs, sn⟩
        ⟨q, fs, sn ++ flagLast (reqs.take (j + 1)) true⟩ := by
  intro reqs
  induction reqs with
  | nil => intro j sn h; simp at h
  | cons d r ih =>
    intro j sn hj
    cases j with
    | zero =>
      have := Steps.bind_err (g := fun _ => sendAll s r) (steps_send_fault s d q fs sn)
      simpa [sendAll, flagLast] using this
    | succ j =>
      have h1 := steps_send_ok s d q (List.replicate j false ++ true :: fs) sn
      have h2 := ih j (sn ++ [(d, false)]) (by simpa using hj)
      have := Steps.bind (g := fun _ => sendAll s r) h1 h2
      have hfl : flagLast (d :: r.take (j + 1)) true = (d, false) :: flagLast (r.take (j + 1)) true := by
        cases r with
        | nil => simp at hj
        | cons d' r' => simp [flagLast]
      simpa [sendAll, List.replicate_succ, List.append_assoc, hfl] using this

theorem AttemptN.error_timeout (a : AttemptN) : a.error.isTimeout = true := attemptError_timeout _

theorem steps_exchangeN_fail {α : Type} (s : Sock) (reqs : List Bytes) (size : Option Nat) (check : Bytes → Res α)
    (a : AttemptN) (ha : a.wf reqs.length = true) (q : List Delivery) (fs : List Bool) (sn : List (Bytes × Bool)) :
    Steps s (exchangeN s reqs size check) (.err a.error) ⟨a.deliveries ++ q, a.faults ++ fs, sn⟩
      ⟨q, fs, sn ++ a.sends reqs⟩ := by
  obtain ⟨j, f⟩ := a
  unfold exchangeN
  cases f with
  | true =>
    have hj : j < reqs.length := by simpa [AttemptN.wf] using ha
    have := Steps.bind_err (g := fun _ => recv s size >>= fun d => Q.lift (check d))
      (steps_sendAll_fault s q fs reqs j sn hj)
    simpa [AttemptN.deliveries, AttemptN.faults, AttemptN.sends, AttemptN.error, attemptError, List.append_assoc] using this
  | false =>
    have hj : j = reqs.length := by simpa [AttemptN.wf] using ha
    subst hj
    have h1 := steps_sendAll_ok s (.silence :: q) fs reqs sn
    have h2 := Steps.bind_err (g := fun d => Q.lift (check d)) (steps_recv_silence s size q fs (sn ++ reqs.map (·, false)))
    have := Steps.bind (g := fun _ => recv s size >>= fun d => Q.lift (check d)) h1 h2
    simpa [AttemptN.deliveries, AttemptN.faults, AttemptN.sends, AttemptN.error, attemptError, flagLast_false] using this

theorem steps_exchangeN_answer {α : Type} (s : Sock) (reqs : List Bytes) (size : Option Nat) (check : Bytes → Res α)
    (d : Bytes) (hd : s.tcp = true ∨ d.length ≤ size.getD 1024) (q : List Delivery) (fs : List Bool)
    (sn : List (Bytes × Bool)) :
    Steps s (exchangeN s reqs size check) (check d) ⟨[.data d] ++ q, List.replicate reqs.length false ++ fs, sn⟩
      ⟨q, fs, sn ++ reqs.map (·, false)⟩ := by
  unfold exchangeN
  exact Steps.bind (steps_sendAll_ok s _ fs reqs sn)
    (Steps.bind (steps_recv_whole s size d hd q fs _) (Steps.lift s _ _))

theorem steps_exchangeN_closed {α : Type} (s : Sock) (htcp : s.tcp = true) (reqs : List Bytes) (size : Option Nat)
    (check : Bytes → Res α) (fs : List Bool) (sn : List (Bytes × Bool)) :
    Steps s (exchangeN s reqs size check) (check []) ⟨[], List.replicate reqs.length false ++ fs, sn⟩
      ⟨[], fs, sn ++ reqs.map (·, false)⟩ := by
  unfold exchangeN
  exact Steps.bind (steps_sendAll_ok s _ fs reqs sn)
    (Steps.bind (steps_recv_closed s htcp size fs _) (Steps.lift s _ _))

/-- the unit under `retry_on_timeout` on the script of a plan in C10's domain -/
theorem steps_exchangeN_plan {α : Type} (s : Sock) (reqs : List Bytes) (size : Option Nat) (check : Bytes → Res α)
    (retries : Nat) (p : PlanN) (fits : Bytes → Bool)
    (hfits : ∀ d, fits d = true → s.tcp = true ∨ d.length ≤ size.getD 1024)
    (hp : p.wf retries reqs.length fits = true)
    (hcheck : ∀ d k, p.answer = some d → check d = .err k → k.isTimeout = false)
    (q : List Delivery) (fs : List Bool) (sn : List (Bytes × Bool)) :
    Steps s (retryOnTimeout retries (exchangeN s reqs size check)) (p.outcome check)
      ⟨p.deliveries ++ q, p.faults reqs.length ++ fs, sn⟩ ⟨q, fs, sn ++ p.sends reqs⟩ := by
  obtain ⟨fails, answer⟩ := p
  simp only [PlanN.wf, Bool.and_eq_true, List.all_eq_true] at hp
  obtain ⟨hfails, hend⟩ := hp
  have hstep : ∀ a : AttemptN, a.wf reqs.length = true → ∀ q fs sn,
      Steps s (exchangeN s reqs size check) (.err a.error) ⟨a.deliveries ++ q, a.faults ++ fs, sn⟩
        ⟨q, fs, sn ++ a.sends reqs⟩ := fun a ha q fs sn => steps_exchangeN_fail s reqs size check a ha q fs sn
  cases answer with
  | some d =>
    simp only [Bool.and_eq_true, decide_eq_true_eq] at hend
    have h := Steps.retry_recovers_of (f := exchangeN s reqs size check) (fun a => a.wf reqs.length = true)
      AttemptN.deliveries AttemptN.faults (AttemptN.sends reqs) AttemptN.error AttemptN.error_timeout hstep
      (R := check d) (fun k hk => hcheck d k rfl hk) ([.data d] ++ q) q (List.replicate reqs.length false ++ fs) fs
      (reqs.map (·, false)) (fun sn => steps_exchangeN_answer s reqs size check d (hfits d hend.2) q fs sn)
      fails retries sn hfails hend.1
    simpa [PlanN.deliveries, PlanN.faults, PlanN.sends, PlanN.outcome, List.append_assoc] using h
  | none =>
    simp only [beq_iff_eq] at hend
    have h := Steps.retry_exhausted_of (f := exchangeN s reqs size check) (fun a => a.wf reqs.length = true)
      AttemptN.deliveries AttemptN.faults (AttemptN.sends reqs) AttemptN.error AttemptN.error_timeout hstep q fs
      retries fails sn hfails hend
    simpa [PlanN.deliveries, PlanN.faults, PlanN.sends, PlanN.outcome] using h

theorem queryN_faulty {α : Type} (tcp : Bool) (port retries : Nat) (reqs : List Bytes) (size : Option Nat)
    (check : Bytes → Res α) (p : PlanN) (hp : p.wf retries reqs.length (fitsRead tcp size) = true)
    (hcheck : ∀ d e, p.answer = some d → check d = .err e → e.isTimeout = false)
    (restQ : List Delivery) (restF : List Bool) :
    (queryN tcp port retries reqs size check
      (Net.init [.opened (p.deliveries ++ restQ)] (p.faults reqs.length ++ restF))).1 = p.outcome check
    ∧ sentOf (queryN tcp port retries reqs size check
      (Net.init [.opened (p.deliveries ++ restQ)] (p.faults reqs.length ++ restF))).2.log = p.sends reqs := by
  have h := open_outcome tcp port (fun s => retryOnTimeout retries (exchangeN s reqs size check)) _ _ _ _
    (steps_exchangeN_plan ⟨0, port, tcp⟩ reqs size check retries p _ (fitsRead_spec tcp size) hp hcheck restQ restF [])
  simpa only [queryN, List.nil_append] using h

theorem PlanN.sends_nil (reqs : List Bytes) (fails : List AttemptN) :
    (PlanN.mk fails none).sends reqs = fails.flatMap (AttemptN.sends reqs) := by simp [PlanN.sends]

theorem lastErrorN_class (fails : List AttemptN) :
    lastError AttemptN.error fails = .packetReceive ∨ lastError AttemptN.error fails = .packetSend :=
  lastError_recv_or_send _ (fun a => attemptError_class a.sendFault) fails

/-! ### the three cases C10 names, for any unit of this shape -/

theorem queryN_answered {α : Type} (tcp : Bool) (port retries : Nat) (reqs : List Bytes) (size : Option Nat)
    (check : Bytes → Res α) (d : Bytes) (hnt : ∀ e, check d = .err e → e.isTimeout = false)
    (hfit : fitsRead tcp size d = true) (fails : List AttemptN) (hfails : ∀ a ∈ fails, a.wf reqs.length = true)
    (hk : fails.length ≤ retries) (restQ : List Delivery) (restF : List Bool) :
    let p : PlanN := ⟨fails, some d⟩
    let out := queryN tcp port retries reqs size check
      (Net.init [.opened (p.deliveries ++ restQ)] (p.faults reqs.length ++ restF))
    out.1 = check d ∧ sentOf out.2.log = fails.flatMap (AttemptN.sends reqs) ++ reqs.map (·, false) := by
  intro p out
  have hp : p.wf retries reqs.length (fitsRead tcp size) = true := by
    simp only [PlanN.wf, p, Bool.and_eq_true, List.all_eq_true, decide_eq_true_eq]
    exact ⟨hfails, hk, hfit⟩
  exact queryN_faulty tcp port retries reqs size check p hp (fun d' e hd he => by cases hd; exact hnt e he) restQ restF

/-- (a) RECOVERY: at most `retries` failed attempts, then `d`, which the check accepts with `v` -/
theorem queryN_recovers {α : Type} (tcp : Bool) (port retries : Nat) (reqs : List Bytes) (size : Option Nat)
    (check : Bytes → Res α) (d : Bytes) (v : α) (hv : check d = .ok v) (hfit : fitsRead tcp size d = true)
    (fails : List AttemptN) (hfails : ∀ a ∈ fails, a.wf reqs.length = true) (hk : fails.length ≤ retries)
    (restQ : List Delivery) (restF : List Bool) :
    let p : PlanN := ⟨fails, some d⟩
    let out := queryN tcp port retries reqs size check
      (Net.init [.opened (p.deliveries ++ restQ)] (p.faults reqs.length ++ restF))
    out.1 = .ok v ∧ sentOf out.2.log = fails.flatMap (AttemptN.sends reqs) ++ reqs.map (·, false) := by
  obtain ⟨h1, h2⟩ := queryN_answered tcp port retries reqs size check d (fun e he => by rw [hv] at he; cases he) hfit
    fails hfails hk restQ restF
  exact ⟨h1.trans hv, h2⟩

/-- (b) EXHAUSTION: `retries + 1` failed attempts -/
theorem queryN_exhausted {α : Type} (tcp : Bool) (port retries : Nat) (reqs : List Bytes) (size : Option Nat)
    (check : Bytes → Res α) (fails : List AttemptN) (hfails : ∀ a ∈ fails, a.wf reqs.length = true)
    (hk : fails.length = retries + 1) (restQ : List Delivery) (restF : List Bool) :
    let p : PlanN := ⟨fails, none⟩
    let out := queryN tcp port retries reqs size check
      (Net.init [.opened (p.deliveries ++ restQ)] (p.faults reqs.length ++ restF))
    out.1 = .err (lastError AttemptN.error fails)
    ∧ (out.1 = .err .packetReceive ∨ out.1 = .err .packetSend)
    ∧ sentOf out.2.log = fails.flatMap (AttemptN.sends reqs) := by
  intro p out
  have hp : p.wf retries reqs.length (fitsRead tcp size) = true := by
    simp only [PlanN.wf, p, Bool.and_eq_true, List.all_eq_true, beq_iff_eq]
    exact ⟨hfails, hk⟩
  obtain ⟨h1, h2⟩ := queryN_faulty tcp port retries reqs size check p hp (fun d e hd _ => nomatch hd) restQ restF
  have h1' : out.1 = .err (lastError AttemptN.error fails) := h1
  refine ⟨h1', ?_, h2.trans (PlanN.sends_nil reqs fails)⟩
  rw [h1']
  rcases lastErrorN_class fails with e | e
  · exact .inl (congrArg _ e)
  · exact .inr (congrArg _ e)

/-- (c) MALFORMED: at most `retries` failed attempts, then `m`, which the check rejects with an error that is not a
timeout -/
theorem queryN_malformed {α : Type} (tcp : Bool) (port retries : Nat) (reqs : List Bytes) (size : Option Nat)
    (check : Bytes → Res α) (m : Bytes) (k : ErrKind) (hm : check m = .err k) (hkt : k.isTimeout = false)
    (hfit : fitsRead tcp size m = true) (fails : List AttemptN) (hfails : ∀ a ∈ fails, a.wf reqs.length = true)
    (hk : fails.length ≤ retries) (restQ : List Delivery) (restF : List Bool) :
    let p : PlanN := ⟨fails, some m⟩
    let out := queryN tcp port retries reqs size check
      (Net.init [.opened (p.deliveries ++ restQ)] (p.faults reqs.length ++ restF))
    out.1 = .err k ∧ sentOf out.2.log = fails.flatMap (AttemptN.sends reqs) ++ reqs.map (·, false) := by
  obtain ⟨h1, h2⟩ := queryN_answered tcp port retries reqs size check m
    (fun e he => by rw [hm] at he; cases he; exact hkt) hfit fails hfails hk restQ restF
  exact ⟨h1.trans hm, h2⟩

/-- TCP: after failed attempts the peer CLOSES the stream (the script ends): the empty read goes to the check and, if the
check rejects it with an error that is not a timeout, ends the unit -/
theorem queryN_closed {α : Type} (port retries : Nat) (reqs : List Bytes) (size : Option Nat) (check : Bytes → Res α)
    (fails : List AttemptN) (hfails : ∀ a ∈ fails, a.wf reqs.length = true) (hk : fails.length ≤ retries)
    (hcheck : ∀ e, check [] = .err e → e.isTimeout = false) (restF : List Bool) :
    ((openSock true port >>= fun s => retryOnTimeout retries (exchangeN s reqs size check))
      (Net.init [.opened (fails.flatMap AttemptN.deliveries)]
        (fails.flatMap AttemptN.faults ++ (List.replicate reqs.length false ++ restF)))).1 = check []
    ∧ sentOf ((openSock true port >>= fun s => retryOnTimeout retries (exchangeN s reqs size check))
      (Net.init [.opened (fails.flatMap AttemptN.deliveries)]
        (fails.flatMap AttemptN.faults ++ (List.replicate reqs.length false ++ restF)))).2.log
      = fails.flatMap (AttemptN.sends reqs) ++ reqs.map (·, false) := by
  have hstep : ∀ a : AttemptN, a.wf reqs.length = true → ∀ q fs sn,
      Steps ⟨0, port, true⟩ (exchangeN ⟨0, port, true⟩ reqs size check) (.err a.error)
        ⟨a.deliveries ++ q, a.faults ++ fs, sn⟩ ⟨q, fs, sn ++ a.sends reqs⟩ :=
    fun a ha q fs sn => steps_exchangeN_fail _ reqs size check a ha q fs sn
  have h := Steps.retry_recovers_of (s := ⟨0, port, true⟩) (f := exchangeN ⟨0, port, true⟩ reqs size check)
    (fun a => a.wf reqs.length = true)
    AttemptN.deliveries AttemptN.faults (AttemptN.sends reqs) AttemptN.error AttemptN.error_timeout hstep
    (R := check []) (fun k hk => hcheck k hk) [] [] (List.replicate reqs.length false ++ restF) restF
    (reqs.map (·, false)) (fun sn => steps_exchangeN_closed ⟨0, port, true⟩ rfl reqs size check restF sn)
    fails retries [] hfails hk
  have := open_outcome true port (fun s => retryOnTimeout retries (exchangeN s reqs size check)) _ _ _ _ h
  simpa using this

theorem firstRequests_flagLast (r0 : Bytes) (rest l : List Bytes) (f : Bool) :
    firstRequests (r0 :: rest) (flagLast l f) = l.count r0 := by
  show ((flagLast l f).filter fun p => p.1 == r0).length = l.count r0
  rw [← List.countP_eq_length_filter]
  conv => rhs; rw [← flagLast_fst l f, List.count, List.countP_map]
  rfl

/-- every attempt that got as far as `send` put the first request on the wire exactly once (the requests of one
attempt are pairwise distinct from the first) -/
theorem firstRequests_attempt (r0 : Bytes) (rest : List Bytes) (hne : ∀ d ∈ rest, (d == r0) = false) (a : AttemptN)
    (ha : a.wf (r0 :: rest).length = true) : firstRequests (r0 :: rest) (a.sends (r0 :: rest)) = 1 := by
  obtain ⟨j, f⟩ := a
  -- at least the first request reached `send`
  obtain ⟨n, hn⟩ : ∃ n, j + (if f then 1 else 0) = n + 1 := by
    cases f with
    | true => exact ⟨j, rfl⟩
    | false => exact ⟨rest.length, by simpa [AttemptN.wf] using ha⟩
  have hnot : r0 ∉ rest.take n := fun hmem => by
    have := hne r0 (List.mem_of_mem_take hmem)
    simp at this
  simp only [AttemptN.sends, hn]
  rw [firstRequests_flagLast, List.take_succ_cons, List.count_cons_self, List.count_eq_zero_of_not_mem hnot]

theorem AttemptN.sends_one (req : Bytes) (a : AttemptN) (ha : a.wf 1 = true) : a.sends [req] = [(req, a.sendFault)] := by
  obtain ⟨j, f⟩ := a
  cases f with
  | true =>
    have : j = 0 := by simpa [AttemptN.wf] using ha
    subst this
    rfl
  | false =>
    have : j = 1 := by simpa [AttemptN.wf] using ha
    subst this
    rfl

theorem sends_one_flatMap (req : Bytes) (fails : List AttemptN) (h : ∀ a ∈ fails, a.wf 1 = true) :
    fails.flatMap (AttemptN.sends [req]) = fails.map (fun a => (req, a.sendFault)) := by
  induction fails with
  | nil => rfl
  | cons a r ih =>
    rw [List.flatMap_cons, AttemptN.sends_one req a (h a (by simp)), ih (fun b hb => h b (by simp [hb]))]
    rfl

theorem firstRequests_append (reqs : List Bytes) (a b : List (Bytes × Bool)) :
    firstRequests reqs (a ++ b) = firstRequests reqs a + firstRequests reqs b := by
  cases reqs <;> simp [firstRequests]

/-- attempts seen on the wire = attempts of the plan -/
theorem firstRequests_plan (r0 : Bytes) (rest : List Bytes) (hne : ∀ d ∈ rest, (d == r0) = false) (p : PlanN)
    (hfails : ∀ a ∈ p.fails, a.wf (r0 :: rest).length = true) :
    firstRequests (r0 :: rest) (p.sends (r0 :: rest)) = p.attempts := by
  obtain ⟨fails, answer⟩ := p
  have hf : firstRequests (r0 :: rest) (fails.flatMap (AttemptN.sends (r0 :: rest))) = fails.length := by
    induction fails with
    | nil => rfl
    | cons a r ih =>
      rw [List.flatMap_cons, firstRequests_append, firstRequests_attempt r0 rest hne a (hfails a (by simp)),
        ih (fun b hb => hfails b (by simp [hb]))]
      simp; omega
  have hv : firstRequests (r0 :: rest) ((r0 :: rest).map (·, false)) = 1 := by
    have := firstRequests_attempt r0 rest hne ⟨rest.length + 1, false⟩ (by simp [AttemptN.wf])
    simpa [AttemptN.sends, flagLast_false] using this
  unfold PlanN.sends PlanN.attempts
  rw [firstRequests_append, hf]
  cases answer with
  | none => simp [firstRequests]
  | some d => simp only [hv, Option.isSome_some, ↓reduceIte]

end Gd
