import GdVerif.Lemmas.Ffow
import GdVerif.Lemmas.ValveFaults
/-
  The whole Frontlines: Fuel of War query with faults injected (C10 end to end).  The retried unit is Valve's
  `get_request_data_impl` for the `LSQ` request (kind 0x46); the SPEC's server answers with one datagram and issues no
  challenge, so a plan is a one-exchange plan (`Faults.Plan1`).
-/
namespace Gd.Ffow
open Gd Gd.Valve Gd.Ffow.Spec Gd.Faults

def lsqBytes : Bytes := packetBytes KIND lsq

theorem lsqBytes_eq : lsqBytes = lsqRequest := by decide

theorem steps_fail (ext : Ext) (s : Sock) (hudp : s.tcp = false) (f : Bool) (q : List Delivery) (fs : List Bool)
    (sn : List (Bytes × Bool)) :
    Steps s (requestImpl ext s (.goldSrc true) 0 KIND lsq) (.err (attemptError f))
      ⟨(if f then [] else [Delivery.silence]) ++ q, [f] ++ fs, sn⟩ ⟨q, fs, sn ++ [(lsqBytes, f)]⟩ := by
  cases f with
  | false =>
    have h := steps_requestImpl_recv ext s hudp (.goldSrc true) 0 KIND lsq (.err .packetReceive)
      (fun p hp => by cases hp) [.silence] q (by simp)
      (fun fs sn => steps_receive_silence ext s (.goldSrc true) 0 q fs sn) [] (fun x hx => by cases hx) fs sn
    simpa [challengeDeliveries, attemptError, lsqBytes] using h
  | true =>
    have h := steps_requestImpl_sendFault ext s hudp (.goldSrc true) 0 KIND lsq q [] (fun x hx => by cases hx) fs sn
    simpa [challengeDeliveries, attemptError, lsqBytes, flagLast] using h

/-- `hR`: the answer is not a challenge (kind 0x41) -/
theorem steps_answer (ext : Ext) (s : Sock) (hudp : s.tcp = false) (d : Bytes) (R : Res Packet)
    (hR : ∀ p, R = .ok p → p.kind ≠ 0x41) (q : List Delivery)
    (hfinal : ∀ fs sn, Steps s (receive ext s (.goldSrc true) 0) R ⟨[.data d] ++ q, fs, sn⟩ ⟨q, fs, sn⟩)
    (fs : List Bool) (sn : List (Bytes × Bool)) :
    Steps s (requestImpl ext s (.goldSrc true) 0 KIND lsq) (R >>= fun p => .ok p.payload)
      ⟨[.data d] ++ q, [false] ++ fs, sn⟩ ⟨q, fs, sn ++ [(lsqBytes, false)]⟩ := by
  have h := steps_requestImpl_recv ext s hudp (.goldSrc true) 0 KIND lsq R hR [.data d] q (by simp) hfinal []
    (fun x hx => by cases hx) fs sn
  simpa [challengeDeliveries, lsqBytes] using h

theorem steps_unit (ext : Ext) (s : Sock) (hudp : s.tcp = false) (retries : Nat) (p : Plan1)
    (hp : p.wf retries PACKET_SIZE = true)
    (R : Res Packet) (hR : ∀ pk, R = .ok pk → pk.kind ≠ 0x41) (hRt : ∀ k, R = .err k → k.isTimeout = false)
    (q : List Delivery)
    (hfinal : ∀ d, p.answer = some d → ∀ fs sn,
      Steps s (receive ext s (.goldSrc true) 0) R ⟨[.data d] ++ q, fs, sn⟩ ⟨q, fs, sn⟩)
    (fs : List Bool) (sn : List (Bytes × Bool)) :
    Steps s (retryOnTimeout retries (requestImpl ext s (.goldSrc true) 0 KIND lsq)) (p.outcome fun _ => R >>= fun pk => .ok pk.payload)
      ⟨p.deliveries ++ q, p.faults ++ fs, sn⟩ ⟨q, fs, sn ++ p.sends lsqRequest⟩ := by
  obtain ⟨fails, answer⟩ := p
  have hflat : fails.flatMap (fun f => [f]) = fails := (flatMap_singleton id fails).trans (List.map_id _)
  have hmap : fails.flatMap (fun f => [(lsqBytes, f)]) = fails.map fun f => (lsqBytes, f) := flatMap_singleton _ fails
  cases answer with
  | some d =>
    simp only [Plan1.wf, Bool.and_eq_true, decide_eq_true_eq] at hp
    have hnt : ∀ k, (R >>= fun pk => Res.ok pk.payload) = .err k → k.isTimeout = false := by
      intro k hk
      cases R with
      | ok pk => cases hk
      | crash => cases hk
      | err e =>
        simp only [Res.bind_err, Res.err.injEq] at hk
        subst hk
        exact hRt e rfl
    have h := Steps.retry_recovers (f := requestImpl ext s (.goldSrc true) 0 KIND lsq)
      (fun f : Bool => if f then [] else [Delivery.silence]) (fun f => [f]) (fun f => [(lsqBytes, f)]) attemptError
      attemptError_timeout (fun a q fs sn => steps_fail ext s hudp a q fs sn)
      (R := R >>= fun pk => .ok pk.payload) hnt
      ([.data d] ++ q) q ([false] ++ fs) fs [(lsqBytes, false)]
      (fun sn => steps_answer ext s hudp d R hR q (hfinal d rfl) fs sn) fails retries sn hp.1
    rw [hflat, hmap] at h
    simpa [Plan1.deliveries, Plan1.faults, Plan1.sends, Plan1.outcome, lsqBytes_eq, List.append_assoc] using h
  | none =>
    simp only [Plan1.wf, beq_iff_eq] at hp
    have h := Steps.retry_exhausted (f := requestImpl ext s (.goldSrc true) 0 KIND lsq)
      (fun f : Bool => if f then [] else [Delivery.silence]) (fun f => [f]) (fun f => [(lsqBytes, f)]) attemptError
      attemptError_timeout (fun a q fs sn => steps_fail ext s hudp a q fs sn) q fs retries fails sn hp
    rw [hflat, hmap] at h
    simpa [Plan1.deliveries, Plan1.faults, Plan1.sends, Plan1.outcome, lsqBytes_eq] using h

theorem query_plan (ext : Ext) (port retries : Nat) (p : Plan1) (hp : p.wf retries PACKET_SIZE = true)
    (R : Res Packet) (hR : ∀ pk, R = .ok pk → pk.kind ≠ 0x41) (hRt : ∀ k, R = .err k → k.isTimeout = false)
    (restQ : List Delivery)
    (hfinal : ∀ d, p.answer = some d → ∀ fs sn,
      Steps ⟨0, port, false⟩ (receive ext ⟨0, port, false⟩ (.goldSrc true) 0) R ⟨[.data d] ++ restQ, fs, sn⟩
        ⟨restQ, fs, sn⟩)
    (restF : List Bool) :
    (query ext port retries (Net.init [.opened (p.deliveries ++ restQ)] (p.faults ++ restF))).1
      = (p.outcome (fun _ => R >>= fun pk => .ok pk.payload) >>= parseResponse.run)
    ∧ sentOf (query ext port retries (Net.init [.opened (p.deliveries ++ restQ)] (p.faults ++ restF))).2.log
      = p.sends lsqRequest := by
  have h := openUdp_outcome port
    (fun s => retryOnTimeout retries (requestImpl ext s (.goldSrc true) 0 KIND lsq) >>= fun data =>
      Q.lift (parseResponse.run data)) _ _ _ _
    (Steps.bind_res (k := parseResponse.run) (steps_unit ext ⟨0, port, false⟩ rfl retries p hp R hR hRt restQ hfinal restF [])
      fun a _ => Steps.lift _ _ _)
  rw [List.nil_append] at h
  exact h

end Gd.Ffow
