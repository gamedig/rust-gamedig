import GdVerif.Lemmas.SmallLogic
import GdVerif.Lemmas.ValveSafe
/-
  A request answered at once by a single, unsplit datagram: what `receive` and `requestImpl` return and log.
-/
namespace Gd.Valve
open Gd

theorem run_packetFromBuffer (kind : UInt8) (body : Bytes) :
    packetFromBuffer.run ([0xFF, 0xFF, 0xFF, 0xFF] ++ [kind] ++ body) = .ok ⟨0xFFFFFFFF, kind.toNat, body⟩ := by
  have h : DecodesEnd packetFromBuffer ([0xFF, 0xFF, 0xFF, 0xFF] ++ [kind] ++ body) ⟨0xFFFFFFFF, kind.toNat, body⟩ := by
    unfold packetFromBuffer
    refine DecodesEnd.bind (e1 := [0xFF, 0xFF, 0xFF, 0xFF]) (e2 := [kind] ++ body)
      (by simpa [natLE] using decodes_le 4 0xFFFFFFFF (by decide)) ?_ (by simp)
    refine DecodesEnd.bind (decodes_readU8 kind) ?_ rfl
    exact DecodesEnd.bind_pure (decodesEnd_remainingBytes body) (fun _ => rfl)
  exact h.run

theorem run_readU8_header (kind : UInt8) (body : Bytes) :
    readU8.run ([0xFF, 0xFF, 0xFF, 0xFF] ++ [kind] ++ body) = .ok 0xFF := by
  have := (decodes_readU8 0xFF).run_append ([0xFF, 0xFF, 0xFF] ++ [kind] ++ body)
  simpa using this

theorem receive_single (ext : Ext) (s : Sock) (hudp : s.tcp = false) (engine : Engine) (protocol : Nat)
    (kind : UInt8) (body : Bytes) (w : Net) (rest : List Delivery)
    (hq : w.conns.getD s.id [] = .data ([0xFF, 0xFF, 0xFF, 0xFF] ++ [kind] ++ body) :: rest)
    (hlen : ([0xFF, 0xFF, 0xFF, 0xFF] ++ [kind] ++ body).length ≤ PACKET_SIZE) :
    receive ext s engine protocol w
      = (.ok ⟨0xFFFFFFFF, kind.toNat, body⟩,
         { w with conns := setAt w.conns s.id rest,
                  log := w.log ++ [.recv s.id (some PACKET_SIZE) (some ([0xFF, 0xFF, 0xFF, 0xFF] ++ [kind] ++ body).length)] }) := by
  have ht : ([0xFF, 0xFF, 0xFF, 0xFF] ++ [kind] ++ body : Bytes).take PACKET_SIZE = [0xFF, 0xFF, 0xFF, 0xFF] ++ [kind] ++ body :=
    List.take_of_length_le hlen
  rw [receive_eq, Q.bind_apply]
  simp only [recv, hq, hudp, Bool.false_eq_true, ↓reduceIte, Option.getD_some, ht]
  simp only [afterFirst, parse, run_readU8_header, run_packetFromBuffer]
  rfl

/-- one request answered at once by a single datagram `FFFFFFFF kind body` that is not a challenge: the request
is sent once, the reply's body is the result -/
theorem requestImpl_single (ext : Ext) (s : Sock) (hudp : s.tcp = false) (engine : Engine) (protocol : Nat)
    (reqKind : Nat) (payload : Bytes) (kind : UInt8) (hk : kind.toNat ≠ 0x41) (body : Bytes) (w : Net)
    (rest : List Delivery) (hf : w.faults = [])
    (hq : w.conns.getD s.id [] = .data ([0xFF, 0xFF, 0xFF, 0xFF] ++ [kind] ++ body) :: rest)
    (hlen : ([0xFF, 0xFF, 0xFF, 0xFF] ++ [kind] ++ body).length ≤ PACKET_SIZE) :
    requestImpl ext s engine protocol reqKind payload w
      = (.ok body,
         { w with conns := setAt w.conns s.id rest,
                  log := w.log ++ [.send s.id s.port (packetBytes reqKind payload) false,
                    .recv s.id (some PACKET_SIZE) (some ([0xFF, 0xFF, 0xFF, 0xFF] ++ [kind] ++ body).length)] }) := by
  have hs : send s (packetBytes reqKind payload) w
      = (.ok (), { w with log := w.log ++ [.send s.id s.port (packetBytes reqKind payload) false] }) := by
    simp [send, hf]
  have hr := receive_single ext s hudp engine protocol kind body
    { w with log := w.log ++ [.send s.id s.port (packetBytes reqKind payload) false] } rest hq hlen
  have hne : (kind.toNat == 0x41) = false := by simpa using hk
  simp only [requestImpl, bind, Q.bind', hs, hr]
  unfold challengeLoop
  simp [hne, List.append_assoc]

end Gd.Valve
