import GdVerif.Lemmas.QCost
import GdVerif.Proto.Unreal2
/-
  How many datagrams the Unreal 2 query sends: an absolute bound (the protocol has no challenge, so
  nothing a server sends earns a further request).
-/
namespace Gd
namespace Unreal2

/-- the listening loop, for any measure that adds up over `++`: a receive that returns adds nothing, and the one that
fails ends the loop -/
theorem bounded_recvWhile {m : List Ev → Int} (hm : ∀ a b, m (a ++ b) = m a + m b) {ke : Int} (hke : 0 ≤ ke)
    (s : Sock) (hrecv : Bounded m 0 ke (recv s (some PACKET_SIZE)))
    (body : σ → Bytes → Res (σ × Bool)) (fuel : Nat) (st : σ) : Bounded m ke ke (recvWhile s body fuel st) := by
  have hnil : m [] = 0 := by have := hm [] []; rw [List.append_nil] at this; omega
  refine Bounded.same_iff.mpr ?_
  induction fuel generalizing st with
  | zero => intro w; exact ⟨[], (List.append_nil _).symm, by rw [hnil]; exact hke⟩
  | succ fuel ih =>
    intro w
    obtain ⟨a1, hl1, hc1⟩ := hrecv w
    unfold recvWhile
    cases hr : Gd.recv s (some PACKET_SIZE) w with
    | mk res w1 =>
      rw [hr] at hl1 hc1
      cases res with
      | err k => exact ⟨a1, hl1, hc1⟩
      | crash => exact ⟨a1, hl1, hc1⟩
      | ok data =>
        have h1 : m a1 ≤ 0 := hc1
        simp only
        cases hb : body st data with
        | err k => exact ⟨a1, hl1, Int.le_trans h1 hke⟩
        | crash => exact ⟨a1, hl1, Int.le_trans h1 hke⟩
        | ok x =>
          obtain ⟨st', go⟩ := x
          cases go with
          | false => exact ⟨a1, hl1, Int.le_trans h1 hke⟩
          | true =>
            obtain ⟨a2, hl2, hc2⟩ := ih st' w1
            exact ⟨a1 ++ a2, by rw [hl2, hl1, List.append_assoc], by rw [hm]; omega⟩

theorem sends_recvWhile (s : Sock) (body : σ → Bytes → Res (σ × Bool)) (fuel : Nat) (st : σ) :
    Sends 0 (recvWhile s body fuel st) :=
  Sends.iff_bounded.2
    (bounded_recvWhile nSends_cast_append (Int.le_refl _) s (Sends.iff_bounded.1 (Sends.recv s _))
      body fuel st)

theorem sends_requestData (s : Sock) (r : Nat) (kind : PacketKind) : Sends (r + 1) (requestData s r kind) :=
  (Sends.retry (Sends.bind (Sends.send s (requestBytes kind)) fun _ => Sends.recv s (some PACKET_SIZE)) r).weaken
    (Nat.le_of_eq (Nat.one_mul _))

theorem sends_listen (s : Sock) (body : σ → Bytes → Res (σ × Bool)) (st : σ) :
    Sends 0 (fun w => recvWhile s body (queued s w + 1) st w) :=
  fun w => sends_recvWhile s body (queued s w + 1) st w

theorem sends_queryServerInfo (s : Sock) (r : Nat) : Sends (r + 1) (queryServerInfo s r) := by
  unfold queryServerInfo
  exact Sends.bind (k2 := 0) (sends_requestData s r _) fun _ => Sends.lift _

theorem sends_queryRules (s : Sock) (r : Nat) : Sends (r + 1) (queryRules s r) := by
  unfold queryRules
  exact Sends.bind (k2 := 0) (sends_requestData s r .mutatorsAndRules) fun _ =>
    Sends.bind (k1 := 0) (k2 := 0) (Sends.lift _) fun st => sends_listen s rulesRound st

theorem sends_queryPlayers (s : Sock) (r n : Nat) : Sends (r + 1) (queryPlayers s r n) := by
  unfold queryPlayers
  refine Sends.bind (k2 := 0) (sends_requestData s r .players) fun data =>
    Sends.bind (k1 := 0) (k2 := 0) (Sends.lift (playersRound n .empty data)) fun x => ?_
  obtain ⟨st, more⟩ := x
  cases more with
  | true => exact sends_listen s (playersRound n) st
  | false => exact Sends.pure st

theorem sends_queryBody (s : Sock) (g : Gather) (r : Nat) : Sends (3 * (r + 1)) (queryBody s g r) := by
  unfold queryBody
  have h := Sends.bind (sends_queryServerInfo s r) fun info =>
    Sends.bind (Sends.maybeGather (sends_queryRules s r) g.mutatorsAndRules) fun mr =>
    Sends.bind (k2 := 0) (Sends.maybeGather (sends_queryPlayers s r (applyPassword info (mr.getD .empty)).numPlayers) g.players)
      fun players => Sends.pure (⟨applyPassword info (mr.getD .empty), mr.getD .empty, players.getD .empty⟩ : Response)
  exact h.weaken (by omega)

end Unreal2
end Gd
