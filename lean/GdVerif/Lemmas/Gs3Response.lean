import GdVerif.Lemmas.Gs3Tables
import GdVerif.Lemmas.GsMap
/-
  GameSpy 3: from the tables to the players and teams, from the variables to the typed
  fields, and the whole of `query`'s post-processing on the SPEC's payloads.
-/
namespace Gd.Gs3
open Gd Gd.Gs3.Spec

theorem mkPlayer_of_cells (m : Vars) (p : Player) (hp : wfPlayer p = true)
    (h1 : mapGet m (asciiBytes "player") = some p.name)
    (h2 : mapGet m (asciiBytes "score") = some (intDec p.score))
    (h3 : mapGet m (asciiBytes "ping") = some (natDec p.ping))
    (h4 : mapGet m (asciiBytes "team") = some (natDec p.team))
    (h5 : mapGet m (asciiBytes "deaths") = some (natDec p.deaths))
    (h6 : mapGet m (asciiBytes "skill") = some (natDec p.skill)) : mkPlayer m = .ok p := by
  simp only [wfPlayer, Bool.and_eq_true, decide_eq_true_eq] at hp
  obtain ⟨⟨⟨⟨⟨⟨_, hlo⟩, hhi⟩, hping⟩, hteam⟩, hdeaths⟩, hskill⟩ := hp
  have e2 := parseSigned_intDec 32 p.score (by simpa using hlo) (by simpa using hhi)
  have e3 := parseUnsigned_natDec 16 p.ping hping
  have e4 := parseUnsigned_natDec 8 p.team hteam
  have e5 := parseUnsigned_natDec 32 p.deaths hdeaths
  have e6 := parseUnsigned_natDec 32 p.skill hskill
  simp [mkPlayer, fieldOf, okOr, parseI, parseU, h1, h2, h3, h4, h5, h6, e2, e3, e4, e5, e6]

theorem mkTeam_of_cells (m : Vars) (t : Team) (ht : wfTeam t = true)
    (h1 : mapGet m (asciiBytes "team") = some t.name)
    (h2 : mapGet m (asciiBytes "score") = some (intDec t.score)) : mkTeam m = .ok t := by
  simp only [wfTeam, Bool.and_eq_true, decide_eq_true_eq] at ht
  obtain ⟨⟨_, hlo⟩, hhi⟩ := ht
  have e2 := parseSigned_intDec 32 t.score (by simpa using hlo) (by simpa using hhi)
  simp [mkTeam, fieldOf, okOr, parseI, h1, h2, e2]

/-- what `wf` says about the layout, as propositions -/
structure LayoutOk (cfg : Config) (st : State) : Prop where
  slices : ∀ sl ∈ cfg.layout.flatten, wfSlice st sl = true
  cov : covered st cfg.layout.flatten = true
  players : ∀ p ∈ st.players, wfPlayer p = true
  teams : ∀ t ∈ st.teams, wfTeam t = true
  pids : ∀ l, st.pids = some l → l.length = st.players.length ∧ ∀ v ∈ l, okItem v = true

theorem okItem_natDec (n : Nat) : okItem (natDec n) = true := (okItem_iff _).mpr (natDec_text n)
theorem okItem_intDec (i : Int) : okItem (intDec i) = true := (okItem_iff _).mpr (intDec_text i)

theorem playerColumn_some {st : State} {f : Bytes} {col : List Bytes} (h : playerColumn st f = some col) :
    (∃ g : Player → Bytes, (∀ p, okItem p.name = true → okItem (g p) = true) ∧ col = st.players.map g)
      ∨ st.pids = some col := by
  unfold playerColumn at h
  rcases ite_eq_cases h with h | h
  · exact .inl ⟨_, fun _ hp => hp, (Option.some.inj h).symm⟩
  rcases ite_eq_cases h with h | h
  · exact .inl ⟨_, fun _ _ => okItem_intDec _, (Option.some.inj h).symm⟩
  rcases ite_eq_cases h with h | h
  · exact .inl ⟨_, fun _ _ => okItem_natDec _, (Option.some.inj h).symm⟩
  rcases ite_eq_cases h with h | h
  · exact .inl ⟨_, fun _ _ => okItem_natDec _, (Option.some.inj h).symm⟩
  rcases ite_eq_cases h with h | h
  · exact .inl ⟨_, fun _ _ => okItem_natDec _, (Option.some.inj h).symm⟩
  rcases ite_eq_cases h with h | h
  · exact .inl ⟨_, fun _ _ => okItem_natDec _, (Option.some.inj h).symm⟩
  rcases ite_eq_cases h with h | h
  · exact .inr h
  · cases h

theorem teamColumn_some {st : State} {f : Bytes} {col : List Bytes} (h : teamColumn st f = some col) :
    ∃ g : Team → Bytes, (∀ t, okItem t.name = true → okItem (g t) = true) ∧ col = st.teams.map g := by
  unfold teamColumn at h
  rcases ite_eq_cases h with h | h
  · exact ⟨_, fun _ ht => ht, (Option.some.inj h).symm⟩
  rcases ite_eq_cases h with h | h
  · exact ⟨_, fun _ _ => okItem_intDec _, (Option.some.inj h).symm⟩
  · cases h

theorem column_players (st : State) (f : Bytes) : column st false f = playerColumn st f := if_neg Bool.false_ne_true
theorem column_teams (st : State) (f : Bytes) : column st true f = teamColumn st f := if_pos rfl

theorem columnsOf_players (st : State) (hpid : ∀ l, st.pids = some l → l.length = st.players.length) :
    ColumnsOf st false st.players.length := by
  intro f col h
  rw [column_players] at h
  rcases playerColumn_some h with ⟨g, _, rfl⟩ | h
  · exact List.length_map _
  · exact hpid _ h

theorem columnsOf_teams (st : State) : ColumnsOf st true st.teams.length := by
  intro f col h
  rw [column_teams] at h
  obtain ⟨g, _, rfl⟩ := teamColumn_some h
  exact List.length_map _

theorem wfPlayer_name {p : Player} (h : wfPlayer p = true) : okItem p.name = true := by
  simp only [wfPlayer, Bool.and_eq_true] at h
  exact h.1.1.1.1.1.1

theorem wfTeam_name {t : Team} (h : wfTeam t = true) : okItem t.name = true := by
  simp only [wfTeam, Bool.and_eq_true] at h
  exact h.1.1

theorem column_values (cfg : Config) (st : State) (h : LayoutOk cfg st) {team : Bool} {f : Bytes} {col : List Bytes}
    (hc : column st team f = some col) : ∀ v ∈ col, okItem v = true := by
  intro v hv
  cases team with
  | false =>
    rw [column_players] at hc
    rcases playerColumn_some hc with ⟨g, hg, rfl⟩ | hpid
    · obtain ⟨p, hp, rfl⟩ := List.mem_map.mp hv
      exact hg p (wfPlayer_name (h.players p hp))
    · exact (h.pids _ hpid).2 v hv
  | true =>
    rw [column_teams] at hc
    obtain ⟨g, hg, rfl⟩ := teamColumn_some hc
    obtain ⟨t, ht, rfl⟩ := List.mem_map.mp hv
    exact hg t (wfTeam_name (h.teams t ht))

theorem slice_values_ok (cfg : Config) (st : State) (h : LayoutOk cfg st) (sl : Slice) (hsl : sl ∈ cfg.layout.flatten) :
    SliceOk st sl := by
  refine ⟨h.slices sl hsl, fun v hv => ?_⟩
  obtain ⟨col, hc, _⟩ := slice_column st sl (h.slices sl hsl)
  simp only [sliceValues, hc, Option.getD_some] at hv
  exact column_values cfg st h hc v (List.mem_of_mem_drop (List.mem_of_mem_take hv))

theorem typedFields_distinct : typedFields.Pairwise (fun a b => (b == a) = false) := by decide +kernel

/-- the typed columns, by name: each name passes the tests for the names before it in the `if` chains
of `playerColumn` / `teamColumn` -/
theorem columns_typed (st : State) :
    column st false (asciiBytes "player") = some (st.players.map (·.name))
    ∧ column st false (asciiBytes "score") = some (st.players.map fun p => intDec p.score)
    ∧ column st false (asciiBytes "ping") = some (st.players.map fun p => natDec p.ping)
    ∧ column st false (asciiBytes "team") = some (st.players.map fun p => natDec p.team)
    ∧ column st false (asciiBytes "deaths") = some (st.players.map fun p => natDec p.deaths)
    ∧ column st false (asciiBytes "skill") = some (st.players.map fun p => natDec p.skill)
    ∧ column st true (asciiBytes "team") = some (st.teams.map (·.name))
    ∧ column st true (asciiBytes "score") = some (st.teams.map fun t => intDec t.score) := by
  have h := typedFields_distinct
  simp only [typedFields, playerFields, List.cons_append, List.nil_append, List.pairwise_cons, List.mem_cons,
    List.not_mem_nil, or_false, forall_eq_or_imp, forall_eq] at h
  obtain ⟨⟨h12, h13, h14, h15, h16, _⟩, ⟨h23, h24, h25, h26, _⟩, ⟨h34, h35, h36, _⟩, ⟨h45, h46, _⟩, ⟨h56, _⟩, _⟩ := h
  have h42 : (asciiBytes "score" == asciiBytes "team") = false := by
    rw [beq_eq_false_iff_ne] at h24 ⊢
    exact Ne.symm h24
  simp only [column_players, column_teams, playerColumn, teamColumn, beq_self_eq_true, ↓reduceIte,
    h12, h13, h14, h15, h16, h23, h24, h25, h26, h34, h35, h36, h45, h46, h56, h42, Bool.false_eq_true, and_self]

theorem sound_init (st : State) (team : Bool) (n : Nat) : Sound st team n (tbl Tables.init team) := by
  constructor
  · intro i f v h
    have : tbl Tables.init team = [[]] := by cases team <;> rfl
    rw [this] at h
    cases i with
    | zero => simp [cell, mapGet] at h
    | succ i => simp [cell, mapGet] at h
  · have : tbl Tables.init team = [[]] := by cases team <;> rfl
    rw [this]; simp; omega

theorem tbl_length_pos (st : State) (team : Bool) : ∀ (ss : List Slice) (t : Tables), 1 ≤ (tbl t team).length →
    1 ≤ (tbl (ss.foldl (applySlice st) t) team).length := by
  intro ss
  induction ss with
  | nil => intro t h; exact h
  | cons sl r ih =>
    intro t h
    apply ih
    unfold applySlice
    rw [tbl_applyValues]
    split
    · rw [putAll_length]; omega
    · exact h

theorem covered_players (st : State) (slices : List Slice) (h : covered st slices = true) (f : Bytes) (hf : f ∈ playerFields)
    (i : Nat) (hi : i < st.players.length) : slices.any (covers false f i) = true := by
  simp only [covered, Bool.and_eq_true, List.all_eq_true] at h
  exact h.1 f hf i (List.mem_range.mpr hi)

theorem covered_teams (st : State) (slices : List Slice) (h : covered st slices = true) (f : Bytes) (hf : f ∈ teamFields)
    (i : Nat) (hi : i < st.teams.length) : slices.any (covers true f i) = true := by
  simp only [covered, Bool.and_eq_true, List.all_eq_true] at h
  exact h.2 f hf i (List.mem_range.mpr hi)

theorem rows_final (cfg : Config) (st : State) (h : LayoutOk cfg st) (team : Bool) {α : Type} (xs : List α)
    (hcols : ColumnsOf st team xs.length) (fields : List Bytes)
    (hcov : ∀ f ∈ fields, ∀ i, i < xs.length → cfg.layout.flatten.any (covers team f i) = true)
    (key : Bytes) (hkey : key ∈ fields) (mk : Vars → Res α)
    (hmk : ∀ (i : Nat) (x : α) (m : Vars), xs[i]? = some x →
      (∀ f ∈ fields, ∀ g : α → Bytes, column st team f = some (xs.map g) → mapGet m f = some (g x)) → mk m = .ok x) :
    mkRows mk (tbl (cfg.layout.flatten.foldl (applySlice st) Tables.init) team) = .ok xs := by
  have hsound := Sound.foldl hcols cfg.layout.flatten Tables.init h.slices (sound_init st team _)
  have hwritten := fun f hf i hi => covered_cell st team f i cfg.layout.flatten Tables.init h.slices (hcov f hf i hi)
  refine rows_of_table st team xs.length _ hsound (tbl_length_pos st team _ _ (by cases team <;> decide))
    (fun i hi => ⟨key, hwritten key hkey i hi⟩) mk xs rfl fun i x hx => hmk i x _ hx fun f hf g hcol => ?_
  obtain ⟨v, hv⟩ := Option.isSome_iff_exists.mp (hwritten f hf i (List.getElem?_eq_some_iff.mp hx).1)
  obtain ⟨col, hcol', _, hval⟩ := hsound.1 i f v hv
  rw [hcol] at hcol'
  cases hcol'
  rw [← hval, List.getD_eq_getElem?_getD, List.getElem?_map, hx] at hv
  exact hv

theorem parsePlayersAndTeams_of_run (cfg : Config) (st : State) (h : LayoutOk cfg st) (packets : List Bytes)
    (hrun : readAllSections Tables.init packets = .ok (cfg.layout.flatten.foldl (applySlice st) Tables.init)) :
    parsePlayersAndTeams packets = .ok (st.players, st.teams) := by
  obtain ⟨cname, cscore, cping, cteam, cdeaths, cskill, ctname, ctscore⟩ := columns_typed st
  have hplayers := rows_final cfg st h false st.players (columnsOf_players st fun l hl => (h.pids l hl).1) playerFields
    (covered_players st _ h.cov) (asciiBytes "player") (by simp [playerFields]) mkPlayer fun i p m hp hm =>
      mkPlayer_of_cells m p (h.players p (List.mem_of_getElem? hp))
        (hm _ (by simp [playerFields]) (·.name) cname)
        (hm _ (by simp [playerFields]) (fun p => intDec p.score) cscore)
        (hm _ (by simp [playerFields]) (fun p => natDec p.ping) cping)
        (hm _ (by simp [playerFields]) (fun p => natDec p.team) cteam)
        (hm _ (by simp [playerFields]) (fun p => natDec p.deaths) cdeaths)
        (hm _ (by simp [playerFields]) (fun p => natDec p.skill) cskill)
  have hteams := rows_final cfg st h true st.teams (columnsOf_teams st) teamFields
    (covered_teams st _ h.cov) (asciiBytes "team") (by simp [teamFields]) mkTeam fun i t m ht hm =>
      mkTeam_of_cells m t (h.teams t (List.mem_of_getElem? ht))
        (hm _ (by simp [teamFields]) (·.name) ctname)
        (hm _ (by simp [teamFields]) (fun t => intDec t.score) ctscore)
  unfold parsePlayersAndTeams
  rw [hrun]
  simp only [Res.bind_ok]
  have hplayers : mkRows mkPlayer (cfg.layout.flatten.foldl (applySlice st) Tables.init).players = .ok st.players := hplayers
  have hteams : mkRows mkTeam (cfg.layout.flatten.foldl (applySlice st) Tables.init).teams = .ok st.teams := hteams
  rw [hplayers, hteams]
  rfl

theorem parsePlayersAndTeams_spec (cfg : Config) (st : State) (h : LayoutOk cfg st) :
    parsePlayersAndTeams (cfg.layout.map (encSlices st)) = .ok (st.players, st.teams) :=
  parsePlayersAndTeams_of_run cfg st h _
    (readAllSections_run st cfg.layout (fun sl hsl => slice_values_ok cfg st h sl hsl) Tables.init)

theorem mapTake_dropKeys (ks : List Bytes) (vars : Vars) (k : Bytes) (hk : k ∉ ks) :
    mapTake (Gs.dropKeys ks vars) k = (mapGet vars k, Gs.dropKeys (ks ++ [k]) vars) := by
  rw [mapTake, mapGet_eq, mapGet_eq, Valve.mapRemove_eq]
  exact Gs.take_dropKeys ks vars hk

theorem takeReq_dropKeys (ks : List Bytes) (vars : Vars) (k : String) (v : Bytes) (hk : asciiBytes k ∉ ks)
    (hv : mapGet vars (asciiBytes k) = some v) :
    takeReq (Gs.dropKeys ks vars) k = .ok (v, Gs.dropKeys (ks ++ [asciiBytes k]) vars) := by
  unfold takeReq
  rw [mapTake_dropKeys ks vars _ hk, hv]

def puCore (bits : Nat) (ds : Bytes) : Option Nat :=
  if ds.isEmpty || !ds.all isDigit then none
  else if digitsVal ds < 2 ^ bits then some (digitsVal ds) else none

theorem parseUnsigned_eq (bits : Nat) (s : Bytes) : parseUnsigned bits s = puCore bits (stripPlus s) := by
  unfold parseUnsigned puCore
  rfl

theorem puCore_mono (b b' : Nat) (hb : b ≤ b') (ds : Bytes) (n : Nat) (h : puCore b ds = some n) :
    puCore b' ds = some n ∧ n < 2 ^ b := by
  unfold puCore at h ⊢
  by_cases h1 : (ds.isEmpty || !ds.all isDigit) = true
  · simp [h1] at h
  · by_cases h2 : digitsVal ds < 2 ^ b
    · have h3 : digitsVal ds < 2 ^ b' := Nat.lt_of_lt_of_le h2 (Nat.pow_le_pow_right (by omega) hb)
      simp only [h1, h2, h3, ↓reduceIte, Bool.false_eq_true] at h ⊢
      cases h
      exact ⟨rfl, h2⟩
    · simp [h1, h2] at h

theorem parseUnsigned_mono (b b' : Nat) (hb : b ≤ b') (v : Bytes) (n : Nat) (h : parseUnsigned b v = some n) :
    parseUnsigned b' v = some n := by
  rw [parseUnsigned_eq] at h ⊢
  exact (puCore_mono b b' hb _ n h).1

theorem parseUnsigned_lt (b : Nat) (v : Bytes) (n : Nat) (h : parseUnsigned b v = some n) : n < 2 ^ b := by
  rw [parseUnsigned_eq] at h
  exact (puCore_mono b b (Nat.le_refl _) _ n h).2

theorem passwordValue_flag (v : Bytes) (h : isFlag v = true) : passwordValue v = .ok (flagOf v) := by
  unfold passwordValue flagOf parseBool
  simp only [isFlag, Bool.or_eq_true, beq_iff_eq] at h
  simp only
  by_cases h1 : asciiLower v = asciiBytes "true"
  · simp [h1]
  · by_cases h2 : asciiLower v = asciiBytes "false"
    · have : (asciiBytes "false" == asciiBytes "true") = false := by decide
      simp [h2, this]
    · have hsome : (parseUnsigned 8 (asciiLower v)).isSome = true := by
        rcases h with (h | h) | h
        · exact absurd h h1
        · exact absurd h h2
        · exact h
      have b1 : (asciiLower v == asciiBytes "true") = false := by simpa using h1
      have b2 : (asciiLower v == asciiBytes "false") = false := by simpa using h2
      cases hp : parseUnsigned 8 (asciiLower v) with
      | none => rw [hp] at hsome; cases hsome
      | some n => simp [b1, b2, hp, parseU, okOr]

theorem tournament_flag (v : Bytes) (h : isBoolText v = true) : parseBool (asciiLower v) = some (flagOf v) := by
  unfold parseBool flagOf
  simp only [isBoolText, Bool.or_eq_true, beq_iff_eq] at h
  simp only
  rcases h with h | h
  · simp [h]
  · have : (asciiBytes "false" == asciiBytes "true") = false := by decide
    simp [h, this]

/-- what `wf` says about the variables, as propositions -/
structure VarsOk (st : State) : Prop where
  items : ∀ p ∈ st.vars, okItem p.1 = true ∧ okStr p.2 = true
  distinct : Valve.Spec.distinctKeys st.vars = true
  hostname : ∃ v, var st "hostname" = some v
  mapname : ∃ v, var st "mapname" = some v
  gametype : ∃ v, var st "gametype" = some v
  gamever : ∃ v, var st "gamever" = some v
  password : ∃ v, var st "password" = some v ∧ isFlag v = true
  maxplayers : ∃ v n, var st "maxplayers" = some v ∧ parseUnsigned 32 v = some n
  minplayers : ∀ v, var st "minplayers" = some v → ∃ n, parseUnsigned 8 v = some n
  numplayers : ∀ v, var st "numplayers" = some v → ∃ n, parseUnsigned 32 v = some n
  tournament : ∀ v, var st "tournament" = some v → isBoolText v = true
  listed : st.players.length < 2 ^ 32

/-- the typed variables in the order `buildFields` takes them -/
def takeOrder : List Bytes :=
  [asciiBytes "maxplayers", asciiBytes "minplayers", asciiBytes "numplayers", asciiBytes "hostname",
   asciiBytes "mapname", asciiBytes "password", asciiBytes "gametype", asciiBytes "gamever", asciiBytes "tournament"]

theorem takeOrder_nodup : takeOrder.Nodup := by decide +kernel

/-- `typedKeys` lists the same keys, the three player counts behind the five texts -/
theorem takeOrder_perm : takeOrder.Perm typedKeys :=
  (List.perm_append_comm (l₁ := [asciiBytes "maxplayers", asciiBytes "minplayers", asciiBytes "numplayers"])
    (l₂ := [asciiBytes "hostname", asciiBytes "mapname", asciiBytes "password", asciiBytes "gametype",
      asciiBytes "gamever"])).append_right [asciiBytes "tournament"]

theorem dropKeys_takeOrder (vars : Vars) : Gs.dropKeys takeOrder vars = vars.filter fun p => !typedKeys.contains p.1 :=
  Gs.dropKeys_congr (fun _ => takeOrder_perm.mem_iff) vars

theorem takeMin_dropKeys (ks : List Bytes) (vars : Vars) (hk : asciiBytes "minplayers" ∉ ks)
    (h : ∀ v, mapGet vars (asciiBytes "minplayers") = some v → ∃ n, parseUnsigned 8 v = some n) :
    takeMin (Gs.dropKeys ks vars) = .ok ((mapGet vars (asciiBytes "minplayers")).map (fun v => numOf 8 (some v)),
      Gs.dropKeys (ks ++ [asciiBytes "minplayers"]) vars) := by
  unfold takeMin
  rw [mapTake_dropKeys _ _ _ hk]
  cases hmin : mapGet vars (asciiBytes "minplayers") with
  | none => rfl
  | some v =>
    obtain ⟨n, hn⟩ := h v hmin
    simp [parseU, hn, okOr, numOf]

/-- the reported count is read as `usize`; a count below 2^32 comes through `as u32` unchanged -/
theorem takeOnline_dropKeys (ks : List Bytes) (vars : Vars) (listed : Nat) (hk : asciiBytes "numplayers" ∉ ks)
    (hl : listed < 2 ^ 32)
    (h : ∀ v, mapGet vars (asciiBytes "numplayers") = some v → ∃ n, parseUnsigned 32 v = some n) :
    takeOnline (Gs.dropKeys ks vars) listed = .ok (max (numOf 64 (mapGet vars (asciiBytes "numplayers"))) listed,
      Gs.dropKeys (ks ++ [asciiBytes "numplayers"]) vars) := by
  unfold takeOnline
  rw [mapTake_dropKeys _ _ _ hk]
  cases hnum : mapGet vars (asciiBytes "numplayers") with
  | none =>
    simp only [numOf, Option.bind_none, Option.getD_none, Nat.mod_eq_of_lt hl]
    rw [Nat.max_eq_right (Nat.zero_le _)]
  | some v =>
    obtain ⟨n, hn⟩ := h v hnum
    have hn64 := parseUnsigned_mono 32 64 (by omega) v n hn
    have hlt := parseUnsigned_lt 32 v n hn
    simp only [parseU, hn64, okOr, Res.bind_ok, numOf, Option.bind_some, Option.getD_some, Res.pure_eq]
    congr 2
    split
    · rw [Nat.mod_eq_of_lt hl]; omega
    · rw [Nat.mod_eq_of_lt hlt]; omega

theorem hasPassword_dropKeys (ks : List Bytes) (vars : Vars) (v : Bytes) (hk : asciiBytes "password" ∉ ks)
    (hv : mapGet vars (asciiBytes "password") = some v) (hf : isFlag v = true) :
    hasPassword (Gs.dropKeys ks vars) = .ok (flagOf v, Gs.dropKeys (ks ++ [asciiBytes "password"]) vars) := by
  unfold hasPassword
  rw [mapTake_dropKeys _ _ _ hk, hv]
  simp only [passwordValue_flag v hf, Res.bind_ok, Res.pure_eq]

theorem takeTournament_dropKeys (ks : List Bytes) (vars : Vars) (hk : asciiBytes "tournament" ∉ ks)
    (h : ∀ v, mapGet vars (asciiBytes "tournament") = some v → isBoolText v = true) :
    takeTournament (Gs.dropKeys ks vars)
      = .ok ((match mapGet vars (asciiBytes "tournament") with
              | none => true
              | some v => flagOf v), Gs.dropKeys (ks ++ [asciiBytes "tournament"]) vars) := by
  unfold takeTournament
  rw [mapTake_dropKeys _ _ _ hk]
  cases ht : mapGet vars (asciiBytes "tournament") with
  | none => rfl
  | some v => simp only [tournament_flag v (h v ht)]

theorem fields_spec (st : State) (h : VarsOk st) :
    buildFields st.vars st.players st.teams = .ok (expected st) := by
  obtain ⟨vhost, hhost⟩ := h.hostname
  obtain ⟨vmap, hmap⟩ := h.mapname
  obtain ⟨vtype, htype⟩ := h.gametype
  obtain ⟨vver, hver⟩ := h.gamever
  obtain ⟨vpw, hpw, hflag⟩ := h.password
  obtain ⟨vmax, nmax, hmax, hpmax⟩ := h.maxplayers
  simp only [var] at hhost hmap htype hver hpw hmax
  have s1 := takeReq_dropKeys [] st.vars "maxplayers" vmax List.not_mem_nil hmax
  rw [Gs.dropKeys_nil] at s1
  unfold buildFields
  rw [s1]
  simp only [Res.bind_ok, parseU, hpmax, okOr, List.nil_append]
  rw [takeMin_dropKeys _ _ (by exact takeOrder_nodup.not_mem_of_prefix ⟨_, rfl⟩) h.minplayers]
  simp only [Res.bind_ok, List.cons_append, List.nil_append]
  rw [takeOnline_dropKeys _ _ _ (by exact takeOrder_nodup.not_mem_of_prefix ⟨_, rfl⟩) h.listed h.numplayers]
  simp only [Res.bind_ok, List.cons_append, List.nil_append]
  rw [takeReq_dropKeys _ st.vars "hostname" vhost (by exact takeOrder_nodup.not_mem_of_prefix ⟨_, rfl⟩) hhost]
  simp only [Res.bind_ok, List.cons_append, List.nil_append]
  rw [takeReq_dropKeys _ st.vars "mapname" vmap (by exact takeOrder_nodup.not_mem_of_prefix ⟨_, rfl⟩) hmap]
  simp only [Res.bind_ok, List.cons_append, List.nil_append]
  rw [hasPassword_dropKeys _ _ vpw (by exact takeOrder_nodup.not_mem_of_prefix ⟨_, rfl⟩) hpw hflag]
  simp only [Res.bind_ok, List.cons_append, List.nil_append]
  rw [takeReq_dropKeys _ st.vars "gametype" vtype (by exact takeOrder_nodup.not_mem_of_prefix ⟨_, rfl⟩) htype]
  simp only [Res.bind_ok, List.cons_append, List.nil_append]
  rw [takeReq_dropKeys _ st.vars "gamever" vver (by exact takeOrder_nodup.not_mem_of_prefix ⟨_, rfl⟩) hver]
  simp only [Res.bind_ok, List.cons_append, List.nil_append]
  rw [takeTournament_dropKeys _ _ (by exact takeOrder_nodup.not_mem_of_prefix ⟨_, rfl⟩) h.tournament]
  simp only [List.cons_append, List.nil_append]
  rw [← takeOrder, dropKeys_takeOrder]
  simp only [Res.bind_ok, Res.pure_eq, expected, var, hhost, hmap, htype, hver, hpw, hmax, Option.getD_some, numOf,
    Option.bind_some, hpmax]
  rfl

theorem wf_parts (cfg : Config) (st : State) (h : wf cfg st = true) :
    wfVars st = true ∧ st.players.all wfPlayer = true ∧ st.teams.all wfTeam = true ∧ st.players.length < 2 ^ 32
    ∧ (st.pids.all fun l => l.length == st.players.length && l.all okItem) = true
    ∧ cfg.layout.flatten.all (wfSlice st) = true ∧ covered st cfg.layout.flatten = true
    ∧ cfg.layout.isEmpty = false ∧ (cfg.layout.drop 1).all (fun ss => !ss.isEmpty) = true ∧ cfg.layout.length ≤ 128
    ∧ -(2 ^ 31 : Int) ≤ cfg.challenge ∧ cfg.challenge < 2 ^ 31
    ∧ (dataPackets cfg st).all (fun d => d.length ≤ PACKET_SIZE) = true := by
  simpa only [wf, Bool.and_eq_true, decide_eq_true_eq, Bool.not_eq_true', and_assoc] using h

theorem varsOk_of (st : State) (hv : wfVars st = true) (hlisted : st.players.length < 2 ^ 32) : VarsOk st := by
  simp only [wfVars, Bool.and_eq_true, Option.isSome_iff_exists, Option.any_eq_true, Option.all_eq_true,
    List.all_eq_true] at hv
  obtain ⟨⟨⟨⟨⟨⟨⟨⟨⟨⟨hitems, hdist⟩, t1⟩, t2⟩, t3⟩, t4⟩, t5⟩, ⟨v, hv, n, hn⟩⟩, t7⟩, t8⟩, t9⟩ := hv
  exact
    { items := hitems, distinct := hdist, hostname := t1, mapname := t2, gametype := t3, gamever := t4, password := t5,
      maxplayers := ⟨v, n, hv, hn⟩, minplayers := t7, numplayers := t8, tournament := t9, listed := hlisted }

theorem wf_vars (cfg : Config) (st : State) (h : wf cfg st = true) : VarsOk st := by
  obtain ⟨hv, _, _, hlisted, _⟩ := wf_parts cfg st h
  exact varsOk_of st hv hlisted

theorem wf_layout (cfg : Config) (st : State) (h : wf cfg st = true) : LayoutOk cfg st := by
  obtain ⟨_, hp, ht, _, hpid, hsl, hcov, _⟩ := wf_parts cfg st h
  refine ⟨fun sl hsl' => List.all_eq_true.mp hsl sl hsl', hcov, fun p hp' => List.all_eq_true.mp hp p hp',
    fun t ht' => List.all_eq_true.mp ht t ht', ?_⟩
  intro l hl
  rw [hl] at hpid
  simp only [Option.all_some, Bool.and_eq_true, beq_iff_eq] at hpid
  exact ⟨hpid.1, fun v hv => List.all_eq_true.mp hpid.2 v hv⟩

theorem buildResponse_of (st : State) (hv : VarsOk st) (first : Bytes) (rest : List Bytes)
    (hp : parsePlayersAndTeams (first :: rest) = .ok (st.players, st.teams)) :
    buildResponse ((encVars st.vars ++ first) :: rest) = .ok (expected st) := by
  unfold buildResponse
  simp only [List.head?_cons, okOr, Res.bind_ok, dataToMap_encVars st.vars hv.items hv.distinct,
    List.drop_succ_cons, List.drop_zero, hp]
  exact fields_spec st hv

theorem buildVars_of (st : State) (hv : VarsOk st) (first : Bytes) (rest : List Bytes) :
    buildVars ((encVars st.vars ++ first) :: rest) = .ok st.vars := by
  simp [buildVars, okOr, dataToMap_encVars st.vars hv.items hv.distinct]

theorem buildResponse_spec (cfg : Config) (st : State) (h : wf cfg st = true) :
    buildResponse (payloads cfg st) = .ok (expected st) := by
  obtain ⟨_, _, _, _, _, _, _, hne, _⟩ := wf_parts cfg st h
  have hp := parsePlayersAndTeams_spec cfg st (wf_layout cfg st h)
  unfold payloads
  cases hlay : cfg.layout with
  | nil => rw [hlay] at hne; cases hne
  | cons first rest =>
    rw [hlay] at hp
    exact buildResponse_of st (wf_vars cfg st h) _ _ hp

theorem buildVars_spec (cfg : Config) (st : State) (h : wf cfg st = true) :
    buildVars (payloads cfg st) = .ok st.vars := by
  unfold payloads
  cases cfg.layout with
  | nil => simpa using buildVars_of st (wf_vars cfg st h) [] []
  | cons first rest => exact buildVars_of st (wf_vars cfg st h) _ _

end Gd.Gs3
