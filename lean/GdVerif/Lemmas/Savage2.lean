import GdVerif.Lemmas.SmallLogic
import GdVerif.Lemmas.SmallCost
import GdVerif.Lemmas.ValveSafe
import GdVerif.Spec.Savage2
/-
  Savage 2: crash freedom, wire conformance and field-by-field decoding of the model against the SPEC.
-/
namespace Gd.Savage2
open Gd Gd.Savage2.Spec

theorem safe_parseResponse : Safe parseResponse := by
  unfold parseResponse
  exact Safe.bind (safe_moveCursor _) fun _ => Safe.bind safe_readCStr fun _ => Safe.bind safe_readU8 fun _ =>
    Safe.bind safe_readU8 fun _ => Safe.bind safe_readCStr fun _ => Safe.bind safe_readCStr fun _ =>
    Safe.bind safe_readCStr fun _ => Safe.bind safe_readCStr fun _ => Safe.bind safe_readU8 fun _ =>
    Safe.bind safe_readCStr fun _ => Safe.bind safe_readCStr fun _ => Safe.bind safe_readU8 fun _ => Safe.pure _

/-- what a Savage 2 query may do to the transport; `id` is the number of the socket it opens -/
def EvOkAt (port id : Nat) : Ev → Prop
  | .opened c tcp p _ => c = id ∧ tcp = false ∧ p = port
  | .send c p data _ => c = id ∧ p = port ∧ data = request
  | .recv c size _ => c = id ∧ size = none

theorem query_safe (port : Nat) (w : Net) :
    (query port w).1 ≠ .crash
    ∧ ∃ added, (query port w).2.log = w.log ++ added ∧ ∀ e ∈ added, EvOkAt port w.conns.length e := by
  refine openThen_safe false port (EvOkAt port) (fun _ _ => ⟨rfl, rfl, rfl⟩) (fun s hp _ => ?_) w
  exact QSafe.bind (QSafe.send s _ _ fun _ => ⟨rfl, hp, rfl⟩) fun _ =>
    QSafe.bind (QSafe.recv s _ _ fun _ => ⟨rfl, rfl⟩) fun _ => QSafe.parse _ _ safe_parseResponse _

theorem sendBound_query (port : Nat) : SendBound 1 (query port) := SendBound.iff_sends.2 (sends_query port)

theorem okStr_iff (s : Bytes) : okStr s = true ↔ (0 : UInt8) ∉ s ∧ validUtf8 s = true := by
  simp [okStr]

theorem decodes_cstr (s : Bytes) (h : okStr s = true) : Decodes readCStr (cstr s) s := by
  obtain ⟨h0, hv⟩ := (okStr_iff s).mp h
  exact decodes_readCStr s h0 hv

/-- everything up to the ignored tail -/
def core (st : State) : Bytes :=
  st.header ++ cstr st.name ++ u8 st.numPlayers ++ u8 st.maxPlayers ++ cstr st.time ++ cstr st.map ++
  cstr st.nextMap ++ cstr st.location ++ u8 st.minPlayers ++ cstr st.gameType ++ cstr st.version ++ u8 st.minLevel

theorem encode_eq (st : State) : encode st = core st ++ st.rest := by
  simp [encode, core, List.append_assoc]

theorem decodes_response (st : State) (h : wf st = true) : Decodes parseResponse (core st) (expected st) := by
  simp only [wf, Bool.and_eq_true, decide_eq_true_eq, beq_iff_eq] at h
  obtain ⟨⟨⟨⟨⟨⟨⟨⟨⟨⟨⟨⟨hh, hname⟩, hnp⟩, hmp⟩, htime⟩, hmap⟩, hnext⟩, hloc⟩, hmin⟩, hgt⟩, hver⟩, hlvl⟩, _⟩ := h
  unfold parseResponse core
  simp only [List.append_assoc]
  have hskip : Decodes (moveCursor 12) st.header () := by
    have := decodes_skip st.header
    rwa [hh] at this
  refine Decodes.bind hskip ?_
  refine Decodes.bind (decodes_cstr _ hname) ?_
  refine Decodes.bind (decodes_u8 _ hnp) ?_
  refine Decodes.bind (decodes_u8 _ hmp) ?_
  refine Decodes.bind (decodes_cstr _ htime) ?_
  refine Decodes.bind (decodes_cstr _ hmap) ?_
  refine Decodes.bind (decodes_cstr _ hnext) ?_
  refine Decodes.bind (decodes_cstr _ hloc) ?_
  refine Decodes.bind (decodes_u8 _ hmin) ?_
  refine Decodes.bind (decodes_cstr _ hgt) ?_
  refine Decodes.bind (decodes_cstr _ hver) ?_
  exact Decodes.bind_last (decodes_u8 _ hlvl) (Decodes.pure _)

theorem run_encode (st : State) (h : wf st = true) : parseResponse.run (encode st) = .ok (expected st) := by
  rw [encode_eq]
  exact (decodes_response st h).run_append st.rest

theorem query_script (port : Nat) (d : Bytes) (hd : d.length ≤ 1024) :
    query port (Net.init [.opened [.data d]] [])
      = (parseResponse.run d, ⟨[], [[]], [], [.opened 0 false port false, .send 0 port request false,
          .recv 0 none (some d.length)]⟩) := by
  have ht : d.take 1024 = d := List.take_of_length_le hd
  simp [query, openSock, Net.init, send, recv, setAt, parse, Q.lift, ht, bind, Q.bind']

theorem query_script_fst (port : Nat) (d : Bytes) (hd : d.length ≤ 1024) :
    (query port (Net.init [.opened [.data d]] [])).1 = parseResponse.run d := by
  rw [query_script port d hd]

end Gd.Savage2
