import GdVerif.Net
import GdVerif.Lemmas.QLogic
import GdVerif.Lemmas.QFlags
import GdVerif.Spec.Faults
/-
  The exact outcome of a query computation on a script with faults.

  `Ends f r P P'`: from every transport state satisfying `P`, `f` ends with the outcome `r` (a value, an error, a crash)
  in a state satisfying `P'`.  It composes through failing attempts: rules for `>>=` on either outcome and for
  `retryOnTimeout` after a timeout-class error / on any other outcome, the latter also for a whole list of failed
  attempts (`retry_recovers`, `retry_exhausted`).  The parts of the file:

  * `Ends` and its rules;
  * facts about the vocabulary of `Spec/Faults.lean` (`flagLast`, `lastError`, `selects`, `partOf`, `Plan1`);
  * `Steps s f r σ σ'`: `Ends` for ONE socket `s`, a state being described by what is queued on the socket (`σ.q`), the
    send-fault flags still to be consumed (`σ.fs`) and the datagrams sent so far with their failed flags (`σ.sent`);
    its rules, with `maybeGather`, and the primitives `send` / `recv`;
  * units made of one exchange (`exchange1`: send the request, receive one datagram, check it) under a plan `Plan1`,
    and the whole query `query1_plan` — the route for a family whose unit is one request and one datagram; a unit of
    several requests, a read with the socket's own buffer size or a TCP stream goes through `QStepsN.lean`;
  * `RecvOnly f`: `f` sends nothing and neither reads nor changes the fault flags.
-/
namespace Gd

/-- the datagrams sent, with their failed flags, oldest first -/
def sentOf : List Ev → List (Bytes × Bool)
  | [] => []
  | .send _ _ d f :: r => (d, f) :: sentOf r
  | _ :: r => sentOf r

theorem sentOf_append (a b : List Ev) : sentOf (a ++ b) = sentOf a ++ sentOf b := by
  induction a with
  | nil => rfl
  | cons e r ih => cases e <;> simp [sentOf, ih]

def Ends (f : Q α) (r : Res α) (P P' : Net → Prop) : Prop :=
  ∀ w, P w → ∃ w', f w = (r, w') ∧ P' w'

namespace Ends
variable {α β : Type} {P P1 P2 : Net → Prop}

theorem lift (r : Res α) (P : Net → Prop) : Ends (Q.lift r) r P P :=
  fun w h => ⟨w, rfl, h⟩

theorem map {f : Q α} {g : Q β} {r : Res α} {r' : Res β} (h : Ends f r P P1)
    (hg : ∀ w w', f w = (r, w') → g w = (r', w')) : Ends g r' P P1 := by
  intro w hw
  obtain ⟨w', h1, p1⟩ := h w hw
  exact ⟨w', hg w w' h1, p1⟩

theorem seq {f : Q α} {g c : Q β} {r : Res α} {r' : Res β} (hf : Ends f r P P1) (hg : Ends g r' P1 P2)
    (hc : ∀ w w1, f w = (r, w1) → c w = g w1) : Ends c r' P P2 := by
  intro w hw
  obtain ⟨w1, h1, p1⟩ := hf w hw
  obtain ⟨w2, h2, p2⟩ := hg w1 p1
  exact ⟨w2, by rw [hc w w1 h1, h2], p2⟩

theorem bind {f : Q α} {g : α → Q β} {a : α} {r : Res β} (hf : Ends f (.ok a) P P1) (hg : Ends (g a) r P1 P2) :
    Ends (f >>= g) r P P2 :=
  seq hf hg fun w w1 e => by rw [Q.bind_apply, e]

theorem bind_err {f : Q α} {g : α → Q β} {k : ErrKind} (hf : Ends f (.err k) P P1) : Ends (f >>= g) (.err k) P P1 :=
  hf.map fun w w1 e => by rw [Q.bind_apply, e]

theorem bind_crash {f : Q α} {g : α → Q β} (hf : Ends f .crash P P1) : Ends (f >>= g) .crash P P1 :=
  hf.map fun w w1 e => by rw [Q.bind_apply, e]

theorem retry_done {f : Q α} {r : Res α} (h : Ends f r P P1) (hr : ∀ k, r = .err k → k.isTimeout = false) (n : Nat) :
    Ends (retryOnTimeout n f) r P P1 :=
  h.map fun _ _ e => retryOnTimeout_done e hr n

theorem retry_again {f : Q α} {k : ErrKind} {r : Res α} {n : Nat} (h : Ends f (.err k) P P1) (hk : k.isTimeout = true)
    (hrest : Ends (retryOnTimeout n f) r P1 P2) : Ends (retryOnTimeout (n + 1) f) r P P2 :=
  seq h hrest fun _ _ e => retryOnTimeout_again e hk n

/-! The state is described by what is still to be consumed, the send-fault flags left and the datagrams sent: `I q fs sn`.
A failed attempt `a` (one satisfying `ok`) consumes `del a` and the flags `flt a`, sends `snd a` and ends in the
timeout-class error `err a`. -/

variable {Δ A : Type} (I : List Δ → List Bool → List (Bytes × Bool) → Net → Prop) {f : Q α} (ok : A → Prop)
  (del : A → List Δ) (flt : A → List Bool) (snd : A → List (Bytes × Bool)) (err : A → ErrKind)
  (herr : ∀ a, (err a).isTimeout = true)
  (hstep : ∀ a, ok a → ∀ q fs sn, Ends f (.err (err a)) (I (del a ++ q) (flt a ++ fs) sn) (I q fs (sn ++ snd a)))
include herr hstep

/-- Failed attempts, then an attempt that ends with `R`, not a timeout: with at least as many retries as failed attempts
the unit ends with `R` — the failed attempts followed by that one are all that happens. -/
theorem retry_recovers {R : Res α} (hR : ∀ k, R = .err k → k.isTimeout = false) (dq q' : List Δ) (df fs' : List Bool)
    (ds : List (Bytes × Bool)) (hfin : ∀ sn, Ends f R (I dq df sn) (I q' fs' (sn ++ ds))) :
    ∀ (fails : List A) (r : Nat) (sn : List (Bytes × Bool)), (∀ a ∈ fails, ok a) → fails.length ≤ r →
      Ends (retryOnTimeout r f) R (I (fails.flatMap del ++ dq) (fails.flatMap flt ++ df) sn)
        (I q' fs' (sn ++ (fails.flatMap snd ++ ds))) := by
  intro fails
  induction fails with
  | nil =>
    intro r sn _ _
    simpa only [List.flatMap_nil, List.nil_append] using retry_done (hfin sn) hR r
  | cons a rest ih =>
    intro r sn hok hr
    obtain ⟨r', rfl⟩ : ∃ r', r = r' + 1 := ⟨r - 1, by simp only [List.length_cons] at hr; omega⟩
    have h1 := hstep a (hok a List.mem_cons_self) (rest.flatMap del ++ dq) (rest.flatMap flt ++ df) sn
    have h2 := ih r' (sn ++ snd a) (fun b hb => hok b (List.mem_cons_of_mem _ hb)) (Nat.le_of_succ_le_succ hr)
    simpa only [List.flatMap_cons, List.append_assoc] using retry_again h1 (herr a) h2

/-- All `r + 1` attempts end in a timeout-class error: the unit fails with the last attempt's error; nothing beyond
those attempts is consumed or sent. -/
theorem retry_exhausted (q : List Δ) (fs : List Bool) :
    ∀ (r : Nat) (fails : List A) (sn : List (Bytes × Bool)), (∀ a ∈ fails, ok a) → fails.length = r + 1 →
      Ends (retryOnTimeout r f) (.err (Faults.lastError err fails))
        (I (fails.flatMap del ++ q) (fails.flatMap flt ++ fs) sn) (I q fs (sn ++ fails.flatMap snd)) := by
  intro r
  induction r with
  | zero =>
    intro fails sn hok hlen
    match fails, hok, hlen with
    | [a], hok, _ =>
      have h0 : Ends (retryOnTimeout 0 f) (.err (Faults.lastError err [a])) (I (del a ++ q) (flt a ++ fs) sn)
          (I q fs (sn ++ snd a)) := hstep a (hok a List.mem_cons_self) q fs sn
      simpa only [List.flatMap_cons, List.flatMap_nil, List.append_nil] using h0
  | succ r ih =>
    intro fails sn hok hlen
    match fails, hok, hlen with
    | a :: b :: rest, hok, hlen =>
      have h1 := hstep a (hok a List.mem_cons_self) ((b :: rest).flatMap del ++ q) ((b :: rest).flatMap flt ++ fs) sn
      have h2 := ih (b :: rest) (sn ++ snd a) (fun c hc => hok c (List.mem_cons_of_mem _ hc)) (Nat.succ.inj hlen)
      have := retry_again h1 (herr a) h2
      rw [← List.append_assoc, ← List.append_assoc, List.append_assoc sn] at this
      exact this

end Ends

theorem Faults.flagLast_false (ds : List Bytes) : Faults.flagLast ds false = ds.map (·, false) := by
  induction ds with
  | nil => rfl
  | cons d r ih =>
    cases r with
    | nil => rfl
    | cons d' r' => simp only [Faults.flagLast, ih, List.map_cons]

theorem flagLast_fst (l : List Bytes) (f : Bool) : (Faults.flagLast l f).map Prod.fst = l := by
  induction l with
  | nil => rfl
  | cons d r ih =>
    cases r with
    | nil => rfl
    | cons d' r' => simp only [Faults.flagLast, List.map_cons, ih]

theorem selects_perm : ∀ (got pool : List Bytes), Faults.selects got pool = true →
    ∃ more, more ≠ [] ∧ (got ++ more).Perm pool := by
  intro got
  induction got with
  | nil =>
    intro pool h
    exact ⟨pool, by simpa [Faults.selects] using h, by simp⟩
  | cons d r ih =>
    intro pool h
    simp only [Faults.selects, Bool.and_eq_true, List.contains_iff_mem] at h
    obtain ⟨more, hne, hp⟩ := ih (pool.erase d) h.2
    exact ⟨more, hne, (List.Perm.cons d hp).trans (List.perm_cons_erase h.1).symm⟩

theorem selects_mem {got pool : List Bytes} (h : Faults.selects got pool = true) : ∀ d ∈ got, d ∈ pool := by
  obtain ⟨more, _, hp⟩ := selects_perm got pool h
  exact fun d hd => hp.subset (List.mem_append_left _ hd)

theorem selects_length {got pool : List Bytes} (h : Faults.selects got pool = true) : got.length < pool.length := by
  obtain ⟨more, hne, hp⟩ := selects_perm got pool h
  have := hp.length_eq
  have : 0 < more.length := List.length_pos_iff.mpr hne
  simp only [List.length_append] at *
  omega

theorem partOf_short {got pool : List Bytes} (h : Faults.partOf got pool = true) (hp : pool.length ≤ 1) : got = [] := by
  cases got with
  | nil => rfl
  | cons d r =>
    have hs : Faults.selects (d :: r) pool = true := by simpa [Faults.partOf] using h
    have := selects_length hs
    simp only [List.length_cons] at this
    omega

theorem partOf_mem {got pool : List Bytes} (h : Faults.partOf got pool = true) : ∀ d ∈ got, d ∈ pool := by
  cases got with
  | nil => intro d hd; cases hd
  | cons d r => exact selects_mem (by simpa [Faults.partOf] using h)

theorem partOf_length {got pool : List Bytes} (h : Faults.partOf got pool = true) (hne : got ≠ []) :
    got.length < pool.length := by
  cases got with
  | nil => exact absurd rfl hne
  | cons d r => exact selects_length (by simpa [Faults.partOf] using h)

theorem attemptError_timeout (f : Bool) : (Faults.attemptError f).isTimeout = true := by
  cases f <;> rfl

theorem attemptError_class (f : Bool) : Faults.attemptError f = .packetReceive ∨ Faults.attemptError f = .packetSend := by
  cases f
  · exact .inl rfl
  · exact .inr rfl

theorem Plan1.sends_length (req : Bytes) (p : Faults.Plan1) : (p.sends req).length = p.attempts := by
  obtain ⟨fails, answer⟩ := p
  cases answer <;> simp [Faults.Plan1.sends, Faults.Plan1.attempts]

theorem Plan1.sends_all (req : Bytes) (p : Faults.Plan1) : ∀ e ∈ p.sends req, e.1 = req := by
  obtain ⟨fails, answer⟩ := p
  intro e he
  cases answer with
  | none =>
    simp only [Faults.Plan1.sends, List.append_nil, List.mem_map] at he
    obtain ⟨f, _, rfl⟩ := he; rfl
  | some d =>
    simp only [Faults.Plan1.sends, List.mem_append, List.mem_map, List.mem_singleton] at he
    rcases he with ⟨f, _, rfl⟩ | rfl <;> rfl

theorem lastError_concat {A : Type} (err : A → ErrKind) (fails : List A) (a : A) :
    Faults.lastError err (fails ++ [a]) = err a := by
  induction fails with
  | nil => rfl
  | cons b r ih =>
    cases r with
    | nil => rfl
    | cons c r' => exact ih

theorem lastError_attempt (fails : List Bool) (f : Bool) :
    Faults.lastError Faults.attemptError (fails ++ [f]) = (if f then .packetSend else .packetReceive) :=
  lastError_concat _ fails f

theorem lastError_recv_or_send {A : Type} (err : A → ErrKind) (herr : ∀ a, err a = .packetReceive ∨ err a = .packetSend)
    (fails : List A) : Faults.lastError err fails = .packetReceive ∨ Faults.lastError err fails = .packetSend := by
  induction fails with
  | nil => exact .inl rfl
  | cons a r ih =>
    cases r with
    | nil => exact herr a
    | cons b r' => exact ih

theorem flatMap_singleton {α β : Type} (g : α → β) (l : List α) : l.flatMap (fun a => [g a]) = l.map g := by
  induction l with
  | nil => rfl
  | cons a r ih => simp [List.flatMap_cons, ih]

structure St where
  /-- deliveries still queued on the socket -/
  q : List Delivery
  /-- send-fault flags not yet consumed -/
  fs : List Bool
  /-- datagrams sent so far -/
  sent : List (Bytes × Bool)

/-- `σ` describes `w` as seen from socket `s`, which is open -/
structure AtS (s : Sock) (w : Net) (σ : St) : Prop where
  faults : w.faults = σ.fs
  isOpen : s.id < w.conns.length
  queue : w.conns.getD s.id [] = σ.q
  sent : sentOf w.log = σ.sent

def Steps (s : Sock) (f : Q α) (r : Res α) (σ σ' : St) : Prop :=
  ∀ w, AtS s w σ → ∃ w', f w = (r, w') ∧ AtS s w' σ'

namespace Steps

theorem outcome {s : Sock} {f : Q α} {r : Res α} {σ σ' : St} (h : Steps s f r σ σ') (w : Net) (hw : AtS s w σ) :
    (f w).1 = r ∧ sentOf (f w).2.log = σ'.sent := by
  obtain ⟨w', h1, h2⟩ := h w hw
  rw [h1]
  exact ⟨rfl, h2.sent⟩

theorem pure (s : Sock) (a : α) (σ : St) : Steps s (Pure.pure a : Q α) (.ok a) σ σ :=
  Ends.lift (.ok a) _

theorem lift (s : Sock) (r : Res α) (σ : St) : Steps s (Q.lift r) r σ σ :=
  Ends.lift r _

theorem fail (s : Sock) (k : ErrKind) (σ : St) : Steps s (Q.fail k : Q α) (.err k) σ σ :=
  Ends.lift (.err k) _

theorem parse (s : Sock) (p : Par α) (data : Bytes) (σ : St) : Steps s (Gd.parse p data) (p.run data) σ σ :=
  Ends.lift (p.run data) _

theorem congr {s : Sock} {f g : Q α} {r : Res α} {σ σ' : St} (h : Steps s f r σ σ') (hfg : g = f) :
    Steps s g r σ σ' := hfg ▸ h

theorem congrRes {s : Sock} {f : Q α} {r r' : Res α} {σ σ' : St} (h : Steps s f r σ σ') (hr : r' = r) :
    Steps s f r' σ σ' := hr ▸ h

theorem bind {s : Sock} {f : Q α} {g : α → Q β} {a : α} {r : Res β} {σ σ1 σ2 : St}
    (hf : Steps s f (.ok a) σ σ1) (hg : Steps s (g a) r σ1 σ2) : Steps s (f >>= g) r σ σ2 :=
  Ends.bind hf hg

theorem bind_err {s : Sock} {f : Q α} {g : α → Q β} {k : ErrKind} {σ σ1 : St}
    (hf : Steps s f (.err k) σ σ1) : Steps s (f >>= g) (.err k) σ σ1 :=
  Ends.bind_err hf

theorem bind_crash {s : Sock} {f : Q α} {g : α → Q β} {σ σ1 : St}
    (hf : Steps s f .crash σ σ1) : Steps s (f >>= g) .crash σ σ1 :=
  Ends.bind_crash hf

theorem bind_res {s : Sock} {f : Q α} {g : α → Q β} {r : Res α} {k : α → Res β} {σ σ1 : St}
    (hf : Steps s f r σ σ1) (hg : ∀ a, r = .ok a → Steps s (g a) (k a) σ1 σ1) : Steps s (f >>= g) (r >>= k) σ σ1 := by
  cases r with
  | ok a => exact bind hf (hg a rfl)
  | err e => exact bind_err hf
  | crash => exact bind_crash hf

/-- A unit whose first attempts each end in a timeout-class error (attempt `a`, which satisfies the side condition `ok` —
e.g. the datagrams it receives before the silence are parts of the reply —, consumes `del a` of the queue and `flt a` of
the flags, sends `snd a`) and whose next attempt ends with `R`, not a timeout: with at least as many retries as failed
attempts the unit ends with `R` — the failed attempts followed by that one are all that happens. -/
theorem retry_recovers_of {s : Sock} {f : Q α} {A : Type} (ok : A → Prop) (del : A → List Delivery)
    (flt : A → List Bool) (snd : A → List (Bytes × Bool)) (err : A → ErrKind) (herr : ∀ a, (err a).isTimeout = true)
    (hstep : ∀ a, ok a → ∀ q fs sn, Steps s f (.err (err a)) ⟨del a ++ q, flt a ++ fs, sn⟩ ⟨q, fs, sn ++ snd a⟩)
    {R : Res α} (hR : ∀ k, R = .err k → k.isTimeout = false)
    (dq q' : List Delivery) (df fs' : List Bool) (ds : List (Bytes × Bool))
    (hfin : ∀ sn, Steps s f R ⟨dq, df, sn⟩ ⟨q', fs', sn ++ ds⟩) :
    ∀ (fails : List A) (r : Nat) (sn : List (Bytes × Bool)), (∀ a ∈ fails, ok a) → fails.length ≤ r →
      Steps s (retryOnTimeout r f) R ⟨fails.flatMap del ++ dq, fails.flatMap flt ++ df, sn⟩
        ⟨q', fs', sn ++ (fails.flatMap snd ++ ds)⟩ :=
  Ends.retry_recovers (fun q fs sn w => AtS s w ⟨q, fs, sn⟩) ok del flt snd err herr hstep hR dq q' df fs' ds hfin

/-- A unit all of whose `r + 1` attempts end in a timeout-class error fails with the last attempt's error; nothing
beyond those attempts is consumed or sent. -/
theorem retry_exhausted_of {s : Sock} {f : Q α} {A : Type} (ok : A → Prop) (del : A → List Delivery)
    (flt : A → List Bool) (snd : A → List (Bytes × Bool)) (err : A → ErrKind) (herr : ∀ a, (err a).isTimeout = true)
    (hstep : ∀ a, ok a → ∀ q fs sn, Steps s f (.err (err a)) ⟨del a ++ q, flt a ++ fs, sn⟩ ⟨q, fs, sn ++ snd a⟩)
    (q : List Delivery) (fs : List Bool) :
    ∀ (r : Nat) (fails : List A) (sn : List (Bytes × Bool)), (∀ a ∈ fails, ok a) → fails.length = r + 1 →
      Steps s (retryOnTimeout r f) (.err (Faults.lastError err fails))
        ⟨fails.flatMap del ++ q, fails.flatMap flt ++ fs, sn⟩ ⟨q, fs, sn ++ fails.flatMap snd⟩ :=
  Ends.retry_exhausted (fun q fs sn w => AtS s w ⟨q, fs, sn⟩) ok del flt snd err herr hstep q fs

/-- `retry_recovers_of` without a side condition on the failed attempts -/
theorem retry_recovers {s : Sock} {f : Q α} {A : Type} (del : A → List Delivery) (flt : A → List Bool)
    (snd : A → List (Bytes × Bool)) (err : A → ErrKind) (herr : ∀ a, (err a).isTimeout = true)
    (hstep : ∀ a q fs sn, Steps s f (.err (err a)) ⟨del a ++ q, flt a ++ fs, sn⟩ ⟨q, fs, sn ++ snd a⟩)
    {R : Res α} (hR : ∀ k, R = .err k → k.isTimeout = false)
    (dq q' : List Delivery) (df fs' : List Bool) (ds : List (Bytes × Bool))
    (hfin : ∀ sn, Steps s f R ⟨dq, df, sn⟩ ⟨q', fs', sn ++ ds⟩) :
    ∀ (fails : List A) (r : Nat) (sn : List (Bytes × Bool)), fails.length ≤ r →
      Steps s (retryOnTimeout r f) R ⟨fails.flatMap del ++ dq, fails.flatMap flt ++ df, sn⟩
        ⟨q', fs', sn ++ (fails.flatMap snd ++ ds)⟩ :=
  fun fails r sn => retry_recovers_of (fun _ => True) del flt snd err herr (fun a _ => hstep a) hR dq q' df fs' ds hfin
    fails r sn fun _ _ => trivial

/-- `retry_exhausted_of` without a side condition on the failed attempts -/
theorem retry_exhausted {s : Sock} {f : Q α} {A : Type} (del : A → List Delivery) (flt : A → List Bool)
    (snd : A → List (Bytes × Bool)) (err : A → ErrKind) (herr : ∀ a, (err a).isTimeout = true)
    (hstep : ∀ a q fs sn, Steps s f (.err (err a)) ⟨del a ++ q, flt a ++ fs, sn⟩ ⟨q, fs, sn ++ snd a⟩)
    (q : List Delivery) (fs : List Bool) :
    ∀ (r : Nat) (fails : List A) (sn : List (Bytes × Bool)), fails.length = r + 1 →
      Steps s (retryOnTimeout r f) (.err (Faults.lastError err fails))
        ⟨fails.flatMap del ++ q, fails.flatMap flt ++ fs, sn⟩ ⟨q, fs, sn ++ fails.flatMap snd⟩ :=
  fun r fails sn => retry_exhausted_of (fun _ => True) del flt snd err herr (fun a _ => hstep a) q fs
    r fails sn fun _ _ => trivial

/-- a computation whose fuel is taken from the number of queued deliveries (`qlen w s.id + 1`, the models' `queued s w + 1`):
any fuel above the queue's length will do -/
theorem fuelled {s : Sock} {g : Nat → Q α} {r : Res α} {σ σ' : St}
    (h : ∀ n, σ.q.length < n → Steps s (g n) r σ σ') :
    Steps s (fun w => g ((w.conns.getD s.id []).length + 1) w) r σ σ' := by
  intro w hw
  exact h ((w.conns.getD s.id []).length + 1) (by rw [hw.queue]; omega) w hw

theorem gather_skip (s : Sock) (f : Q α) (σ : St) : Steps s (maybeGather .skip f) (.ok none) σ σ :=
  fun w h => ⟨w, rfl, h⟩

/-- what `maybe_gather!` (toggle not Skip) makes of the outcome of the gathered computation -/
def gatherRes {α : Type} (t : Toggle) : Res α → Res (Option α)
  | .ok a => .ok (some a)
  | .err k => if t = .try_ then .ok none else .err k
  | .crash => .crash

theorem gatherRes_run {t : Toggle} (ht : t ≠ .skip) (f : Q α) (w : Net) :
    maybeGather t f w = (gatherRes t (f w).1, (f w).2) := by
  cases t with
  | skip => exact absurd rfl ht
  | try_ =>
    simp only [maybeGather]
    cases f w with
    | mk r w' => cases r <;> rfl
  | enforce =>
    simp only [maybeGather]
    rw [Q.bind_apply]
    cases f w with
    | mk r w' => cases r <;> rfl

theorem gather {s : Sock} {f : Q α} {r : Res α} {σ σ' : St} (h : Steps s f r σ σ') (t : Toggle) (ht : t ≠ .skip) :
    Steps s (maybeGather t f) (gatherRes t r) σ σ' :=
  Ends.map h fun w w' e => by rw [gatherRes_run ht, e]

theorem gather_ok {s : Sock} {f : Q α} {a : α} {σ σ' : St} (h : Steps s f (.ok a) σ σ') (t : Toggle)
    (ht : t ≠ .skip) : Steps s (maybeGather t f) (.ok (some a)) σ σ' :=
  gather h t ht

theorem gather_try_err {s : Sock} {f : Q α} {k : ErrKind} {σ σ' : St} (h : Steps s f (.err k) σ σ') :
    Steps s (maybeGather .try_ f) (.ok none) σ σ' :=
  gather h .try_ (by decide)

theorem gather_enforce_err {s : Sock} {f : Q α} {k : ErrKind} {σ σ' : St} (h : Steps s f (.err k) σ σ') :
    Steps s (maybeGather .enforce f) (.err k) σ σ' :=
  gather h .enforce (by decide)

end Steps

theorem AtS.sent_step {s : Sock} {w : Net} {σ : St} (h : AtS s w σ) (fs : List Bool) (data : Bytes) (failed : Bool) :
    AtS s { w with faults := fs, log := w.log ++ [.send s.id s.port data failed] }
      ⟨σ.q, fs, σ.sent ++ [(data, failed)]⟩ :=
  ⟨rfl, h.isOpen, h.queue, by simp only [sentOf_append, sentOf, h.sent]⟩

theorem AtS.dequeued {s : Sock} {w : Net} {σ : St} (h : AtS s w σ) (q : List Delivery) (size : Option Nat)
    (got : Option Nat) :
    AtS s { w with conns := setAt w.conns s.id q, log := w.log ++ [.recv s.id size got] } ⟨q, σ.fs, σ.sent⟩ :=
  ⟨h.faults, by simpa only [setAt_length] using h.isOpen,
    by simp only [getD_setAt, h.isOpen, and_self, ↓reduceIte],
    by simp only [sentOf_append, sentOf, h.sent, List.append_nil]⟩

theorem AtS.logged_recv {s : Sock} {w : Net} {σ : St} (h : AtS s w σ) (size : Option Nat) (got : Option Nat) :
    AtS s { w with log := w.log ++ [.recv s.id size got] } σ :=
  ⟨h.faults, h.isOpen, h.queue, by simp only [sentOf_append, sentOf, h.sent, List.append_nil]⟩

theorem steps_send_ok (s : Sock) (data : Bytes) (q : List Delivery) (fs : List Bool) (sn : List (Bytes × Bool)) :
    Steps s (send s data) (.ok ()) ⟨q, false :: fs, sn⟩ ⟨q, fs, sn ++ [(data, false)]⟩ := by
  intro w h
  have hf : w.faults = false :: fs := h.faults
  exact ⟨_, by simp only [send, hf], h.sent_step fs data false⟩

theorem steps_send_nil (s : Sock) (data : Bytes) (q : List Delivery) (sn : List (Bytes × Bool)) :
    Steps s (send s data) (.ok ()) ⟨q, [], sn⟩ ⟨q, [], sn ++ [(data, false)]⟩ := by
  intro w h
  have hf : w.faults = [] := h.faults
  refine ⟨{ w with log := w.log ++ [.send s.id s.port data false] }, by simp only [send, hf], ?_⟩
  exact ⟨hf, h.isOpen, h.queue, by simp only [sentOf_append, sentOf, h.sent]⟩

theorem steps_send_fault (s : Sock) (data : Bytes) (q : List Delivery) (fs : List Bool) (sn : List (Bytes × Bool)) :
    Steps s (send s data) (.err .packetSend) ⟨q, true :: fs, sn⟩ ⟨q, fs, sn ++ [(data, true)]⟩ := by
  intro w h
  have hf : w.faults = true :: fs := h.faults
  exact ⟨_, by simp only [send, hf], h.sent_step fs data true⟩

theorem steps_recv_data (s : Sock) (size : Option Nat) (d : Bytes) (q : List Delivery) (fs : List Bool)
    (sn : List (Bytes × Bool)) :
    Steps s (recv s size) (.ok (if s.tcp then d else d.take (size.getD 1024))) ⟨.data d :: q, fs, sn⟩ ⟨q, fs, sn⟩ := by
  intro w h
  have hq : w.conns.getD s.id [] = .data d :: q := h.queue
  exact ⟨_, by simp only [recv, hq], h.dequeued q size (some (if s.tcp then d else d.take (size.getD 1024)).length)⟩

theorem steps_recv_whole (s : Sock) (size : Option Nat) (d : Bytes) (h : s.tcp = true ∨ d.length ≤ size.getD 1024)
    (q : List Delivery) (fs : List Bool) (sn : List (Bytes × Bool)) :
    Steps s (recv s size) (.ok d) ⟨.data d :: q, fs, sn⟩ ⟨q, fs, sn⟩ := by
  refine (steps_recv_data s size d q fs sn).congrRes ?_
  rcases h with h | h
  · simp only [h, ↓reduceIte]
  · simp only [List.take_of_length_le h, ite_self]

theorem steps_recv (s : Sock) (hudp : s.tcp = false) (size : Nat) (d : Bytes) (hl : d.length ≤ size)
    (q : List Delivery) (fs : List Bool) (sn : List (Bytes × Bool)) :
    Steps s (recv s (some size)) (.ok d) ⟨.data d :: q, fs, sn⟩ ⟨q, fs, sn⟩ :=
  steps_recv_whole s (some size) d (.inr hl) q fs sn

theorem steps_recv_take (s : Sock) (hudp : s.tcp = false) (size : Nat) (d : Bytes)
    (q : List Delivery) (fs : List Bool) (sn : List (Bytes × Bool)) :
    Steps s (recv s (some size)) (.ok (d.take size)) ⟨.data d :: q, fs, sn⟩ ⟨q, fs, sn⟩ :=
  (steps_recv_data s (some size) d q fs sn).congrRes (by simp only [hudp, Bool.false_eq_true, ↓reduceIte, Option.getD_some])

theorem steps_recv_silence (s : Sock) (size : Option Nat) (q : List Delivery) (fs : List Bool)
    (sn : List (Bytes × Bool)) :
    Steps s (recv s size) (.err .packetReceive) ⟨.silence :: q, fs, sn⟩ ⟨q, fs, sn⟩ := by
  intro w h
  have hq : w.conns.getD s.id [] = .silence :: q := h.queue
  exact ⟨_, by simp only [recv, hq], h.dequeued q size none⟩

/-- nothing queued on a UDP socket: the receive times out -/
theorem steps_recv_empty (s : Sock) (hudp : s.tcp = false) (size : Option Nat) (fs : List Bool)
    (sn : List (Bytes × Bool)) :
    Steps s (recv s size) (.err .packetReceive) ⟨[], fs, sn⟩ ⟨[], fs, sn⟩ := by
  intro w h
  have hq : w.conns.getD s.id [] = [] := h.queue
  exact ⟨_, by simp only [recv, hq, hudp, Bool.false_eq_true, ↓reduceIte], h.logged_recv size none⟩

/-- the peer has closed the stream: the read returns nothing (and the stream stays closed) -/
theorem steps_recv_closed (s : Sock) (htcp : s.tcp = true) (size : Option Nat) (fs : List Bool)
    (sn : List (Bytes × Bool)) :
    Steps s (recv s size) (.ok []) ⟨[], fs, sn⟩ ⟨[], fs, sn⟩ := by
  intro w h
  have hq : w.conns.getD s.id [] = [] := h.queue
  exact ⟨_, by simp only [recv, hq, htcp, ↓reduceIte], h.logged_recv size (some 0)⟩

theorem flagBlind_exchange1 {α : Type} (s : Sock) (req : Bytes) (size : Nat) (check : Bytes → Res α) :
    FlagBlind (exchange1 s req size check) :=
  FlagBlind.bind (FlagBlind.send s req) fun _ => FlagBlind.bind (FlagBlind.recv s _) fun _ => FlagBlind.lift _

theorem steps_exchange1_fail {α : Type} (s : Sock) (req : Bytes) (size : Nat) (check : Bytes → Res α) (f : Bool)
    (q : List Delivery) (fs : List Bool) (sn : List (Bytes × Bool)) :
    Steps s (exchange1 s req size check) (.err (Faults.attemptError f))
      ⟨(if f then [] else [Delivery.silence]) ++ q, [f] ++ fs, sn⟩ ⟨q, fs, sn ++ [(req, f)]⟩ := by
  unfold exchange1
  cases f with
  | true => exact Steps.bind_err (steps_send_fault s req q fs sn)
  | false =>
    exact Steps.bind (steps_send_ok s req _ fs sn) (Steps.bind_err (steps_recv_silence s _ q fs _))

theorem steps_exchange1_answer {α : Type} (s : Sock) (hudp : s.tcp = false) (req : Bytes) (size : Nat)
    (check : Bytes → Res α) (d : Bytes) (hl : d.length ≤ size) (q : List Delivery) (fs : List Bool)
    (sn : List (Bytes × Bool)) :
    Steps s (exchange1 s req size check) (check d) ⟨[.data d] ++ q, [false] ++ fs, sn⟩ ⟨q, fs, sn ++ [(req, false)]⟩ := by
  unfold exchange1
  exact Steps.bind (steps_send_ok s req _ fs sn) (Steps.bind (steps_recv s hudp size d hl q fs _) (Steps.lift s _ _))

/-- A one-exchange unit under `retry_on_timeout` on the script of a plan in C10's domain: the outcome is the plan's
(`check` of the answer — which is never retried — after at most `retries` failures, or the last failure's error after
`retries + 1`), exactly the plan's deliveries and flags are consumed, exactly its requests sent; anything may follow. -/
theorem steps_exchange1_plan {α : Type} (s : Sock) (hudp : s.tcp = false) (req : Bytes) (size : Nat)
    (check : Bytes → Res α) (retries : Nat) (p : Faults.Plan1) (hp : p.wf retries size = true)
    (hcheck : ∀ d k, p.answer = some d → check d = .err k → k.isTimeout = false)
    (q : List Delivery) (fs : List Bool) (sn : List (Bytes × Bool)) :
    Steps s (retryOnTimeout retries (exchange1 s req size check)) (p.outcome check)
      ⟨p.deliveries ++ q, p.faults ++ fs, sn⟩ ⟨q, fs, sn ++ p.sends req⟩ := by
  obtain ⟨fails, answer⟩ := p
  have hflat : fails.flatMap (fun f => [f]) = fails := flatMap_singleton id fails |>.trans (List.map_id _)
  have hmap : fails.flatMap (fun f => [(req, f)]) = fails.map fun f => (req, f) := flatMap_singleton _ fails
  cases answer with
  | some d =>
    simp only [Faults.Plan1.wf, Bool.and_eq_true, decide_eq_true_eq] at hp
    have h := Steps.retry_recovers (f := exchange1 s req size check)
      (fun f : Bool => if f then [] else [Delivery.silence]) (fun f => [f]) (fun f => [(req, f)]) Faults.attemptError
      attemptError_timeout (fun a q fs sn => steps_exchange1_fail s req size check a q fs sn)
      (R := check d) (fun k hk => hcheck d k rfl hk) ([.data d] ++ q) q ([false] ++ fs) fs [(req, false)]
      (fun sn => steps_exchange1_answer s hudp req size check d hp.2 q fs sn) fails retries sn hp.1
    rw [hflat, hmap] at h
    simpa [Faults.Plan1.deliveries, Faults.Plan1.faults, Faults.Plan1.sends, Faults.Plan1.outcome,
      List.append_assoc] using h
  | none =>
    simp only [Faults.Plan1.wf, beq_iff_eq] at hp
    have h := Steps.retry_exhausted (f := exchange1 s req size check)
      (fun f : Bool => if f then [] else [Delivery.silence]) (fun f => [f]) (fun f => [(req, f)]) Faults.attemptError
      attemptError_timeout (fun a q fs sn => steps_exchange1_fail s req size check a q fs sn) q fs retries fails sn hp
    rw [hflat, hmap] at h
    simpa [Faults.Plan1.deliveries, Faults.Plan1.faults, Faults.Plan1.sends, Faults.Plan1.outcome] using h

/-- A whole query "open a socket (UDP or TCP), then `f` on it" on a script of one connection: result and sent list are
those of `f`'s `Steps` fact from the state in which the script is queued and nothing has been sent. -/
theorem open_outcome {α : Type} (tcp : Bool) (port : Nat) (f : Sock → Q α) (r : Res α) (q : List Delivery)
    (fs : List Bool) (σ' : St) (h : Steps ⟨0, port, tcp⟩ (f ⟨0, port, tcp⟩) r ⟨q, fs, []⟩ σ') :
    ((openSock tcp port >>= f) (Net.init [.opened q] fs)).1 = r
    ∧ sentOf ((openSock tcp port >>= f) (Net.init [.opened q] fs)).2.log = σ'.sent :=
  h.outcome ⟨[], [q], fs, [.opened 0 tcp port false]⟩ ⟨rfl, Nat.zero_lt_one, rfl, rfl⟩

theorem openUdp_outcome {α : Type} (port : Nat) (f : Sock → Q α) (r : Res α) (q : List Delivery) (fs : List Bool)
    (σ' : St) (h : Steps ⟨0, port, false⟩ (f ⟨0, port, false⟩) r ⟨q, fs, []⟩ σ') :
    ((openSock false port >>= f) (Net.init [.opened q] fs)).1 = r
    ∧ sentOf ((openSock false port >>= f) (Net.init [.opened q] fs)).2.log = σ'.sent :=
  open_outcome false port f r q fs σ' h

/-- A whole query of the shape "open a UDP socket, run a one-exchange unit under `retry_on_timeout`, decode": on the
script of a plan (followed by anything) its result is the plan's outcome passed to the decoder, and what it sent are the
plan's requests. -/
theorem query1_plan {α β : Type} (port retries : Nat) (req : Bytes) (size : Nat) (check : Bytes → Res α)
    (k : α → Res β) (p : Faults.Plan1) (hp : p.wf retries size = true)
    (hcheck : ∀ d e, p.answer = some d → check d = .err e → e.isTimeout = false)
    (restQ : List Delivery) (restF : List Bool) :
    ((openSock false port >>= fun s =>
        retryOnTimeout retries (exchange1 s req size check) >>= fun a => Q.lift (k a))
      (Net.init [.opened (p.deliveries ++ restQ)] (p.faults ++ restF))).1 = (p.outcome check >>= k)
    ∧ sentOf ((openSock false port >>= fun s =>
        retryOnTimeout retries (exchange1 s req size check) >>= fun a => Q.lift (k a))
      (Net.init [.opened (p.deliveries ++ restQ)] (p.faults ++ restF))).2.log = p.sends req := by
  have h := openUdp_outcome port
    (fun s => retryOnTimeout retries (exchange1 s req size check) >>= fun a => Q.lift (k a)) _ _ _ _
    (Steps.bind_res (k := k) (steps_exchange1_plan ⟨0, port, false⟩ rfl req size check retries p hp hcheck restQ restF [])
      fun a _ => Steps.lift _ _ _)
  simpa only [List.nil_append] using h

/-- `f` neither reads nor changes the send-fault flags, and sends nothing -/
structure RecvOnly (f : Q α) : Prop where
  frame : ∀ (w : Net) (fs : List Bool), f { w with faults := fs } = ((f w).1, { (f w).2 with faults := fs })
  quiet : ∀ w : Net, ∃ added, (f w).2.log = w.log ++ added ∧ sentOf added = []
  conns : ∀ w : Net, (f w).2.faults = w.faults

namespace RecvOnly

theorem pure (a : α) : RecvOnly (Pure.pure a : Q α) :=
  ⟨fun _ _ => rfl, fun w => ⟨[], by simp, rfl⟩, fun _ => rfl⟩

theorem lift (r : Res α) : RecvOnly (Q.lift r) :=
  ⟨fun _ _ => rfl, fun w => ⟨[], by simp [Q.lift], rfl⟩, fun _ => rfl⟩

theorem parse (p : Par α) (data : Bytes) : RecvOnly (Gd.parse p data) := lift _

/-- the third field follows from the first: run `f` with the flags it finds -/
theorem of_frame {f : Q α}
    (frame : ∀ (w : Net) (fs : List Bool), f { w with faults := fs } = ((f w).1, { (f w).2 with faults := fs }))
    (quiet : ∀ w : Net, ∃ added, (f w).2.log = w.log ++ added ∧ sentOf added = []) : RecvOnly f :=
  ⟨frame, quiet, fun w => (congrArg (fun x => x.2.faults) (frame w w.faults)).trans rfl⟩

theorem recv (s : Sock) (size : Option Nat) : RecvOnly (Gd.recv s size) := by
  refine of_frame (fun w fs => ?_) (fun w => ?_)
  · unfold Gd.recv
    simp only
    split
    · rfl
    · rfl
    · split <;> rfl
  · obtain ⟨got, h⟩ := recv_log s size w
    exact ⟨_, h, rfl⟩

theorem bind {f : Q α} {g : α → Q β} (hf : RecvOnly f) (hg : ∀ a, RecvOnly (g a)) : RecvOnly (f >>= g) := by
  refine of_frame (fun w fs => ?_) (fun w => ?_)
  · rw [Q.bind_apply, Q.bind_apply, hf.frame w fs]
    cases h : f w with
    | mk res w1 =>
      cases res with
      | ok a => exact (hg a).frame w1 fs
      | err k => rfl
      | crash => rfl
  · rw [Q.bind_apply]
    obtain ⟨a1, e1, s1⟩ := hf.quiet w
    cases h : f w with
    | mk res w1 =>
      rw [h] at e1
      cases res with
      | ok a =>
        obtain ⟨a2, e2, s2⟩ := (hg a).quiet w1
        exact ⟨a1 ++ a2, by simp only; rw [e2, e1, List.append_assoc], by rw [sentOf_append, s1, s2]; rfl⟩
      | err k => exact ⟨a1, e1, s1⟩
      | crash => exact ⟨a1, e1, s1⟩

theorem ite {c : Prop} [Decidable c] {p q : Q α} (hp : RecvOnly p) (hq : RecvOnly q) :
    RecvOnly (if c then p else q) := by
  split <;> assumption

end RecvOnly

end Gd
