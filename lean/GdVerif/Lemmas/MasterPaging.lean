import GdVerif.Lemmas.Decodes
import GdVerif.Proto.Master
/-
  Paging of the master-server query against a reference history of reply pages.
-/
namespace Gd.Master
open Gd

/-- every field fits its width on the wire: four address bytes and a 16-bit port -/
def WFAddr (a : Addr) : Prop := a.1.1 < 256 ∧ a.1.2.1 < 256 ∧ a.1.2.2.1 < 256 ∧ a.1.2.2.2 < 256 ∧ a.2 < 65536

/-- an entry on the wire: the four address bytes, then the port big-endian -/
def encEntry (a : Addr) : Bytes :=
  [UInt8.ofNat a.1.1, UInt8.ofNat a.1.2.1, UInt8.ofNat a.1.2.2.1, UInt8.ofNat a.1.2.2.2] ++ natBE 2 a.2

/-- a reply page as the protocol defines it: `FF FF FF FF 66 0A` then 6-byte entries -/
def encPage (es : List Addr) : Bytes := [0xFF, 0xFF, 0xFF, 0xFF, 0x66, 0x0A] ++ (es.map encEntry).flatten

/-- `0.0.0.0:0`, the entry with which the server ends its list -/
def terminator : Addr := ((0, 0, 0, 0), 0)

theorem decodes_entry (a : Addr) (h : WFAddr a) : Decodes parseEntry (encEntry a) a := by
  obtain ⟨h1, h2, h3, h4, h5⟩ := h
  unfold parseEntry encEntry
  have e : [UInt8.ofNat a.1.1, UInt8.ofNat a.1.2.1, UInt8.ofNat a.1.2.2.1, UInt8.ofNat a.1.2.2.2] ++ natBE 2 a.2
      = [UInt8.ofNat a.1.1] ++ ([UInt8.ofNat a.1.2.1] ++ ([UInt8.ofNat a.1.2.2.1] ++ ([UInt8.ofNat a.1.2.2.2] ++ natBE 2 a.2))) := rfl
  rw [e]
  refine Decodes.bind (decodes_u8 _ h1) ?_
  refine Decodes.bind (decodes_u8 _ h2) ?_
  refine Decodes.bind (decodes_u8 _ h3) ?_
  refine Decodes.bind (decodes_u8 _ h4) ?_
  refine Decodes.bind_last (decodes_be 2 a.2 (by omega)) ?_
  obtain ⟨⟨a1, a2, a3, a4⟩, p⟩ := a
  exact Decodes.pure _

theorem encEntry_length (a : Addr) : (encEntry a).length = 6 := by
  simp [encEntry, natBE, natLE_length]

theorem encEntries_length (es : List Addr) : ((es.map encEntry).flatten).length = 6 * es.length := by
  induction es with
  | nil => rfl
  | cons a r ih =>
    simp only [List.map_cons, List.flatten_cons, List.length_append, encEntry_length, ih, List.length_cons]
    omega

theorem encPage_length (es : List Addr) : (encPage es).length = 6 + 6 * es.length := by
  rw [encPage, List.length_append, encEntries_length]
  rfl

/-- the `while remaining > 0` loop reads exactly the entries -/
theorem whileEntries (es : List Addr) (h : ∀ a ∈ es, WFAddr a) :
    ∀ (fuel : Nat) (acc : List Addr) (b : Buf), b.rest = (es.map encEntry).flatten → es.length < fuel →
      ∃ b', whileRemaining (fun acc => do let e ← parseEntry; pure (e :: acc)) fuel acc b = .ok (es.reverse ++ acc, b')
        ∧ b'.rest = [] := by
  induction es with
  | nil =>
    intro fuel acc b hr hf
    cases fuel with
    | zero => omega
    | succ f =>
      refine ⟨b, ?_, by simpa using hr⟩
      simp only [List.map_nil, List.flatten_nil] at hr
      simp [whileRemaining, Buf.remaining, hr]
  | cons a r ih =>
    intro fuel acc b hr hf
    cases fuel with
    | zero => omega
    | succ f =>
      simp only [List.map_cons, List.flatten_cons] at hr
      have hne : (b.remaining == 0) = false := by
        have := encEntry_length a
        simp only [Buf.remaining, hr, List.length_append, beq_eq_false_iff_ne]
        omega
      obtain ⟨b1, h1, hr1, _⟩ := decodes_entry a (h a (by simp)) b _ hr
      obtain ⟨b', h2, hr2⟩ := ih (fun x hx => h x (by simp [hx])) f (a :: acc) b1 hr1 (by simp at hf; omega)
      refine ⟨b', ?_, hr2⟩
      simp only [whileRemaining, hne, Bool.false_eq_true, ↓reduceIte]
      have hb : (do let e ← parseEntry; pure (e :: acc) : Par (List Addr)) b = .ok (a :: acc, b1) := by
        rw [Par.bind_ok h1]; rfl
      rw [hb]
      simp only
      rw [h2]
      simp

theorem parsePage_ok (es : List Addr) (h : ∀ a ∈ es, WFAddr a) (b : Buf) (hr : b.rest = encPage es) :
    ∃ b', parsePage b = .ok (es, b') := by
  have e1 : natBE 4 0xFFFFFFFF = [0xFF, 0xFF, 0xFF, 0xFF] := by decide
  have e2 : natBE 2 26122 = [0x66, 0x0A] := by decide
  have hr' : b.rest = natBE 4 0xFFFFFFFF ++ (natBE 2 26122 ++ (es.map encEntry).flatten) := by
    rw [hr, e1, e2]; rfl
  obtain ⟨b1, h1, hr1, _⟩ := decodes_be 4 0xFFFFFFFF (by omega) b _ hr'
  obtain ⟨b2, h2, hr2, _⟩ := decodes_be 2 26122 (by omega) b1 _ hr1
  obtain ⟨b3, h3, _⟩ := whileEntries es h (b2.remaining + 1) [] b2 hr2 (by
    rw [Buf.remaining, hr2, encEntries_length]; omega)
  refine ⟨b3, ?_⟩
  unfold parsePage
  rw [Par.bind_ok h1]
  simp only [bne_self_eq_false, Bool.false_eq_true, ↓reduceIte]
  rw [Par.bind_ok h2]
  simp only [bne_self_eq_false, Bool.false_eq_true, ↓reduceIte]
  unfold parseEntries
  rw [Par.bind_ok h3]
  simp

theorem parsePage_encPage (es : List Addr) (h : ∀ a ∈ es, WFAddr a) : parsePage.run (encPage es) = .ok es := by
  obtain ⟨b', hb⟩ := parsePage_ok es h (Buf.new (encPage es)) rfl
  simp [Par.run, hb]

/-- the socket a query opens on a fresh transport: number 0, to the master port, UDP -/
def msock : Sock := ⟨0, masterPort, false⟩

/-- a world with the master-server socket as the only socket -/
def world (pending : List ConnScript) (queue : List Delivery) (log : List Ev) : Net := ⟨pending, [queue], [], log⟩

/-- 232 entries are what one receive holds: 6 + 6 · 232 = 1398 of the 1400 bytes asked for; a longer page would arrive
truncated.  (231 below: the final page also carries the terminator.) -/
theorem querySpecific_page (region : Nat) (fb ip : Bytes) (port : Nat) (es : List Addr) (h : ∀ a ∈ es, WFAddr a)
    (hl : es.length ≤ 232) (pending : List ConnScript) (q : List Delivery) (log : List Ev) :
    querySpecific msock region fb ip port (world pending (.data (encPage es) :: q) log)
      = (.ok es, world pending q (log ++ [.send 0 masterPort (constructPayload region fb ip port) false,
            .recv 0 (some 1400) (some (encPage es).length)])) := by
  have htake : (encPage es).take 1400 = encPage es := List.take_of_length_le (by rw [encPage_length]; omega)
  unfold querySpecific
  rw [Q.bind_apply]
  simp only [Gd.send, world, msock]
  rw [Q.bind_apply]
  simp only [Gd.recv, List.getD_cons_zero, Bool.false_eq_true, ↓reduceIte, Option.getD_some, htake, setAt]
  simp only [parse, Q.lift, parsePage_encPage es h, List.append_assoc, List.cons_append, List.nil_append]

/-- a history of reply pages: the non-final pages, then the final page's listed entries and whether
the final page carries the terminator (a final page without terminator is empty) -/
structure History where
  pages : List (List Addr)
  final : List Addr
  terminated : Bool

def History.finalPage (h : History) : List Addr := if h.terminated then h.final ++ [terminator] else []

def isTerminator (a : Addr) : Bool := ipText a.1 == zeroIp && a.2 == 0

/-- every non-final page is non-empty and ends neither on the terminator nor on the address it
was seeded with -/
def wfPages : Bytes → Nat → List (List Addr) → Prop
  | _, _, [] => True
  | sip, sp, p :: rest =>
    (∀ a ∈ p, WFAddr a) ∧ p.length ≤ 232 ∧
    ∃ last, p.getLast? = some last ∧ isTerminator last = false
      ∧ (ipText last.1 == sip && last.2 == sp) = false ∧ wfPages (ipText last.1) last.2 rest

/-- the seeds of the follow-up requests: the last address of each non-final page -/
def seedsFrom : Bytes → Nat → List (List Addr) → List (Bytes × Nat)
  | sip, sp, [] => [(sip, sp)]
  | sip, sp, p :: rest =>
    match p.getLast? with
    | some last => (sip, sp) :: seedsFrom (ipText last.1) last.2 rest
    | none => [(sip, sp)]

/-- the transport log of a complete paged query -/
def pagingLog (region : Nat) (fb : Bytes) : List (Bytes × Nat) → List (List Addr) → List Ev
  | (sip, sp) :: seeds, p :: pages =>
    [.send 0 masterPort (constructPayload region fb sip sp) false, .recv 0 (some 1400) (some (encPage p).length)]
      ++ pagingLog region fb seeds pages
  | _, _ => []

theorem terminator_is : isTerminator terminator = true := by decide +kernel

theorem pageLoop_history (region : Nat) (fb : Bytes) (final : List Addr) (terminated : Bool)
    (hfin : ∀ a ∈ final, WFAddr a) (hfl : final.length ≤ 231) (hnt : terminated = false → final = []) :
    ∀ (pages : List (List Addr)) (sip : Bytes) (sp : Nat) (acc : List Addr) (fuel : Nat)
      (pending : List ConnScript) (q : List Delivery) (log : List Ev),
      wfPages sip sp pages → pages.length < fuel →
      pageLoop msock region fb fuel acc sip sp
          (world pending (pages.map (fun p => Delivery.data (encPage p))
              ++ .data (encPage (if terminated then final ++ [terminator] else [])) :: q) log)
        = (.ok (acc ++ pages.flatten ++ final),
           world pending q (log ++ pagingLog region fb (seedsFrom sip sp pages)
              (pages ++ [if terminated then final ++ [terminator] else []]))) := by
  intro pages
  induction pages with
  | nil =>
    intro sip sp acc fuel pending q log _ hf
    cases fuel with
    | zero => omega
    | succ f =>
      simp only [List.map_nil, List.nil_append, List.flatten_nil, List.append_nil, seedsFrom, pagingLog]
      unfold pageLoop
      rw [Q.bind_apply]
      cases terminated with
      | false =>
        have := hnt rfl
        subst this
        simp only [Bool.false_eq_true, ↓reduceIte]
        rw [querySpecific_page region fb sip sp [] (by simp) (by simp)]
        simp
      | true =>
        simp only [↓reduceIte]
        have hw : ∀ a ∈ final ++ [terminator], WFAddr a := by
          intro a ha
          rcases List.mem_append.mp ha with h | h
          · exact hfin a h
          · simp only [List.mem_singleton] at h; subst h; simp [WFAddr, terminator]
        rw [querySpecific_page region fb sip sp (final ++ [terminator]) hw (by simp; omega)]
        have hgl : (final ++ [terminator]).getLast? = some terminator := by simp
        have hdl : (final ++ [terminator]).dropLast = final := by simp
        have ht := terminator_is
        simp only [isTerminator] at ht
        simp only [hgl, ht, ↓reduceIte, hdl, Q.pure_apply, List.append_assoc]
  | cons p rest ih =>
    intro sip sp acc fuel pending q log hwf hf
    obtain ⟨hpw, hpl, last, hlast, hnterm, hnseed, hrest⟩ := hwf
    cases fuel with
    | zero => omega
    | succ f =>
      simp only [List.map_cons, List.cons_append]
      unfold pageLoop
      rw [Q.bind_apply, querySpecific_page region fb sip sp p hpw hpl]
      simp only [hlast]
      simp only [isTerminator] at hnterm
      simp only [hnterm, Bool.false_eq_true, ↓reduceIte, hnseed]
      have := ih (ipText last.1) last.2 (acc ++ p) f pending q
        (log ++ [.send 0 masterPort (constructPayload region fb sip sp) false, .recv 0 (some 1400) (some (encPage p).length)])
        hrest (by simp at hf; omega)
      rw [this]
      simp only [seedsFrom, hlast, pagingLog, List.flatten_cons, List.append_assoc, List.cons_append, List.nil_append]

end Gd.Master
