import GdVerif.Lemmas.QBounds
import GdVerif.Proto.Gs2
/-
  How many datagrams the GameSpy 2 query sends: one per attempt of its single exchange (`requestDataImpl_exchange1`:
  an attempt is `exchange1`, whose rules in each logic apply).
-/
namespace Gd.Gs2
open Gd

/-- the check of `request_data_impl` on the received datagram: the header, then the pair (datagram, position) -/
def headerCheck (d : Bytes) : Res (Bytes × Nat) := checkHeader.run d >>= fun idx => .ok (d, idx)

theorem requestDataImpl_exchange1 (s : Sock) :
    requestDataImpl s = exchange1 s request PACKET_SIZE headerCheck := by
  funext w
  unfold requestDataImpl exchange1
  simp only [Q.bind_apply]
  cases send s request w with
  | mk r1 w1 =>
    cases r1 with
    | ok u =>
      simp only
      cases recv s (some PACKET_SIZE) w1 with
      | mk r2 w2 =>
        cases r2 with
        | ok d =>
          simp only [parse, Q.lift, headerCheck]
          cases checkHeader.run d <;> rfl
        | err k => rfl
        | crash => rfl
    | err k => rfl
    | crash => rfl

theorem sends_requestDataImpl (s : Sock) : Sends 1 (requestDataImpl s) := by
  rw [requestDataImpl_exchange1]
  exact Sends.exchange1 s _ _ _

theorem sends_requestData (s : Sock) (retries : Nat) : Sends (retries + 1) (requestData s retries) := by
  have := Sends.retry (sends_requestDataImpl s) retries
  simpa [requestData] using this

theorem sends_query (port retries : Nat) : Sends (retries + 1) (query port retries) := by
  unfold query
  refine (Sends.bind (k1 := 0) (k2 := retries + 1) (Sends.openSock false port) fun s => ?_).weaken (by omega)
  refine Sends.bind (k1 := retries + 1) (k2 := 0) (sends_requestData s retries) fun x => ?_
  obtain ⟨data, idx⟩ := x
  exact Sends.parse _ data

end Gd.Gs2
