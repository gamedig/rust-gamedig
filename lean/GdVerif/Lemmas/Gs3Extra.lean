import GdVerif.Lemmas.Gs3Whole
/-
  GameSpy 3: replies with field sections the client has no place for (`Spec.Extra`, domain `wfX`).  The
  section loop skips them (`Lemmas/Gs3`); hence the tables, the players, the teams and the whole response
  of such a reply are those of the reply without them.
-/
namespace Gd.Gs3
open Gd Gd.Gs3.Spec

theorem wfX_parts (cfg : ConfigX) (st : State) (h : wfX cfg st = true) :
    wfVars st = true ∧ st.players.all wfPlayer = true ∧ st.teams.all wfTeam = true ∧ st.players.length < 2 ^ 32
    ∧ (st.pids.all fun l => l.length == st.players.length && l.all okItem) = true
    ∧ cfg.layout.flatten.all (wfSection st) = true ∧ covered st (slicesOf cfg.layout.flatten) = true
    ∧ cfg.layout.isEmpty = false ∧ (cfg.layout.drop 1).all (fun ss => !ss.isEmpty) = true ∧ cfg.layout.length ≤ 128
    ∧ -(2 ^ 31 : Int) ≤ cfg.challenge ∧ cfg.challenge < 2 ^ 31
    ∧ (dataPacketsX cfg st).all (fun d => d.length ≤ PACKET_SIZE) = true := by
  simpa only [wfX, Bool.and_eq_true, decide_eq_true_eq, Bool.not_eq_true', and_assoc] using h

/-- What the conjuncts of `wfX` / `wfC` about players, teams and sections say: the reply without its extra
sections has a well-formed layout, and every section can be sent. -/
theorem layoutOk_of_parts (cfg : ConfigX) (st : State)
    (hp : st.players.all wfPlayer = true) (ht : st.teams.all wfTeam = true)
    (hpid : (st.pids.all fun l => l.length == st.players.length && l.all okItem) = true)
    (hsec : cfg.layout.flatten.all (wfSection st) = true) (hcov : covered st (slicesOf cfg.layout.flatten) = true) :
    LayoutOk cfg.base st ∧ ∀ s ∈ cfg.layout.flatten, SectionOk st s := by
  have hflat : cfg.base.layout.flatten = slicesOf cfg.layout.flatten := flatten_map_slicesOf cfg.layout
  have hl : LayoutOk cfg.base st := by
    refine ⟨fun sl hsl => ?_, by rw [hflat]; exact hcov, fun p hp' => List.all_eq_true.mp hp p hp',
      fun t ht' => List.all_eq_true.mp ht t ht', fun l hl => ?_⟩
    · rw [hflat, mem_slicesOf] at hsl
      exact List.all_eq_true.mp hsec _ hsl
    · rw [hl] at hpid
      simp only [Option.all_some, Bool.and_eq_true, beq_iff_eq] at hpid
      exact ⟨hpid.1, fun v hv => List.all_eq_true.mp hpid.2 v hv⟩
  refine ⟨hl, fun s hs => ?_⟩
  cases s with
  | slice sl => exact slice_values_ok cfg.base st hl sl (by rw [hflat, mem_slicesOf]; exact hs)
  | extra e => exact List.all_eq_true.mp hsec _ hs

theorem wfX_layout (cfg : ConfigX) (st : State) (h : wfX cfg st = true) : LayoutOk cfg.base st := by
  obtain ⟨_, hp, ht, _, hpid, hsec, hcov, _⟩ := wfX_parts cfg st h
  exact (layoutOk_of_parts cfg st hp ht hpid hsec hcov).1

theorem wfX_sections (cfg : ConfigX) (st : State) (h : wfX cfg st = true) : ∀ s ∈ cfg.layout.flatten, SectionOk st s := by
  obtain ⟨_, hp, ht, _, hpid, hsec, hcov, _⟩ := wfX_parts cfg st h
  exact (layoutOk_of_parts cfg st hp ht hpid hsec hcov).2

theorem parsePlayersAndTeamsX_spec (cfg : ConfigX) (st : State) (h : wfX cfg st = true) :
    parsePlayersAndTeams (cfg.layout.map (encSections st)) = .ok (st.players, st.teams) := by
  refine parsePlayersAndTeams_of_run cfg.base st (wfX_layout cfg st h) _ ?_
  rw [readAllSectionsX_run st cfg.layout (wfX_sections cfg st h) Tables.init]
  have hflat : cfg.base.layout.flatten = slicesOf cfg.layout.flatten := flatten_map_slicesOf cfg.layout
  rw [hflat]

theorem wfX_vars (cfg : ConfigX) (st : State) (h : wfX cfg st = true) : VarsOk st := by
  obtain ⟨hv, _, _, hlisted, _⟩ := wfX_parts cfg st h
  exact varsOk_of st hv hlisted

theorem buildResponseX_spec (cfg : ConfigX) (st : State) (h : wfX cfg st = true) :
    buildResponse (payloadsX cfg st) = .ok (expected st) := by
  obtain ⟨_, _, _, _, _, _, _, hne, _⟩ := wfX_parts cfg st h
  have hp := parsePlayersAndTeamsX_spec cfg st h
  unfold payloadsX
  cases hlay : cfg.layout with
  | nil => rw [hlay] at hne; cases hne
  | cons first rest =>
    rw [hlay] at hp
    exact buildResponse_of st (wfX_vars cfg st h) _ _ hp

theorem buildVarsX_spec (cfg : ConfigX) (st : State) (h : wfX cfg st = true) :
    buildVars (payloadsX cfg st) = .ok st.vars := by
  unfold payloadsX
  cases cfg.layout with
  | nil => simpa using buildVars_of st (wfX_vars cfg st h) [] []
  | cons first rest => exact buildVars_of st (wfX_vars cfg st h) _ _

theorem payloadsX_ne_nil (cfg : ConfigX) (st : State) : payloadsX cfg st ≠ [] := by
  unfold payloadsX; split <;> simp

theorem encSection_ne_nil (st : State) (s : Section) : encSection st s ≠ [] := by
  cases s with
  | slice sl => exact encSlice_ne_nil st sl
  | extra e => simp [encSection, encExtra, cstr]

/-- what `wfX` says about the datagrams (128 packets at most: the packet id has 7 bits) -/
theorem wfX_wire (cfg : ConfigX) (st : State) (h : wfX cfg st = true) :
    (payloadsX cfg st).length ≤ 128 ∧ (∀ p ∈ payloadsX cfg st, p ≠ []) ∧ (∀ d ∈ dataPacketsX cfg st, d.length ≤ PACKET_SIZE)
    ∧ -(2 ^ 31 : Int) ≤ cfg.challenge ∧ cfg.challenge < 2 ^ 31 := by
  obtain ⟨_, _, _, _, _, _, _, hne, hrest, hlen, hlo, hhi, hsize⟩ := wfX_parts cfg st h
  refine ⟨?_, ?_, fun d hd => of_decide_eq_true (List.all_eq_true.mp hsize d hd), hlo, hhi⟩ <;> unfold payloadsX <;>
    cases hl : cfg.layout with
    | nil => rw [hl] at hne; cases hne
    | cons first rest => ?_
  · rw [hl] at hlen
    simpa using hlen
  · rw [hl, List.drop_succ_cons, List.drop_zero, List.all_eq_true] at hrest
    intro p hp
    rcases List.mem_cons.mp hp with rfl | hp
    · exact List.append_ne_nil_of_left_ne_nil (List.append_ne_nil_of_right_ne_nil _ (List.cons_ne_nil _ _)) _
    · obtain ⟨ss, hss, rfl⟩ := List.mem_map.mp hp
      cases ss with
      | nil => exact absurd (hrest [] hss) (by decide)
      | cons s r => exact List.append_ne_nil_of_left_ne_nil (encSection_ne_nil st s) _

/-- The whole exchange against the SPEC's server sending extra sections: `post` is applied to the
payloads, the client has sent exactly the two requests. -/
theorem exchangeX_spec (cfg : ConfigX) (st : State) (h : wfX cfg st = true) (port r : Nat) {α : Type}
    (post : List Bytes → Res α) (arrival : List Bytes) (harr : arrival.Perm (dataPacketsX cfg st)) :
    (exchange port r DEFAULT_PAYLOAD false post
        (Net.init [.opened ((handshakeReply cfg.challenge :: arrival).map .data)] [])).1 = post (payloadsX cfg st)
    ∧ sentOf (exchange port r DEFAULT_PAYLOAD false post
        (Net.init [.opened ((handshakeReply cfg.challenge :: arrival).map .data)] [])).2.log = requestsX cfg := by
  obtain ⟨hcount, hpay, hsize, hlo, hhi⟩ := wfX_wire cfg st h
  exact exchange_wire cfg.challenge hlo hhi cfg.unknown (payloadsX cfg st) (payloadsX_ne_nil cfg st) hcount hpay hsize
    port r post arrival harr

/-! ### `wfX` extends `wf`: a reply without extra sections -/

theorem payloadsX_toX (cfg : Config) (st : State) : payloadsX cfg.toX st = payloads cfg st := by
  unfold payloadsX payloads Config.toX
  cases cfg.layout with
  | nil => rfl
  | cons first rest => simp [encSections_map_slice, List.map_map, Function.comp_def]

theorem base_toX (cfg : Config) : cfg.toX.base = cfg := by
  cases cfg with
  | mk c layout u =>
    simp only [Config.toX, ConfigX.base, List.map_map, Function.comp_def, slicesOf_map_slice, List.map_id']

theorem wfX_toX (cfg : Config) (st : State) : wfX cfg.toX st = wf cfg st := by
  have hflat : slicesOf cfg.toX.layout.flatten = cfg.layout.flatten := by
    rw [← flatten_map_slicesOf]
    exact congrArg (fun c => c.layout.flatten) (base_toX cfg)
  have hsec : cfg.toX.layout.flatten.all (wfSection st) = cfg.layout.flatten.all (wfSlice st) := by
    have : cfg.toX.layout.flatten = cfg.layout.flatten.map .slice := by
      simp [Config.toX, List.map_flatten]
    rw [this, List.all_map]
    rfl
  have hdp : dataPacketsX cfg.toX st = dataPackets cfg st := by
    simp only [dataPacketsX, dataPackets, payloadsX_toX]
    rfl
  have hemp : cfg.toX.layout.isEmpty = cfg.layout.isEmpty := by
    simp [Config.toX]
  have hdrop : (cfg.toX.layout.drop 1).all (fun ss => !ss.isEmpty) = (cfg.layout.drop 1).all (fun ss => !ss.isEmpty) := by
    simp only [Config.toX]
    cases cfg.layout with
    | nil => rfl
    | cons first rest => simp [List.all_map, Function.comp_def]
  have hlen : cfg.toX.layout.length = cfg.layout.length := by simp [Config.toX]
  have hch : cfg.toX.challenge = cfg.challenge := rfl
  unfold wfX wf
  rw [hflat, hsec, hdp, hemp, hdrop, hlen, hch]

end Gd.Gs3
