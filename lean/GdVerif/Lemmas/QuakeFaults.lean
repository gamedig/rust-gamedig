import GdVerif.Lemmas.QuakeDecode
import GdVerif.Lemmas.QSteps
import GdVerif.Lemmas.QFlags
import GdVerif.Spec.QuakeFaults
/-
  The whole Quake query on one socket's script (C05, C10 end to end): `Quake.query` is "open a socket, a one-exchange
  unit under `retry_on_timeout`, decode" (`Lemmas/QSteps.lean: query1_plan`).  A plan scripts one flag per send; the
  fault-free exchange of C05 starts with no flags, which the query cannot tell from flags that are all `false`
  (`FlagBlind`, `Lemmas/QFlags.lean`): it is `query_recovers` without failed attempts.
-/
namespace Gd.Quake
open Gd Gd.Quake.Spec Gd.Faults

theorem getDataImpl_exchange1 (s : Sock) (v : Version) :
    getDataImpl s v = exchange1 s (Quake.request v) PACKET_SIZE (stripHeader v).run := rfl

theorem query_exchange1 (port : Nat) (v : Version) (retries : Nat) :
    query port v retries = (openSock false port >>= fun s =>
      retryOnTimeout retries (exchange1 s (Quake.request v) PACKET_SIZE (stripHeader v).run) >>= fun data =>
        Q.lift ((parseBody v).run data)) := by
  rw [query_eq]
  rfl

theorem stripHeader_malformed (v : Version) (m : Bytes) (h : malformed v m = true) :
    (stripHeader v).run m = .err (malformedError m) := by
  unfold malformedError
  by_cases hlen : m.length < 4
  · rw [if_pos hlen]
    unfold Par.run stripHeader
    rw [Par.bind_err (k := .packetUnderflow) (by simp [readUnsigned, Buf.new, Buf.remaining, hlen])]
  · simp only [malformed, hlen, decide_false, Bool.false_or, Bool.and_eq_true, beq_iff_eq, Bool.not_eq_true',
      header_eq] at h
    rw [if_neg hlen, ← List.take_append_drop 4 m, h.1, stripHeader_marker, h.2]
    rfl

theorem malformedError_not_timeout (m : Bytes) : (malformedError m).isTimeout = false := by
  unfold malformedError
  split <;> rfl

theorem query_faulty (port retries : Nat) (v : Version) (p : Plan1) (hp : p.wf retries PACKET_SIZE = true)
    (hcheck : ∀ d e, p.answer = some d → (stripHeader v).run d = .err e → e.isTimeout = false)
    (restQ : List Delivery) (restF : List Bool) :
    (query port v retries (Net.init [.opened (p.deliveries ++ restQ)] (p.faults ++ restF))).1
      = (p.outcome (stripHeader v).run >>= (parseBody v).run)
    ∧ sentOf (query port v retries (Net.init [.opened (p.deliveries ++ restQ)] (p.faults ++ restF))).2.log
      = p.sends (Spec.request v) := by
  rw [query_exchange1, ← request_eq]
  exact query1_plan port retries (Quake.request v) PACKET_SIZE (stripHeader v).run (parseBody v).run p hp hcheck
    restQ restF

theorem query_recovers (cfg : Config) (st : State) (hw : wf cfg st = true) (port retries : Nat) (fails : List Bool)
    (hk : fails.length ≤ retries) (restQ : List Delivery) (restF : List Bool) :
    let p := recovering cfg st fails
    let out := query port cfg.version retries (Net.init [.opened (p.deliveries ++ restQ)] (p.faults ++ restF))
    out.1 = expected cfg st ∧ sentOf out.2.log = p.sends (Spec.request cfg.version) := by
  have h := query_faulty port retries cfg.version (recovering cfg st fails)
    (by simp [recovering, Plan1.wf, PACKET_SIZE, hk, (wf_parts hw).size])
    (fun d e hd he => by cases hd; rw [stripHeader_reply] at he; cases he) restQ restF
  rwa [show (recovering cfg st fails).outcome (stripHeader cfg.version).run = .ok (body cfg st) from stripHeader_reply cfg st,
    Res.bind_ok, parseBody_body cfg st hw] at h

/-! ### the fault-free query: the plan without failures (`query_recovers` at `fails = []`, taken in `Props/C05.lean`) -/

theorem flagBlind_query (port : Nat) (v : Version) (retries : Nat) : FlagBlind (query port v retries) := by
  rw [query_exchange1]
  exact FlagBlind.bind (FlagBlind.openSock _ _) fun s =>
    FlagBlind.bind (FlagBlind.retry (flagBlind_exchange1 s _ _ _) _) fun _ => FlagBlind.lift _

end Gd.Quake
