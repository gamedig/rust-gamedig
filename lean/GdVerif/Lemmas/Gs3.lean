import GdVerif.Lemmas.Gs3Safe
import GdVerif.Lemmas.Decodes
import GdVerif.Lemmas.Decimal
import GdVerif.Lemmas.Valve
import GdVerif.Spec.Gs3
/-
  GameSpy 3 decoding lemmas: the parsers of `three/protocol.rs` against the SPEC encoders.
  The key/value block.  The field sections: one of a typed column = `applySlice`; a section the
  client has no place for (`Spec.Extra`) is consumed and leaves the tables alone, so the section loop over
  `encExtra e ++ rest` behaves like the loop over `rest`; the sections of a packet, of all packets.
-/
namespace Gd.Gs3
open Gd Gd.Gs3.Spec

theorem okStr_iff (s : Bytes) : okStr s = true ↔ (0 : UInt8) ∉ s ∧ validUtf8 s = true := by
  simp [okStr, List.contains_iff_mem]

theorem okItem_iff (s : Bytes) : okItem s = true ↔ (0 : UInt8) ∉ s ∧ validUtf8 s = true ∧ s ≠ [] := by
  unfold okItem
  rw [Bool.and_eq_true, okStr_iff]
  cases s <;> simp

theorem ite_eq_cases {α : Type} {c : Prop} [Decidable c] {a b x : α} (h : (if c then a else b) = x) :
    a = x ∨ b = x := by
  by_cases hc : c
  · rw [if_pos hc] at h; exact .inl h
  · rw [if_neg hc] at h; exact .inr h

theorem decodes_cstr (s : Bytes) (h : okStr s = true) : Decodes readCStr (cstr s) s := by
  obtain ⟨h0, hv⟩ := (okStr_iff s).mp h
  exact decodes_readCStr s h0 hv

/-- the empty string that closes a list -/
theorem decodes_cstr_nil : Decodes readCStr [0] [] := decodes_readCStr [] (List.not_mem_nil) rfl

theorem length_le_flatten {α : Type} (l : List α) (f : α → Bytes) (h : ∀ x, 1 ≤ (f x).length) :
    l.length ≤ (l.map f).flatten.length := by
  induction l with
  | nil => simp
  | cons p r ih =>
    simp only [List.map_cons, List.flatten_cons, List.length_append, List.length_cons]
    have := h p
    omega

theorem loopBrk_round {body : σ → Par (σ × Bool)} {st st' : σ} {go : Bool} {e : Bytes}
    (hd : Decodes (body st) e (st', go)) (he : e ≠ []) (fuel : Nat) (b : Buf) (post : Bytes)
    (hr : b.rest = e ++ post) :
    ∃ b', loopBrk body (fuel + 1) st b = (if go then loopBrk body fuel st' b' else .ok (st', b'))
      ∧ b'.rest = post ∧ b'.data = b.data := by
  obtain ⟨b', hb, hr', hd'⟩ := hd b post hr
  refine ⟨b', ?_, hr', hd'⟩
  have hne : (b.remaining == 0) = false := by
    cases e with
    | nil => exact absurd rfl he
    | cons x r => simp [Buf.remaining, hr]
  cases go <;> simp only [loopBrk, hne, Bool.false_eq_true, ↓reduceIte, hb]

theorem loopBrk_continue {body : σ → Par (σ × Bool)} {st st' : σ} {e : Bytes}
    (hd : Decodes (body st) e (st', true)) (he : e ≠ []) (fuel : Nat) (b : Buf) (post : Bytes)
    (hr : b.rest = e ++ post) :
    ∃ b', loopBrk body (fuel + 1) st b = loopBrk body fuel st' b' ∧ b'.rest = post ∧ b'.data = b.data :=
  loopBrk_round hd he fuel b post hr

/-- A loop with `break` whose body reads one item a round (`next`: what a round does to the state) and stops at an
empty string: on the items and the closing `00` all items are read, then the loop is over. -/
theorem loopBrk_closed {ι : Type} {body : σ → Par (σ × Bool)} (enc : ι → Bytes) (next : σ → ι → σ) (items : List ι)
    (henc : ∀ x ∈ items, enc x ≠ [])
    (hbody : ∀ st, ∀ x ∈ items, Decodes (body st) (enc x) (next st x, true))
    (hend : ∀ st, Decodes (body st) [0] (st, false)) :
    ∀ (st : σ) (fuel : Nat), items.length < fuel →
      Decodes (loopBrk body fuel st) ((items.map enc).flatten ++ [0]) (items.foldl next st) := by
  induction items with
  | nil =>
    intro st fuel hf b post hr
    obtain ⟨fuel, rfl⟩ := Nat.exists_eq_add_one_of_ne_zero (Nat.ne_zero_of_lt hf)
    exact loopBrk_round (hend st) (List.cons_ne_nil _ _) fuel b post hr
  | cons x r ih =>
    intro st fuel hf b post hr
    obtain ⟨fuel, rfl⟩ := Nat.exists_eq_add_one_of_ne_zero (Nat.ne_zero_of_lt hf)
    rw [List.map_cons, List.flatten_cons, List.append_assoc, List.append_assoc] at hr
    obtain ⟨b1, hb1, hr1, hd1⟩ := loopBrk_continue (hbody st x List.mem_cons_self) (henc x List.mem_cons_self) fuel b _ hr
    obtain ⟨b2, hb2, hr2, hd2⟩ := ih (fun y hy => henc y (List.mem_cons_of_mem x hy))
      (fun st y hy => hbody st y (List.mem_cons_of_mem x hy)) (next st x) fuel (Nat.lt_of_succ_lt_succ hf) b1 post
      (by rw [hr1, List.append_assoc])
    exact ⟨b2, by rw [hb1, hb2]; rfl, hr2, by rw [hd2, hd1]⟩

/-- the fuel taken from the remaining length is enough for the items left in the buffer -/
theorem closed_fuel {ι : Type} {enc : ι → Bytes} {items : List ι} (henc : ∀ x, enc x ≠ []) {b : Buf} {post : Bytes}
    (hr : b.rest = (items.map enc).flatten ++ [0] ++ post) : items.length < b.remaining + 1 := by
  have := length_le_flatten items enc fun x => List.length_pos_iff.mpr (henc x)
  simp only [Buf.remaining, hr, List.length_append]
  omega

def encPair (p : Bytes × Bytes) : Bytes := cstr p.1 ++ cstr p.2

theorem encVars_eq (vars : Vars) : encVars vars = (vars.map encPair).flatten ++ [0] := rfl

theorem kvStep_pair (m : Vars) (k v : Bytes) (hk : okItem k = true) (hv : okStr v = true) :
    Decodes (kvStep m) (cstr k ++ cstr v) (Valve.mapInsert m k v, true) := by
  obtain ⟨hk0, hkv, hkne⟩ := (okItem_iff k).mp hk
  unfold kvStep
  refine Decodes.bind (decodes_readCStr k hk0 hkv) ?_
  have : k.isEmpty = false := List.isEmpty_eq_false_iff.mpr hkne
  simp only [this, Bool.false_eq_true, ↓reduceIte]
  exact Decodes.bind_last (decodes_cstr v hv) (Decodes.pure _)

theorem kvStep_end (m : Vars) : Decodes (kvStep m) [0] (m, false) := by
  unfold kvStep
  exact Decodes.bind_last decodes_cstr_nil (by simp only [List.isEmpty_nil, ↓reduceIte]; exact Decodes.pure _)

theorem encPair_ne_nil (p : Bytes × Bytes) : encPair p ≠ [] :=
  List.append_ne_nil_of_left_ne_nil (List.append_ne_nil_of_right_ne_nil _ (List.cons_ne_nil _ _)) _

/-- `data_to_map` on the head of the first packet: the variables, in the order sent, and the rest -/
theorem dataToMap_encVars (vars : Vars) (h : ∀ p ∈ vars, okItem p.1 = true ∧ okStr p.2 = true)
    (hd : Valve.Spec.distinctKeys vars = true) (rest : Bytes) :
    dataToMap (encVars vars ++ rest) = .ok (vars, rest) := by
  unfold dataToMap Par.run dataToMapPar
  have hr : (Buf.new (encVars vars ++ rest)).rest = (vars.map encPair).flatten ++ [0] ++ rest := rfl
  rw [Par.bind_ok (show remainingLength (Buf.new (encVars vars ++ rest)) = .ok (_, _) from rfl)]
  obtain ⟨b1, hb1, hr1, _⟩ := loopBrk_closed encPair (fun m p => Valve.mapInsert m p.1 p.2) vars
    (fun p _ => encPair_ne_nil p) (fun m p hp => kvStep_pair m p.1 p.2 (h p hp).1 (h p hp).2) kvStep_end [] _
    (closed_fuel encPair_ne_nil hr) _ rest hr
  rw [Par.bind_ok hb1, Valve.foldl_mapInsert_distinct vars [] (by simpa using hd)]
  simp [remainingBytes, hr1, Par.bind_apply]

/-- `putItem`, which never fails: make room, insert into the row's map -/
def put (data : List Vars) (offset : Nat) (name item : Bytes) : List Vars :=
  let data := data ++ List.replicate (offset + 1 - data.length) []
  data.set offset (Valve.mapInsert (data.getD offset []) name item)

theorem putItem_eq (data : List Vars) (offset : Nat) (name item : Bytes) :
    putItem data offset name item = .ok (put data offset name item) := by
  unfold putItem put
  simp only
  have hlt : offset < (data ++ List.replicate (offset + 1 - data.length) ([] : Vars)).length := by
    simp; omega
  rw [List.getElem?_eq_getElem hlt]
  simp [List.getD_eq_getElem?_getD, List.getElem?_eq_getElem hlt]

/-- the values of a section into consecutive rows -/
def putAll (name : Bytes) : List Vars → Nat → List Bytes → List Vars
  | data, _, [] => data
  | data, off, v :: r => putAll name (put data off name v) (off + 1) r

theorem itemStep_value (name : Bytes) (data : List Vars) (off : Nat) (v : Bytes) (hv : okItem v = true) :
    Decodes (itemStep name (data, off)) (cstr v) ((put data off name v, off + 1), true) := by
  obtain ⟨h0, hval, hne⟩ := (okItem_iff v).mp hv
  unfold itemStep
  refine Decodes.bind_last (decodes_readCStr v h0 hval) ?_
  have : v.isEmpty = false := List.isEmpty_eq_false_iff.mpr hne
  simp only [this, Bool.false_eq_true, ↓reduceIte, putItem_eq]
  exact Decodes.bind_last (e := []) (Decodes.lift_ok _) (Decodes.pure _)

theorem itemStep_end (name : Bytes) (st : List Vars × Nat) : Decodes (itemStep name st) [0] (st, false) := by
  unfold itemStep
  exact Decodes.bind_last decodes_cstr_nil (by simp only [List.isEmpty_nil, ↓reduceIte]; exact Decodes.pure _)

def encValues (vals : List Bytes) : Bytes := (vals.map cstr).flatten ++ [0]

theorem cstr_ne_nil (v : Bytes) : cstr v ≠ [] := List.append_ne_nil_of_right_ne_nil _ (List.cons_ne_nil _ _)

theorem foldl_itemStep (name : Bytes) : ∀ (vals : List Bytes) (data : List Vars) (off : Nat),
    vals.foldl (fun (st : List Vars × Nat) v => (put st.1 st.2 name v, st.2 + 1)) (data, off)
      = (putAll name data off vals, off + vals.length)
  | [], _, _ => rfl
  | v :: r, data, off => by
    rw [List.foldl_cons, foldl_itemStep name r, putAll, List.length_cons, Nat.add_assoc, Nat.add_comm 1]

theorem decodes_readItems (name : Bytes) (vals : List Bytes) (h : ∀ v ∈ vals, okItem v = true)
    (data : List Vars) (off : Nat) :
    Decodes (readItems name data off) (encValues vals) (putAll name data off vals) := by
  intro b post hr
  unfold readItems
  rw [Par.bind_ok (show remainingLength b = .ok (b.remaining, b) from rfl)]
  obtain ⟨b1, hb1, hr1, hd1⟩ := loopBrk_closed cstr (fun st v => (put st.1 st.2 name v, st.2 + 1)) vals
    (fun v _ => cstr_ne_nil v) (fun st v hv => itemStep_value name st.1 st.2 v (h v hv)) (itemStep_end name)
    (data, off) _ (closed_fuel cstr_ne_nil hr) b post hr
  exact ⟨b1, by rw [Par.bind_ok hb1, foldl_itemStep]; rfl, hr1, hd1⟩

def applyValues (t : Tables) (team : Bool) (name : Bytes) (off : Nat) (vals : List Bytes) : Tables :=
  if team then { t with teams := putAll name t.teams off vals } else { t with players := putAll name t.players off vals }

theorem decodes_readField (t : Tables) (name : Bytes) (team : Bool) (off : Nat) (hoff : off < 256)
    (vals : List Bytes) (h : ∀ v ∈ vals, okItem v = true) :
    Decodes (readField t [name, if team then [0x74] else []] name) ([UInt8.ofNat off] ++ encValues vals)
      (applyValues t team name off vals) := by
  unfold readField
  have hteam : fieldIsTeam [name, if team then [0x74] else []] = .ok team := by
    cases team
    · rfl
    · have : asciiBytes "t" = [0x74] := by decide
      simp [fieldIsTeam, this]
  rw [hteam]
  refine Decodes.bind' (e1 := []) (e2 := [UInt8.ofNat off] ++ encValues vals) (Decodes.lift_ok _) ?_ rfl
  refine Decodes.bind (decodes_u8 off hoff) ?_
  cases team
  · simp only [Bool.false_eq_true, ↓reduceIte, applyValues]
    exact Decodes.bind_last (decodes_readItems name vals h _ _) (Decodes.pure _)
  · simp only [↓reduceIte, applyValues]
    exact Decodes.bind_last (decodes_readItems name vals h _ _) (Decodes.pure _)

theorem knownFields_text : ∀ f ∈ knownFields,
    (0x5F : UInt8) ∉ f ∧ (0 : UInt8) ∉ f ∧ (∀ b ∈ f, b.toNat < 128) ∧ f ≠ [] ∧ ¬ (f.headD 0).toNat < 3 := by
  decide +kernel

/-- the column names of the SPEC are known to the parser: a name that fails all its tests is no column -/
theorem column_known {st : State} {team : Bool} {field : Bytes} {col : List Bytes}
    (h : column st team field = some col) : field ∈ knownFields := by
  apply Classical.byContradiction
  intro hn
  simp only [knownFields, List.mem_cons, List.not_mem_nil, or_false, not_or, ← ne_eq, ← beq_eq_false_iff_ne] at hn
  cases team <;> simp [column, playerColumn, teamColumn, hn] at h

/-- what one slice does to the tables -/
def applySlice (st : State) (t : Tables) (sl : Slice) : Tables :=
  applyValues t sl.team sl.field sl.offset (sliceValues st sl)

/-- a slice on the wire without its marker bytes -/
def encBody (st : State) (sl : Slice) : Bytes :=
  cstr (fieldId sl) ++ ([UInt8.ofNat sl.offset] ++ encValues (sliceValues st sl))

theorem encSlice_eq (st : State) (sl : Slice) : encSlice st sl = sl.markers ++ encBody st sl := by
  simp [encSlice, encBody, encValues, List.append_assoc]

def SliceOk (st : State) (sl : Slice) : Prop :=
  wfSlice st sl = true ∧ ∀ v ∈ sliceValues st sl, okItem v = true

/-- what the section loop needs of the head of a section: marker bytes, then a field id that is a text whose
first byte is no marker (the loop takes a byte below 3 for a marker) -/
structure HeadOk (markers id : Bytes) : Prop where
  markers : ∀ m ∈ markers, m.toNat < 3
  noNul : (0 : UInt8) ∉ id
  utf8 : validUtf8 id = true
  first : ∃ x r, id = x :: r ∧ ¬ x.toNat < 3

theorem HeadOk.isEmpty {markers id : Bytes} (h : HeadOk markers id) : id.isEmpty = false := by
  obtain ⟨x, r, hxr, _⟩ := h.first
  rw [hxr]
  rfl

theorem fieldId_facts (st : State) (sl : Slice) (h : SliceOk st sl) :
    HeadOk sl.markers (fieldId sl) ∧ splitOn 0x5F (fieldId sl) = [sl.field, if sl.team then [0x74] else []]
    ∧ knownFields.contains sl.field = true ∧ sl.offset < 256 := by
  obtain ⟨hwf, _⟩ := h
  simp only [wfSlice, Bool.and_eq_true, List.all_eq_true, decide_eq_true_eq] at hwf
  obtain ⟨⟨hm, hoff⟩, hcol⟩ := hwf
  cases hc : column st sl.team sl.field with
  | none => rw [hc] at hcol; cases hcol
  | some col =>
    have hk := column_known hc
    obtain ⟨h5f, h0, hascii, hne, hx⟩ := knownFields_text sl.field hk
    obtain ⟨x, r, hxr⟩ := List.exists_cons_of_ne_nil hne
    rw [hxr, List.headD_cons] at hx
    have hsfx : ∀ b ∈ (if sl.team then [0x74] else [] : Bytes), b = 0x74 := by
      intro b hb
      split at hb
      · exact List.mem_singleton.mp hb
      · cases hb
    refine ⟨⟨fun m hm' => UInt8.lt_iff_toNat_lt.mp (hm m hm'), ?_, ?_,
      x, r ++ ([0x5F] ++ (if sl.team then [0x74] else [])), by simp [fieldId, hxr], hx⟩, ?_, List.contains_iff_mem.mpr hk, hoff⟩
    · simp only [fieldId, List.mem_append, List.mem_singleton, not_or]
      refine ⟨⟨h0, by decide⟩, fun hb => ?_⟩
      have := hsfx 0 hb
      exact absurd this (by decide)
    · apply validUtf8_ascii
      intro b hb
      simp only [fieldId, List.mem_append, List.mem_singleton] at hb
      rcases hb with (hb | hb) | hb
      · exact hascii b hb
      · subst hb; decide
      · rw [hsfx b hb]; decide
    · have : fieldId sl = sl.field ++ 0x5F :: (if sl.team then [0x74] else []) := by simp [fieldId]
      rw [this, splitOn_append_delim _ _ _ h5f, splitOn_not_mem]
      intro hb
      exact absurd (hsfx _ hb) (by decide)

theorem decodes_readSection (st : State) (t : Tables) (sl : Slice) (h : SliceOk st sl) :
    Decodes (readSection t) (encBody st sl) (applySlice st t sl) := by
  obtain ⟨hh, hsplit, hk, hoff⟩ := fieldId_facts st sl h
  unfold readSection encBody
  refine Decodes.bind (decodes_readCStr _ hh.noNul hh.utf8) ?_
  simp only [hh.isEmpty, Bool.false_eq_true, ↓reduceIte, hsplit, afterName, List.head?_cons, hk, Bool.not_true]
  exact decodes_readField t sl.field sl.team sl.offset hoff _ h.2

theorem markers_skip : ∀ (ms : Bytes), (∀ m ∈ ms, m.toNat < 3) → ∀ (t : Tables) (b : Buf) (fuel : Nat) (tail : Bytes),
    b.rest = ms ++ tail → b.remaining < fuel →
    ∃ b' fuel', whileRemaining sectionStep fuel t b = whileRemaining sectionStep fuel' t b'
      ∧ b'.rest = tail ∧ b'.remaining < fuel' := by
  intro ms
  induction ms with
  | nil => intro _ t b fuel tail hr hf; exact ⟨b, fuel, rfl, by simpa using hr, hf⟩
  | cons m r ih =>
    intro hm t b fuel tail hr hf
    cases fuel with
    | zero => omega
    | succ fuel =>
      have hne : (b.remaining == 0) = false := by simp [Buf.remaining, hr]
      have hstep : sectionStep t b = .ok (t, b.advance 1) := by
        rw [sectionStep_cons t b m (r ++ tail) (by simpa using hr)]
        simp [hm m (by simp)]
      have hr1 : (b.advance 1).rest = r ++ tail := by simp [hr]
      have hrem : (b.advance 1).remaining < fuel := by
        rw [Buf.remaining_advance]; simp [Buf.remaining, hr] at hf ⊢; omega
      obtain ⟨b', fuel', heq, hr', hf'⟩ := ih (fun x hx => hm x (by simp [hx])) t (b.advance 1) fuel tail hr1 hrem
      refine ⟨b', fuel', ?_, hr', hf'⟩
      simp only [whileRemaining, hne, Bool.false_eq_true, ↓reduceIte, hstep]
      exact heq

theorem head_splitOn (d : UInt8) (s : Bytes) : (splitOn d s).head? = some (s.takeWhile (· != d)) := by
  induction s with
  | nil => rfl
  | cons b r ih =>
    by_cases hb : (b == d) = true
    · have hn : (b != d) = false := by simp [bne, hb]
      simp [splitOn, hb, List.takeWhile_cons, hn]
    · have hb' : (b == d) = false := by simpa using hb
      have hn : (b != d) = true := by simp [bne, hb']
      cases hs : splitOn d r with
      | nil => rw [hs] at ih; simp at ih
      | cons p ps =>
        rw [hs] at ih
        simp only [List.head?_cons, Option.some.injEq] at ih
        simp [splitOn, hb', hs, List.takeWhile_cons, hn, ih]

theorem known_eq_typed (x : Bytes) : knownFields.contains x = typedFields.contains x := by
  rw [Bool.eq_iff_iff]
  simp only [List.contains_iff_mem, knownFields, typedFields, playerFields, List.mem_cons, List.mem_append,
    List.not_mem_nil, or_false]
  constructor
  · rintro (h | h | h | h | h | h | h) <;> simp [h]
  · rintro ((h | h | h | h | h | h) | h) <;> simp [h]

theorem skipStep_value (v : Bytes) (hv : okItem v = true) : Decodes (skipStep ()) (cstr v) ((), true) := by
  obtain ⟨h0, hval, hne⟩ := (okItem_iff v).mp hv
  unfold skipStep
  refine Decodes.bind_last (decodes_readCStr v h0 hval) ?_
  have : v.isEmpty = false := List.isEmpty_eq_false_iff.mpr hne
  simp only [this, Bool.not_false]
  exact Decodes.pure _

theorem skipStep_end : Decodes (skipStep ()) [0] ((), false) := by
  unfold skipStep
  exact Decodes.bind_last decodes_cstr_nil (by simp only [List.isEmpty_nil, Bool.not_true]; exact Decodes.pure _)

theorem decodes_skipField (off : Nat) (hoff : off < 256) (vals : List Bytes) (h : ∀ v ∈ vals, okItem v = true) :
    Decodes skipField ([UInt8.ofNat off] ++ encValues vals) () := by
  unfold skipField
  refine Decodes.bind (decodes_u8 off hoff) fun b post hr => ?_
  rw [Par.bind_ok (show remainingLength b = .ok (b.remaining, b) from rfl)]
  exact loopBrk_closed cstr (fun _ _ => ()) vals (fun v _ => cstr_ne_nil v) (fun _ v hv => skipStep_value v (h v hv))
    (fun _ => skipStep_end) () _ (closed_fuel cstr_ne_nil hr) b post hr

/-- an extra section on the wire without its marker bytes -/
def encExtraBody (e : Extra) : Bytes := cstr e.name ++ ([UInt8.ofNat e.offset] ++ encValues e.values)

theorem encExtra_eq (e : Extra) : encExtra e = e.markers ++ encExtraBody e := by
  simp [encExtra, encExtraBody, encValues, List.append_assoc]

theorem wfExtra_facts (e : Extra) (h : wfExtra e = true) :
    HeadOk e.markers e.name
    ∧ knownFields.contains (firstSegment e.name) = false ∧ e.offset < 256 ∧ (∀ v ∈ e.values, okItem v = true) := by
  simp only [wfExtra, Bool.and_eq_true, List.all_eq_true, decide_eq_true_eq, Bool.not_eq_true'] at h
  obtain ⟨⟨⟨⟨⟨hm, hname⟩, hhead⟩, htyped⟩, hoff⟩, hvals⟩ := h
  obtain ⟨h0, hv, hne⟩ := (okItem_iff _).mp hname
  refine ⟨⟨fun m hm' => UInt8.lt_iff_toNat_lt.mp (hm m hm'), h0, hv, ?_⟩, ?_, hoff, hvals⟩
  · cases hn : e.name with
    | nil => exact absurd hn hne
    | cons x r =>
      refine ⟨x, r, rfl, ?_⟩
      rw [hn] at hhead
      simp only [List.head?_cons, Option.all_some, Bool.not_eq_true', decide_eq_false_iff_not] at hhead
      intro hlt
      exact hhead (UInt8.lt_iff_toNat_lt.mpr hlt)
  · rw [known_eq_typed]; exact htyped

theorem decodes_readSection_extra (t : Tables) (e : Extra) (h : wfExtra e = true) :
    Decodes (readSection t) (encExtraBody e) t := by
  obtain ⟨hh, hk, hoff, hvals⟩ := wfExtra_facts e h
  unfold readSection encExtraBody
  refine Decodes.bind (decodes_readCStr _ hh.noNul hh.utf8) ?_
  have hk' : knownFields.contains (List.takeWhile (fun x => x != 0x5F) e.name) = false := hk
  simp only [hh.isEmpty, Bool.false_eq_true, ↓reduceIte, afterName, head_splitOn, hk', Bool.not_false]
  exact Decodes.bind_last (decodes_skipField e.offset hoff e.values hvals) (Decodes.pure _)

theorem round_of_decodes {ms id : Bytes} (hh : HeadOk ms id) (rest : Bytes) (t t' : Tables)
    (hd : Decodes (readSection t) (cstr id ++ rest) t')
    (b : Buf) (fuel : Nat) (tail : Bytes) (hr : b.rest = ms ++ (cstr id ++ rest ++ tail)) (hf : b.remaining < fuel) :
    ∃ b' fuel', whileRemaining sectionStep fuel t b = whileRemaining sectionStep fuel' t' b'
      ∧ b'.rest = tail ∧ b'.remaining < fuel' := by
  obtain ⟨x, r, hxr, hx⟩ := hh.first
  obtain ⟨xr, hbody⟩ : ∃ xr, cstr id ++ rest = x :: xr := ⟨_, by rw [hxr]; rfl⟩
  obtain ⟨b1, fuel1, heq1, hr1, hf1⟩ := markers_skip ms hh.markers t b fuel _ hr hf
  cases fuel1 with
  | zero => omega
  | succ fuel1 =>
    have hhead : b1.rest = x :: (xr ++ tail) := by rw [hr1, hbody]; rfl
    have hne : (b1.remaining == 0) = false := by simp [Buf.remaining, hhead]
    obtain ⟨b2, hb2, hr2, _⟩ := hd b1 tail hr1
    have hstep : sectionStep t b1 = .ok (t', b2) := by
      rw [sectionStep_cons t b1 x _ hhead]
      simp only [hx, ↓reduceIte]
      exact hb2
    have hrem : b2.remaining < fuel1 := by
      have h1 : b2.remaining = tail.length := by simp [Buf.remaining, hr2]
      have h2 : b1.remaining = (xr ++ tail).length + 1 := by simp [Buf.remaining, hhead]
      simp only [List.length_append] at h2
      omega
    refine ⟨b2, fuel1, ?_, hr2, hrem⟩
    rw [heq1]
    simp only [whileRemaining, hne, Bool.false_eq_true, ↓reduceIte, hstep]

def applySection (st : State) (t : Tables) : Section → Tables
  | .slice sl => applySlice st t sl
  | .extra _ => t

def SectionOk (st : State) : Section → Prop
  | .slice sl => SliceOk st sl
  | .extra e => wfExtra e = true

theorem section_round (st : State) (s : Section) (hs : SectionOk st s) (t : Tables) (b : Buf) (fuel : Nat) (tail : Bytes)
    (hr : b.rest = encSection st s ++ tail) (hf : b.remaining < fuel) :
    ∃ b' fuel', whileRemaining sectionStep fuel t b = whileRemaining sectionStep fuel' (applySection st t s) b'
      ∧ b'.rest = tail ∧ b'.remaining < fuel' := by
  cases s with
  | slice sl =>
    refine round_of_decodes (fieldId_facts st sl hs).1 _ t _ (decodes_readSection st t sl hs) b fuel tail ?_ hf
    rw [hr]; simp [encSection, encSlice_eq, encBody, List.append_assoc]
  | extra e =>
    refine round_of_decodes (wfExtra_facts e hs).1 _ t _ (decodes_readSection_extra t e hs) b fuel tail ?_ hf
    rw [hr]; simp [encSection, encExtra_eq, encExtraBody, List.append_assoc]

theorem extra_then_rest (st : State) (e : Extra) (h : wfExtra e = true) (t : Tables) (b : Buf) (fuel : Nat) (rest : Bytes)
    (hr : b.rest = encExtra e ++ rest) (hf : b.remaining < fuel) :
    ∃ b' fuel', whileRemaining sectionStep fuel t b = whileRemaining sectionStep fuel' t b'
      ∧ b'.rest = rest ∧ b'.remaining < fuel' :=
  section_round st (.extra e) h t b fuel rest hr hf

theorem foldl_applySection (st : State) : ∀ (ss : List Section) (t : Tables),
    ss.foldl (applySection st) t = (slicesOf ss).foldl (applySlice st) t := by
  intro ss
  induction ss with
  | nil => intro t; rfl
  | cons s r ih =>
    intro t
    cases s with
    | slice sl => simp only [List.foldl_cons, applySection, slicesOf, ih]
    | extra e => simp only [List.foldl_cons, applySection, slicesOf, ih]

theorem slicesOf_append (a b : List Section) : slicesOf (a ++ b) = slicesOf a ++ slicesOf b := by
  induction a with
  | nil => rfl
  | cons s r ih => cases s <;> simp [slicesOf, ih]

theorem mem_slicesOf (ss : List Section) (sl : Slice) : sl ∈ slicesOf ss ↔ Section.slice sl ∈ ss := by
  induction ss with
  | nil => simp [slicesOf]
  | cons s r ih => cases s <;> simp [slicesOf, ih]

theorem flatten_map_slicesOf (layout : List (List Section)) : (layout.map slicesOf).flatten = slicesOf layout.flatten := by
  induction layout with
  | nil => rfl
  | cons ss r ih => simp [slicesOf_append, ih]

theorem sectionsX_run (st : State) : ∀ (ss : List Section), (∀ s ∈ ss, SectionOk st s) → ∀ (t : Tables) (b : Buf) (fuel : Nat),
    b.rest = encSections st ss → b.remaining < fuel →
    ∃ b', whileRemaining sectionStep fuel t b = .ok (ss.foldl (applySection st) t, b') := by
  intro ss
  induction ss with
  | nil =>
    intro _ t b fuel hr hf
    cases fuel with
    | zero => omega
    | succ fuel =>
      have : (b.remaining == 0) = true := by simp [Buf.remaining, hr, encSections]
      exact ⟨b, by simp [whileRemaining, this]⟩
  | cons s r ih =>
    intro hok t b fuel hr hf
    obtain ⟨b1, fuel1, heq, hr1, hf1⟩ := section_round st s (hok s (by simp)) t b fuel (encSections st r)
      (by rw [hr]; simp [encSections]) hf
    obtain ⟨b2, hb2⟩ := ih (fun x hx => hok x (by simp [hx])) (applySection st t s) b1 fuel1 hr1 hf1
    exact ⟨b2, by rw [heq, hb2]; rfl⟩

theorem readSectionsX_run (st : State) (ss : List Section) (h : ∀ s ∈ ss, SectionOk st s) (t : Tables) :
    (readSections t).run (encSections st ss) = .ok ((slicesOf ss).foldl (applySlice st) t) := by
  unfold Par.run readSections
  have hrem : remainingLength (Buf.new (encSections st ss)) = .ok ((encSections st ss).length, Buf.new (encSections st ss)) := rfl
  rw [Par.bind_ok hrem]
  obtain ⟨b', hb'⟩ := sectionsX_run st ss h t (Buf.new (encSections st ss)) ((encSections st ss).length + 1) rfl
    (by simp [Buf.remaining])
  rw [hb', foldl_applySection]

theorem readAllSectionsX_run (st : State) : ∀ (layout : List (List Section)), (∀ s ∈ layout.flatten, SectionOk st s) →
    ∀ (t : Tables), readAllSections t (layout.map (encSections st)) = .ok ((slicesOf layout.flatten).foldl (applySlice st) t) := by
  intro layout
  induction layout with
  | nil => intro _ t; rfl
  | cons ss r ih =>
    intro h t
    simp only [List.map_cons, readAllSections, List.flatten_cons, slicesOf_append, List.foldl_append]
    rw [readSectionsX_run st ss (fun s hs => h s (by simp [hs])) t]
    exact ih (fun s hs => h s (by simp only [List.flatten_cons, List.mem_append]; exact Or.inr hs)) _

theorem slicesOf_map_slice (ss : List Slice) : slicesOf (ss.map .slice) = ss := by
  induction ss with
  | nil => rfl
  | cons sl r ih => simp [slicesOf, ih]

theorem encSections_map_slice (st : State) (ss : List Slice) : encSections st (ss.map .slice) = encSlices st ss := by
  simp [encSections, encSlices, List.map_map, Function.comp_def, encSection]

theorem readAllSections_run (st : State) (layout : List (List Slice)) (h : ∀ sl ∈ layout.flatten, SliceOk st sl)
    (t : Tables) : readAllSections t (layout.map (encSlices st)) = .ok (layout.flatten.foldl (applySlice st) t) := by
  have := readAllSectionsX_run st (layout.map (·.map .slice)) (fun s hs => by
    rw [← List.map_flatten] at hs
    obtain ⟨sl, hsl, rfl⟩ := List.mem_map.mp hs
    exact h sl hsl) t
  simpa only [List.map_map, Function.comp_def, encSections_map_slice, ← flatten_map_slicesOf, slicesOf_map_slice,
    List.map_id'] using this

end Gd.Gs3
