import GdVerif.Lemmas.Jc2m
import GdVerif.Lemmas.Gs3Faults
import GdVerif.Lemmas.QFlags
import GdVerif.Spec.Jc2mFaults
/-
  The whole Just Cause 2: Multiplayer query with faults injected (C10 end to end): the GameSpy 3 exchange in
  single-packet mode (`Lemmas/Gs3Faults.lean`: `attemptOf … (recvOne s)`).  The query against the SPEC's server without
  faults (C07) is the plan without failures (`Lemmas/QFlags.lean`).
-/
namespace Gd.Jc2m
open Gd Gd.Gs3 Gd.Jc2m.Spec Gd.Faults
open Gd.Gs3.Spec (Plan Attempt Ending Stage scriptAt sendsWith faultyFaults wfPlan malformedError packetsOutcome
  handshakeRequest attemptsOf)

theorem steps_recvOne_packet (s : Sock) (hudp : s.tcp = false) (cfg : Config) (st : State) (hok : Ok cfg st)
    (q : List Delivery) (fs : List Bool) (sn : List (Bytes × Bool)) :
    Steps s (recvOne s) (.ok [payload st]) ⟨[dataPacket cfg st].map .data ++ q, fs, sn⟩ ⟨q, fs, sn⟩ := by
  unfold recvOne
  have hr := steps_receive s hudp none 0 (dataPacket cfg st) q fs sn
  simp only [Option.getD_none, run_readHeader_dataPacket cfg st hok] at hr
  refine Steps.bind (by simpa using hr) ?_
  refine Steps.bind ((Steps.parse s readSingle _ _).congrRes
    (run_readSingle cfg.splitHeader (payload st) hok.header).symm) ?_
  exact Steps.pure s _ _

theorem dataRequest_ne (c : Int) : (dataRequest c == handshakeRequest) = false := by
  simp [dataRequest, handshakeRequest, Gs3.Spec.sessionId]

theorem wf_of_got_nil (pool : List Bytes) (a : Attempt) (h : a.got = []) : a.wf pool = true := by
  obtain ⟨stage, sf, got⟩ := a
  simp only at h
  subst h
  simp [Attempt.wf, Gs3.Spec.gotAt, partOf]

theorem query_faulty (cfg : Config) (st : State) (h : wf cfg st = true) (port : Option Nat) (retries : Nat)
    (plan : Plan) (hplan : wfPlan retries (pool cfg st) plan = true) (restQ : List Delivery) (restF : List Bool) :
    (Jc2m.query port retries
        (Net.init [.opened (faultyScript cfg st plan ++ restQ)] (faultyFaults plan ++ restF))).1
      = faultyExpected st plan
    ∧ Gd.sentOf (Jc2m.query port retries
        (Net.init [.opened (faultyScript cfg st plan ++ restQ)] (faultyFaults plan ++ restF))).2.log
      = faultySends cfg plan := by
  have hok := wf_ok cfg st h
  have hunit := steps_unitOf ⟨0, port.getD DEFAULT_PORT, false⟩ rfl PAYLOAD (pool cfg st) (recvOne _)
    (tailOk_recvOne _ rfl (pool cfg st) (by simp [pool]))
    cfg.challenge hok.lo hok.hi (dataRequest cfg.challenge) (request_bytes cfg.challenge).2 [dataPacket cfg st]
    [payload st] restQ restQ (fun fs sn => steps_recvOne_packet _ rfl cfg st hok restQ fs sn) retries plan hplan restF []
  rw [← impl_eq_single] at hunit
  have hS := openUdp_outcome (port.getD DEFAULT_PORT)
    (fun s => retryOnTimeout retries (getServerPacketsImpl s PAYLOAD true) >>= fun packets =>
      Q.lift (Jc2m.buildResponse packets)) _ _ _ _
    (Steps.bind_res (k := Jc2m.buildResponse) hunit fun a _ => Steps.lift _ _ _)
  have hexp : (packetsOutcome [payload st] plan >>= Jc2m.buildResponse) = faultyExpected st plan := by
    unfold packetsOutcome faultyExpected
    cases plan.ending with
    | valid => simpa using buildResponse_spec cfg st hok
    | gaveUp => rfl
    | malformed stage got m => rfl
  rw [hexp, List.nil_append] at hS
  exact hS

theorem flagBlind_query (port : Option Nat) (retries : Nat) : FlagBlind (Jc2m.query port retries) := by
  unfold Jc2m.query getServerPackets getServerPacketsImpl makeInitialHandshake sendDataRequest receive
  simp only [↓reduceIte]
  refine FlagBlind.bind (FlagBlind.openSock _ _) fun s => FlagBlind.bind (FlagBlind.retry ?_ retries) fun _ =>
    FlagBlind.lift _
  refine FlagBlind.bind (FlagBlind.bind (FlagBlind.send _ _) fun _ =>
    FlagBlind.bind (FlagBlind.bind (FlagBlind.recv _ _) fun _ => FlagBlind.parse _ _) fun _ => FlagBlind.parse _ _) fun _ => ?_
  exact FlagBlind.bind (FlagBlind.send _ _) fun _ =>
    FlagBlind.bind (FlagBlind.bind (FlagBlind.recv _ _) fun _ => FlagBlind.parse _ _) fun _ =>
      FlagBlind.bind (FlagBlind.parse _ _) fun _ => FlagBlind.pure _

/-- The whole query against the SPEC's server for a well-formed state: the expected response, and
exactly the SPEC's two requests sent. -/
theorem query_spec (cfg : Config) (st : State) (h : wf cfg st = true) (port : Option Nat) (r : Nat) :
    (Jc2m.query port r (Net.init [.opened ((script cfg st).map .data)] [])).1 = .ok (expected st)
    ∧ Gs3.sentOf (Jc2m.query port r (Net.init [.opened ((script cfg st).map .data)] [])).2.log = requests cfg := by
  obtain ⟨h1, h2⟩ := query_faulty cfg st h port r ⟨[], .valid⟩ (Gs3.wfPlan_valid (fun _ ha => nomatch ha) (Nat.zero_le r))
    [] []
  obtain ⟨e1, e2⟩ := (flagBlind_query port r).init [.opened ((script cfg st).map .data)] [false, false] (by simp)
  rw [e1, e2, sentOf_fst]
  exact ⟨h1, (congrArg (List.map (·.1)) h2).trans rfl⟩

end Gd.Jc2m
