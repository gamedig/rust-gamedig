import GdVerif.Lemmas.QSteps
/-
  The exact-outcome logic of `Lemmas/QSteps.lean` for queries that open a NEW SOCKET PER ATTEMPT (Mindustry).

  `Steps s` describes the transport by the queue of ONE open socket, the send-fault flags still to be consumed and the
  datagrams sent.  `StepsG V` is `Ends` over any list of things consumed in order — `StG Δ` = (a list of `Δ`, the
  flags, the sent list) — seen through a view `V : Net → StG Δ → Prop`:

    * `Δ = Delivery`, `V = AtS s`   : the single-socket logic (`steps_iff`; nothing needs it, both being `Ends`);
    * `Δ = ConnScript`, `V = AtM`   : the scripts of the sockets NOT YET OPENED (`Net.pending`), one consumed by each
      `openSock`; what happens on a socket once it is open is described by `Steps` on that socket (`open_then`).

  The rules that do not look inside the state are those of `Ends`.
-/
namespace Gd

structure StG (Δ : Type) where
  /-- what is still to be consumed, in order -/
  q : List Δ
  /-- send-fault flags not yet consumed -/
  fs : List Bool
  /-- datagrams sent so far -/
  sent : List (Bytes × Bool)

def StepsG {Δ α : Type} (V : Net → StG Δ → Prop) (f : Q α) (r : Res α) (σ σ' : StG Δ) : Prop :=
  ∀ w, V w σ → ∃ w', f w = (r, w') ∧ V w' σ'

theorem steps_iff {α : Type} (s : Sock) (f : Q α) (r : Res α) (q q' : List Delivery) (fs fs' : List Bool)
    (sn sn' : List (Bytes × Bool)) :
    Steps s f r ⟨q, fs, sn⟩ ⟨q', fs', sn'⟩
      ↔ StepsG (fun w (σ : StG Delivery) => AtS s w ⟨σ.q, σ.fs, σ.sent⟩) f r ⟨q, fs, sn⟩ ⟨q', fs', sn'⟩ := Iff.rfl

namespace StepsG
variable {Δ α β : Type} {V : Net → StG Δ → Prop}

theorem bind {f : Q α} {g : α → Q β} {a : α} {r : Res β} {σ σ1 σ2 : StG Δ}
    (hf : StepsG V f (.ok a) σ σ1) (hg : StepsG V (g a) r σ1 σ2) : StepsG V (f >>= g) r σ σ2 :=
  Ends.bind hf hg

theorem bind_err {f : Q α} {g : α → Q β} {k : ErrKind} {σ σ1 : StG Δ}
    (hf : StepsG V f (.err k) σ σ1) : StepsG V (f >>= g) (.err k) σ σ1 :=
  Ends.bind_err hf

/-- `Steps.retry_recovers_of` for any view: failed attempts (attempt `a` consumes `del a` and the flags `flt a`, sends
`snd a`, fails with the timeout-class error `err a`), then an attempt that ends with `R`, not a timeout -/
theorem retry_recovers_of {f : Q α} {A : Type} (ok : A → Prop) (del : A → List Δ) (flt : A → List Bool)
    (snd : A → List (Bytes × Bool)) (err : A → ErrKind) (herr : ∀ a, (err a).isTimeout = true)
    (hstep : ∀ a, ok a → ∀ q fs sn, StepsG V f (.err (err a)) ⟨del a ++ q, flt a ++ fs, sn⟩ ⟨q, fs, sn ++ snd a⟩)
    {R : Res α} (hR : ∀ k, R = .err k → k.isTimeout = false)
    (dq q' : List Δ) (df fs' : List Bool) (ds : List (Bytes × Bool))
    (hfin : ∀ sn, StepsG V f R ⟨dq, df, sn⟩ ⟨q', fs', sn ++ ds⟩) :
    ∀ (fails : List A) (r : Nat) (sn : List (Bytes × Bool)), (∀ a ∈ fails, ok a) → fails.length ≤ r →
      StepsG V (retryOnTimeout r f) R ⟨fails.flatMap del ++ dq, fails.flatMap flt ++ df, sn⟩
        ⟨q', fs', sn ++ (fails.flatMap snd ++ ds)⟩ :=
  Ends.retry_recovers (fun q fs sn w => V w ⟨q, fs, sn⟩) ok del flt snd err herr hstep hR dq q' df fs' ds hfin

theorem retry_exhausted_of {f : Q α} {A : Type} (ok : A → Prop) (del : A → List Δ) (flt : A → List Bool)
    (snd : A → List (Bytes × Bool)) (err : A → ErrKind) (herr : ∀ a, (err a).isTimeout = true)
    (hstep : ∀ a, ok a → ∀ q fs sn, StepsG V f (.err (err a)) ⟨del a ++ q, flt a ++ fs, sn⟩ ⟨q, fs, sn ++ snd a⟩)
    (q : List Δ) (fs : List Bool) :
    ∀ (r : Nat) (fails : List A) (sn : List (Bytes × Bool)), (∀ a ∈ fails, ok a) → fails.length = r + 1 →
      StepsG V (retryOnTimeout r f) (.err (Faults.lastError err fails))
        ⟨fails.flatMap del ++ q, fails.flatMap flt ++ fs, sn⟩ ⟨q, fs, sn ++ fails.flatMap snd⟩ :=
  Ends.retry_exhausted (fun q fs sn w => V w ⟨q, fs, sn⟩) ok del flt snd err herr hstep q fs

end StepsG

structure AtM (w : Net) (σ : StG ConnScript) : Prop where
  pending : w.pending = σ.q
  faults : w.faults = σ.fs
  sent : sentOf w.log = σ.sent

/-- `f` opens no socket -/
def KeepsPending {α : Type} (f : Q α) : Prop := ∀ w, (f w).2.pending = w.pending

namespace KeepsPending

theorem lift {α : Type} (r : Res α) : KeepsPending (Q.lift r) := fun _ => rfl

theorem parse {α : Type} (p : Par α) (d : Bytes) : KeepsPending (Gd.parse p d) := fun _ => rfl

theorem send (s : Sock) (d : Bytes) : KeepsPending (Gd.send s d) := by
  intro w
  unfold Gd.send
  split <;> rfl

theorem recv (s : Sock) (size : Option Nat) : KeepsPending (Gd.recv s size) := by
  intro w
  unfold Gd.recv
  split
  · rfl
  · rfl
  · split <;> rfl

theorem bind {α β : Type} {f : Q α} {g : α → Q β} (hf : KeepsPending f) (hg : ∀ a, KeepsPending (g a)) :
    KeepsPending (f >>= g) := by
  intro w
  rw [Q.bind_apply]
  have h1 := hf w
  cases h : f w with
  | mk res w1 =>
    rw [h] at h1
    cases res with
    | ok a => simp only; rw [hg a w1, h1]
    | err k => exact h1
    | crash => exact h1

end KeepsPending

/-- Opening the next socket, then a computation on it that opens no further socket: what it does on the new socket —
described by `Steps` on that socket, from the socket's own script `ds` — is what it does to the query. -/
theorem open_then {β : Type} (port : Nat) (g : Sock → Q β) (r : Res β) (ds q' : List Delivery) (P : List ConnScript)
    (fs fs' : List Bool) (sn sn' : List (Bytes × Bool)) (hk : ∀ s, KeepsPending (g s))
    (h : ∀ s : Sock, s.tcp = false → s.port = port → Steps s (g s) r ⟨ds, fs, sn⟩ ⟨q', fs', sn'⟩) :
    StepsG AtM (openSock false port >>= g) r ⟨.opened ds :: P, fs, sn⟩ ⟨P, fs', sn'⟩ := by
  intro w hw
  have hp : w.pending = .opened ds :: P := hw.pending
  have ho : openSock false port w = (.ok ⟨w.conns.length, port, false⟩,
      { w with pending := P, conns := w.conns ++ [ds], log := w.log ++ [.opened w.conns.length false port false] }) := by
    simp only [openSock, hp]
  obtain ⟨w2, h2, hat2⟩ := h ⟨w.conns.length, port, false⟩ rfl rfl
    { w with pending := P, conns := w.conns ++ [ds], log := w.log ++ [.opened w.conns.length false port false] }
    ⟨hw.faults, by simp, by simp, by simp [sentOf_append, sentOf, hw.sent]⟩
  refine ⟨w2, by rw [Q.bind_apply, ho]; exact h2, ⟨?_, hat2.faults, hat2.sent⟩⟩
  have := hk ⟨w.conns.length, port, false⟩
    { w with pending := P, conns := w.conns ++ [ds], log := w.log ++ [.opened w.conns.length false port false] }
  rw [h2] at this
  exact this

theorem open_refused {β : Type} (port : Nat) (g : Sock → Q β) (P : List ConnScript) (fs : List Bool)
    (sn : List (Bytes × Bool)) :
    StepsG AtM (openSock false port >>= g) (.err .socketBind) ⟨.refused :: P, fs, sn⟩ ⟨P, fs, sn⟩ := by
  intro w hw
  have hp : w.pending = .refused :: P := hw.pending
  refine ⟨{ w with pending := P, conns := w.conns ++ [[]], log := w.log ++ [.opened w.conns.length false port true] },
    ?_, ⟨rfl, hw.faults, by simp [sentOf_append, sentOf, hw.sent]⟩⟩
  rw [Q.bind_apply]
  simp [openSock, hp]

theorem StepsG.run {α : Type} {f : Q α} {r : Res α} {script : List ConnScript} {faults : List Bool} {σ' : StG ConnScript}
    (h : StepsG AtM f r ⟨script, faults, []⟩ σ') :
    (f (Net.init script faults)).1 = r ∧ sentOf (f (Net.init script faults)).2.log = σ'.sent := by
  obtain ⟨w', h1, h2⟩ := h (Net.init script faults) ⟨rfl, rfl, rfl⟩
  rw [h1]
  exact ⟨rfl, h2.sent⟩

end Gd
