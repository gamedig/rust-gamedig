import GdVerif.Lemmas.Gs1Decode
/-
  GameSpy 1: `buildResponse` of the canonical map of a well-formed state's variables is the response the SPEC expects
  (`buildResponse_canon`), and with it the whole `query` for any sequence of datagrams drawn from the parts.
-/
namespace Gd.Gs1
open Gd Gd.Gs Gd.Gs1.Spec

theorem take_dropKeys (R : List Bytes) (m : Map Bytes) (key : String) (h : bs key ∉ R) :
    take (dropKeys R m) key = (mapGet m (bs key), dropKeys (R ++ [bs key]) m) :=
  Gs.take_dropKeys R m h

/-- `remove(k).or_else(|| remove(k'))` on a map that holds at most one of the two keys -/
theorem take_orElse (R : List Bytes) (m : Map Bytes) (k k' : Bytes) (h : mapGet m k = none ∨ mapGet m k' = none) :
    (match mapGet m k with
      | some v => (some v, dropKeys (R ++ [k]) m)
      | none => (mapGet m k', dropKeys (R ++ [k] ++ [k']) m))
    = ((mapGet m k).or (mapGet m k'), dropKeys (R ++ [k] ++ [k']) m) := by
  cases hk : mapGet m k with
  | none => rfl
  | some v =>
    have hk' : mapGet m k' = none := by simpa [hk] using h
    rw [dropKeys_absent _ hk', hk']
    rfl

/-- the part of `buildResponse` after `extract_players` -/
def finishResponse (playersMaximum : Nat) (playersMinimum : Option Nat) (players : List Player) (vars : Map Bytes) :
    Res Response := do
  let (name, vars) := take vars "hostname"
  let name ← okOr name .packetBad
  let (map, vars) := take vars "mapname"
  let map ← okOr map .packetBad
  let (mapTitle, vars) := take vars "maptitle"
  let (adminContact, vars) := take vars "AdminEMail"
  let (adminName, vars) := take vars "AdminName"
  let (adminName, vars) := (match adminName with
    | some v => (some v, vars)
    | none => take vars "admin")
  let (hasPassword, vars) ← hasPassword vars
  let (gameMode, vars) := take vars "gametype"
  let gameMode ← okOr gameMode .packetBad
  let (gameVersion, vars) := take vars "gamever"
  let gameVersion ← okOr gameVersion .packetBad
  let (tournament, vars) := take vars "tournament"
  let tournament ← okOr (parseBoolLower (tournament.getD (asciiBytes "true"))) .typeParse
  pure { name, map, mapTitle, adminContact, adminName, hasPassword, gameMode, gameVersion, playersMaximum,
         playersOnline := players.length % 2 ^ 32, playersMinimum, players, tournament, unusedEntries := vars }

theorem buildResponse_split (vars : Map Bytes) :
    buildResponse vars = (do
      let maxText ← okOr (mapGet vars (bs "maxplayers")) .packetBad
      let playersMaximum ← okOr (parseUnsigned 32 maxText) .typeParse
      let playersMinimum ← optField (mapGet (mapRemove vars (bs "maxplayers")) (bs "minplayers"))
        (fun v => okOr (parseUnsigned 8 v) .typeParse)
      let x ← extractPlayers (mapRemove (mapRemove vars (bs "maxplayers")) (bs "minplayers"))
      finishResponse playersMaximum playersMinimum x.1 x.2) := rfl

theorem passwordValue_pwText (style : Nat) (hs : style < 3) (b : Bool) : passwordValue (pwText style b) = .ok b := by
  have : style = 0 ∨ style = 1 ∨ style = 2 := by omega
  rcases this with rfl | rfl | rfl <;> cases b <;> decide +kernel

/-- the two keys `buildResponse` removes before `extract_players` -/
def firstKeys : List Bytes := [bs "maxplayers", bs "minplayers"]

/-- the keys `finishResponse` removes, in that order -/
def finishKeys : List Bytes :=
  [bs "hostname", bs "mapname", bs "maptitle", bs "AdminEMail", bs "AdminName", bs "admin", bs "password", bs "gametype",
   bs "gamever", bs "tournament"]

/-- `buildResponse` removes every key the server can use, each once -/
theorem serverKeyList_perm : serverKeyList.Perm (firstKeys ++ finishKeys) := by decide +kernel

theorem removedKeys_nodup : (firstKeys ++ finishKeys).Nodup := serverKeyList_perm.nodup_iff.mp serverKeyList_facts.1

def TypedLookups (y : Style) (st : State) (K : Map Bytes) : Prop :=
  ∀ e ∈ skeleton y st, mapGet K e.1 = e.2

theorem finish_eq {y : Style} {st : State} (h : Wf y st) (K : Map Bytes) (hK : TypedLookups y st K)
    (pmax : Nat) (pmin : Option Nat) (players : List Player) :
    finishResponse pmax pmin players (dropKeys firstKeys K) = .ok
      { name := st.name, map := st.map, mapTitle := st.mapTitle, adminContact := st.adminContact,
        adminName := st.adminName, hasPassword := st.hasPassword, gameMode := st.gameMode,
        gameVersion := st.gameVersion, playersMaximum := pmax, playersOnline := players.length % 2 ^ 32,
        playersMinimum := pmin, players := players, tournament := st.tournament.getD true,
        unusedEntries := dropKeys (firstKeys ++ finishKeys) K } := by
  simp only [TypedLookups, skeleton, List.forall_mem_cons] at hK
  obtain ⟨l_host, l_map, l_type, l_ver, -, l_pw, l_title, l_email, l_an, l_admin, -, l_tour, -⟩ := hK
  have fresh : ∀ {i : Nat} {k : Bytes}, (firstKeys ++ finishKeys)[i]? = some k → k ∉ (firstKeys ++ finishKeys).take i :=
    removedKeys_nodup.not_mem_take
  have hone : mapGet K (bs "AdminName") = none ∨ mapGet K (bs "admin") = none := by
    rw [l_an, l_admin]; cases y.adminShort <;> simp
  have hname : (mapGet K (bs "AdminName")).or (mapGet K (bs "admin")) = st.adminName := by
    rw [l_an, l_admin]; cases y.adminShort <;> simp
  have htour : parseBoolLower ((st.tournament.map (boolText y.boolUpper)).getD (bs "true")) = some (st.tournament.getD true) := by
    cases st.tournament with
    | none => exact parseBoolLower_boolText false true
    | some b => exact parseBoolLower_boolText _ _
  unfold finishResponse
  rw [take_dropKeys _ K "hostname" (by exact fresh (i := 2) rfl)]
  simp only [l_host, okOr, Res.bind_ok]
  rw [take_dropKeys _ K "mapname" (by exact fresh (i := 3) rfl)]
  simp only [l_map, Res.bind_ok]
  rw [take_dropKeys _ K "maptitle" (by exact fresh (i := 4) rfl)]
  dsimp only
  rw [take_dropKeys _ K "AdminEMail" (by exact fresh (i := 5) rfl)]
  dsimp only
  rw [take_dropKeys _ K "AdminName" (by exact fresh (i := 6) rfl)]
  dsimp only
  rw [take_dropKeys _ K "admin" (by exact fresh (i := 7) rfl), take_orElse _ K _ _ hone]
  dsimp only
  rw [hasPassword_dropKeys _ K (by exact fresh (i := 8) rfl) l_pw (passwordValue_pwText y.pwStyle h.pw _)]
  simp only [Res.bind_ok]
  rw [take_dropKeys _ K "gametype" (by exact fresh (i := 9) rfl)]
  simp only [l_type, Res.bind_ok]
  rw [take_dropKeys _ K "gamever" (by exact fresh (i := 10) rfl)]
  simp only [l_ver, Res.bind_ok]
  rw [take_dropKeys _ K "tournament" (by exact fresh (i := 11) rfl)]
  simp only [l_title, l_email, hname, l_tour, show asciiBytes "true" = bs "true" from rfl, htour, Res.bind_ok, Res.pure_eq]
  rfl

theorem filter_dropKeys (ks : List Bytes) (m : Map Bytes) (p : Bytes × Bytes → Bool) :
    (dropKeys ks m).filter p = dropKeys ks (m.filter p) := by
  rw [dropKeys, dropKeys, List.filter_filter, List.filter_filter]
  exact List.filter_congr fun _ _ => Bool.and_comm _ _

theorem buildResponse_canon {y : Style} {st : State} (h : Wf y st) :
    buildResponse (canon (allPairs y st)) = .ok (expected st) := by
  have hd := distinct_allPairs h
  have hperm := canon_perm_self (allPairs y st)
  have hnp := h.nplayers
  have hC : TypedLookups y st (canon (allPairs y st)) := fun e he => by
    rw [mapGet_canon hd, (mapGet_allPairs_skeleton h he).2]
  have hK : TypedLookups y st ((canon (allPairs y st)).filter (fun e => (playerField e.1).isNone)) := fun e he => by
    rw [mapGet_filter_key _ (fun k => (playerField k).isNone) e.1]
    simp only [(mapGet_allPairs_skeleton h he).1, Option.isNone_none, ↓reduceIte]
    exact hC e he
  have hC' := hC
  simp only [TypedLookups, skeleton, List.forall_mem_cons] at hC'
  obtain ⟨-, -, -, -, hmax, -, -, -, -, -, hmin', -⟩ := hC'
  have hmin : mapGet (mapRemove (canon (allPairs y st)) (bs "maxplayers")) (bs "minplayers") = st.playersMinimum.map dec := by
    rw [mapRemove_eq_dropKeys, mapGet_dropKeys _ _ (by exact removedKeys_nodup.not_mem_take (i := 1) rfl), hmin']
  have hrem : mapRemove (mapRemove (canon (allPairs y st)) (bs "maxplayers")) (bs "minplayers")
      = dropKeys firstKeys (canon (allPairs y st)) := by
    rw [mapRemove_eq_dropKeys (canon (allPairs y st)), mapRemove_dropKeys]
    rfl
  have hsub : ∀ e ∈ dropKeys firstKeys (canon (allPairs y st)), e ∈ allPairs y st := fun e he =>
    hperm.mem_iff.mp (List.mem_filter.mp he).1
  have hsup : ∀ q ∈ playersPairsFrom y 0 st.players, q ∈ dropKeys firstKeys (canon (allPairs y st)) := by
    intro q hq
    obtain ⟨kd, _, n, _, _, hpf⟩ := playerField_player h hq
    refine List.mem_filter.mpr ⟨hperm.mem_iff.mpr (by simp [allPairs, hq]), ?_⟩
    have : q.1 ∉ firstKeys := fun hm => by
      rw [(serverKeyList_facts.2 _ (serverKeyList_perm.mem_iff.mpr (List.mem_append_left _ hm))).2.2] at hpf
      cases hpf
    simpa using this
  have hdist : Distinct (dropKeys firstKeys (canon (allPairs y st))) := (canon_distinct hd).filter _
  -- unused entries: everything that is neither typed nor a player field, in canonical order
  have hunused : dropKeys (firstKeys ++ finishKeys) ((canon (allPairs y st)).filter (fun e => (playerField e.1).isNone))
      = canon st.extras := by
    rw [dropKeys_congr (fun k => serverKeyList_perm.mem_iff.symm), canon_filter hd, canon_dropKeys (hd.filter _)]
    refine congrArg canon ?_
    unfold allPairs dropKeys
    rw [List.filter_filter, List.filter_append, List.filter_append]
    rw [List.filter_eq_nil_iff.mpr ?hs, List.filter_eq_self.mpr ?he, List.filter_eq_nil_iff.mpr ?hp]
    · simp
    case hs =>
      intro p hp
      simp [(serverPairs_key y st hp).1]
    case he =>
      intro e he
      obtain ⟨hnt, hpf⟩ := h.extrasKeys e he
      have : e.1 ∉ serverKeyList := fun hm => hnt (serverKeyList_facts.2 _ hm).2.1
      simp [this, hpf]
    case hp =>
      intro q hq
      obtain ⟨kd, _, n, _, _, hpf⟩ := playerField_player h hq
      simp [hpf]
  rw [buildResponse_split, hmax]
  simp only [okOr, Res.bind_ok, parseUnsigned_dec 32 _ h.server.maxp, hmin]
  rw [optField_map st.playersMinimum dec _ id (fun v hv => by
    rw [parseUnsigned_dec 8 v (h.server.minp v hv)]; rfl)]
  simp only [Res.bind_ok, Option.map_id_fun, id_eq]
  rw [hrem, extractPlayers_eq h _ hsub hsup hdist]
  simp only [Res.bind_ok]
  rw [filter_dropKeys, finish_eq h _ hK, hunused]
  have hlen : st.players.length % 2 ^ 32 = st.players.length := Nat.mod_eq_of_lt (by omega)
  rw [hlen]
  rfl

theorem drawn_parts {y : Style} {st : State} (arr : List Bytes) (harr : ∀ d ∈ arr, d ∈ script y st) :
    ∃ dsP : List NPart, arr = dsP.map (encN y (partsOf y st).length) ∧ ∀ a ∈ dsP, a ∈ partsOf y st := by
  refine exists_map_of_drawn _ _ arr fun d hd => ?_
  have := harr d hd
  rw [script_eq] at this
  obtain ⟨a, ha, e⟩ := List.mem_map.mp this
  exact ⟨a, ha, e.symm⟩

/-- any sequence of datagrams drawn from the parts (any order, repetitions, omissions): the
variables sent, or an error -/
theorem queryVars_drawn {y : Style} {st : State} (h : Wf y st) (port retries : Nat) (arr : List Bytes)
    (harr : ∀ d ∈ arr, d ∈ script y st) :
    (queryVars port retries (Net.init (scriptOf arr) [])).1 = .ok (canon (allPairs y st))
    ∨ ∃ k, (queryVars port retries (Net.init (scriptOf arr) [])).1 = .err k := by
  obtain ⟨dsP, e, hall⟩ := drawn_parts arr harr
  have hP := partsOk_partsOf h
  have hready : Ready ⟨0, port, false⟩
      { pending := [], conns := [arr.map Delivery.data], faults := [], log := [.opened 0 false port false] }
      (dsP.map (encN y (partsOf y st).length)) := ⟨rfl, by simp, by simp [e], rfl⟩
  have := retry_drawn hP (partsOf_ne_nil y st) ⟨0, port, false⟩ retries _ dsP hready hall (partsOf_size h)
  rw [allOf_partsOf] at this
  unfold queryVars
  rw [Q.bind_apply]
  exact this

theorem query_drawn {y : Style} {st : State} (h : Wf y st) (port retries : Nat) (arr : List Bytes)
    (harr : ∀ d ∈ arr, d ∈ script y st) :
    (query port retries (Net.init (scriptOf arr) [])).1 = .ok (expected st)
    ∨ ∃ k, (query port retries (Net.init (scriptOf arr) [])).1 = .err k := by
  rw [query_fst]
  rcases queryVars_drawn h port retries arr harr with h1 | ⟨k, h1⟩
  · left; rw [h1]; exact buildResponse_canon h
  · right; exact ⟨k, by rw [h1]⟩

end Gd.Gs1
