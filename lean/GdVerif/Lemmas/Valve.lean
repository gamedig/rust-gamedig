import GdVerif.Lemmas.Decodes
import GdVerif.Lemmas.Decimal
import GdVerif.Spec.Valve
/-
  Field-by-field decoding lemmas for the Valve section parsers against the SPEC encoders.
-/
namespace Gd.Valve
open Gd Gd.Valve.Spec

theorem okStr_iff (s : Bytes) : okStr s = true ↔ (0 : UInt8) ∉ s ∧ validUtf8 s = true := by
  simp [okStr, List.contains_iff_mem]

theorem decodes_cstr (s : Bytes) (h : okStr s = true) : Decodes readCStr (cstr s) s := by
  obtain ⟨h0, hv⟩ := (okStr_iff s).mp h
  exact decodes_readCStr s h0 hv

theorem decodes_boolByte (v : Bool) : Decodes readBoolByte (boolByte v) v := by
  cases v
  · exact Decodes.bind' (e1 := [0]) (e2 := []) (decodes_u8 0 (by omega)) (Decodes.pure _) rfl
  · exact Decodes.bind' (e1 := [1]) (e2 := []) (decodes_u8 1 (by omega)) (Decodes.pure _) rfl

theorem decodes_readIf_some {p : Par α} {e : Bytes} {x : α} (h : Decodes p e x) :
    Decodes (readIf true p) e (some x) := by
  simp only [readIf, ↓reduceIte]
  exact Decodes.bind' (e1 := e) (e2 := []) h (Decodes.pure _) (by simp)

theorem decodes_readIf_none (p : Par α) : Decodes (readIf false p) [] none := by
  simp only [readIf, Bool.false_eq_true, ↓reduceIte]
  exact Decodes.pure _

theorem decodes_readIf {p : Par α} (c : Bool) (o : Option α) (enc : α → Bytes)
    (hc : o.isSome = c) (h : ∀ x, o = some x → Decodes p (enc x) x) :
    Decodes (readIf c p) (optEnc enc o) o := by
  cases o with
  | none => simp only [Option.isSome_none] at hc; subst hc; exact decodes_readIf_none p
  | some x => simp only [Option.isSome_some] at hc; subst hc; exact decodes_readIf_some (h x rfl)

theorem decodes_readIf_le (c : Bool) (w : Nat) (o : Option Nat) (hc : o.isSome = c)
    (h : o.all (· < 256 ^ w) = true) : Decodes (readIf c (readUnsigned .little w)) (optEnc (le w) o) o :=
  decodes_readIf c o (le w) hc fun x hx => decodes_le w x (by simpa [hx] using h)

theorem decodes_readIf_cstr (c : Bool) (o : Option Bytes) (hc : o.isSome = c) (h : o.all okStr = true) :
    Decodes (readIf c readCStr) (optEnc cstr o) o :=
  decodes_readIf c o cstr hc fun x hx => decodes_cstr x (by simpa [hx] using h)

theorem decodes_player (engine : Engine) (idx : Nat) (p : ServerPlayer)
    (h : wfPlayer (engine == Engine.new 2400) p = true) : Decodes (parsePlayer engine) (encPlayer idx p) p := by
  simp only [wfPlayer, Bool.and_eq_true, decide_eq_true_eq, beq_iff_eq] at h
  obtain ⟨⟨⟨⟨⟨⟨⟨hn, hlo⟩, hhi⟩, hd⟩, hds⟩, hms⟩, hdv⟩, hmv⟩ := h
  unfold parsePlayer encPlayer
  repeat with_reducible refine Decodes.assoc ?_
  have hskip : Decodes (moveCursor 1) (u8 idx) () := decodes_skip (u8 idx)
  refine Decodes.bind hskip ?_
  refine Decodes.bind (decodes_cstr p.name hn) ?_
  refine Decodes.bind (decodes_signed .little 4 (by omega) p.score (by simpa using hlo) (by simpa using hhi)) ?_
  refine Decodes.bind (decodes_le 4 p.duration hd) ?_
  refine Decodes.bind (decodes_readIf_le _ 4 p.deaths hds hdv) ?_
  refine Decodes.bind_last (decodes_readIf_le _ 4 p.money hms hmv) ?_
  cases p
  exact Decodes.pure _

theorem decodes_playersFrom (engine : Engine) (ps : List ServerPlayer) (i : Nat)
    (h : ∀ p ∈ ps, wfPlayer (engine == Engine.new 2400) p = true) :
    Decodes (repeatN (parsePlayer engine) ps.length) (encPlayersFrom i ps) ps := by
  induction ps generalizing i with
  | nil => exact Decodes.pure _
  | cons p r ih =>
    simp only [List.length_cons, repeatN, encPlayersFrom]
    refine Decodes.bind (decodes_player engine i p (h p (by simp))) ?_
    exact Decodes.bind' (e2 := []) (ih (i + 1) fun q hq => h q (by simp [hq])) (Decodes.pure _) (by simp)

theorem decodes_players (engine : Engine) (ps : List ServerPlayer) (hl : ps.length < 256)
    (h : ∀ p ∈ ps, wfPlayer (engine == Engine.new 2400) p = true) :
    Decodes (parsePlayers engine) (encPlayers ps) ps := by
  unfold parsePlayers encPlayers
  exact Decodes.bind (decodes_u8 ps.length hl) (decodes_playersFrom engine ps 0 h)

theorem decodes_rule (r : Bytes × Bytes) (h1 : okStr r.1 = true) (h2 : okStr r.2 = true) :
    Decodes parseRule (encRule r) r := by
  unfold parseRule encRule
  refine Decodes.bind (decodes_cstr r.1 h1) ?_
  exact Decodes.bind' (e2 := []) (decodes_cstr r.2 h2) (Decodes.pure _) (by simp)

theorem foldl_mapInsert_distinct (rs acc : Rules) (hd : distinctKeys (acc ++ rs) = true) :
    rs.foldl (fun m p => mapInsert m p.1 p.2) acc = acc ++ rs := by
  induction rs generalizing acc with
  | nil => simp
  | cons r rest ih =>
    simp only [List.foldl_cons]
    have hins : mapInsert acc r.1 r.2 = acc ++ [r] := by
      clear ih
      induction acc with
      | nil => simp [mapInsert]
      | cons a as iha =>
        have hne : (a.1 == r.1) = false := by
          simp only [List.cons_append, distinctKeys, Bool.and_eq_true, Bool.not_eq_true',
            List.any_eq_false] at hd
          have := hd.1 r (by simp)
          rw [beq_eq_false_iff_ne]
          intro h
          apply this
          rw [h]
          exact beq_self_eq_true _
        have hd' : distinctKeys (as ++ r :: rest) = true := by
          simp only [List.cons_append, distinctKeys, Bool.and_eq_true] at hd
          exact hd.2
        obtain ⟨a1, a2⟩ := a
        simp only at hne
        simp [mapInsert, hne, iha hd']
    rw [hins, ih (acc ++ [r]) (by simpa [List.append_assoc] using hd)]
    simp [List.append_assoc]

theorem decodes_rules (engine : Engine) (rs : Rules) (hl : rs.length < 65536)
    (h : ∀ r ∈ rs, okStr r.1 = true ∧ okStr r.2 = true) (hd : distinctKeys rs = true) :
    Decodes (parseRules engine) (encRules rs) (expectedRules engine rs) := by
  unfold parseRules encRules
  refine Decodes.bind (decodes_le 2 rs.length hl) ?_
  refine Decodes.bind' (e2 := []) (decodes_repeatN encRule rs fun r hr => decodes_rule r (h r hr).1 (h r hr).2) ?_ (by simp)
  rw [foldl_mapInsert_distinct rs [] (by simpa using hd)]
  simp only [List.nil_append, expectedRules, mapRemove]
  exact Decodes.pure _

theorem serverFromGldsrc_byte (upper : Bool) (t : ServerType) :
    serverFromGldsrc (serverTypeByte upper t) = .ok t := by
  cases upper <;> cases t <;> rfl

theorem environmentFromGldsrc_byte (upper : Bool) (t : Environment) :
    environmentFromGldsrc (environmentByte upper t) = .ok t := by
  cases upper <;> cases t <;> rfl

theorem serverTypeByte_lt (upper : Bool) (t : ServerType) : serverTypeByte upper t < 256 := by
  cases upper <;> cases t <;> decide

theorem environmentByte_lt (upper : Bool) (t : Environment) : environmentByte upper t < 256 := by
  cases upper <;> cases t <;> decide

theorem flagBits (p s t k g : Bool) (n : Nat)
    (hn : n = (if p then 0x80 else 0) + (if s then 0x10 else 0) + (if t then 0x40 else 0) + (if k then 0x20 else 0) +
      (if g then 0x01 else 0)) :
    n < 256 ∧ decide (n &&& 0x80 > 0) = p ∧ decide (n &&& 0x10 > 0) = s ∧ decide (n &&& 0x40 > 0) = t ∧
      decide (n &&& 0x20 > 0) = k ∧ decide (n &&& 0x01 > 0) = g := by
  subst hn
  decide +revert +kernel

theorem edf_flags (e : ExtraData) :
    edf e < 256 ∧
    decide (edf e &&& 0x80 > 0) = e.port.isSome ∧ decide (edf e &&& 0x10 > 0) = e.steamId.isSome ∧
    decide (edf e &&& 0x40 > 0) = e.tvPort.isSome ∧ decide (edf e &&& 0x20 > 0) = e.keywords.isSome ∧
    decide (edf e &&& 0x01 > 0) = e.gameId.isSome :=
  flagBits _ _ _ _ _ (edf e) rfl

theorem decodesEnd_extra (a16 : Nat) (o : Option ExtraData) (hw : o.all wfExtra = true) :
    DecodesEnd (parseExtra a16) (optEnc encExtra o)
      (o, match o.bind (·.gameId) with
        | some gid => gid % 2 ^ 24
        | none => a16) := by
  cases o with
  | none =>
    intro b hr
    refine ⟨b, ?_, rfl⟩
    unfold parseExtra
    have : readU8 b = .err .packetUnderflow := readUnsigned_err (by simp [Buf.remaining, show b.rest = [] from hr])
    simp [this]
  | some e =>
    simp only [Option.all_some, wfExtra, Bool.and_eq_true, decide_eq_true_eq, beq_iff_eq] at hw
    obtain ⟨⟨⟨⟨⟨⟨hp, hs⟩, ht⟩, htn⟩, hnm⟩, hk⟩, hg⟩ := hw
    obtain ⟨hlt, f80, f10, f40, f20, f01⟩ := edf_flags e
    simp only [optEnc, encExtra]
    repeat with_reducible refine DecodesEnd.assoc ?_
    intro b hr
    obtain ⟨b1, h1, hr1, hd1⟩ := decodes_u8 (edf e) hlt b _ hr
    unfold parseExtra
    rw [h1]
    simp only
    refine DecodesEnd.at ?_ hr1 hd1
    refine DecodesEnd.bind (decodes_readIf_le _ 2 e.port f80.symm hp) ?_ rfl
    refine DecodesEnd.bind (decodes_readIf_le _ 8 e.steamId f10.symm hs) ?_ rfl
    refine DecodesEnd.bind (decodes_readIf_le _ 2 e.tvPort f40.symm ht) ?_ rfl
    refine DecodesEnd.bind (decodes_readIf_cstr _ e.tvName (by rw [f40, htn]) hnm) ?_ rfl
    refine DecodesEnd.bind (decodes_readIf_cstr _ e.keywords f20.symm hk) ?_ rfl
    refine DecodesEnd.bind_pure (decodes_readIf_le _ 8 e.gameId f01.symm hg).toEnd fun b' => ?_
    obtain ⟨_, _, _, _, _, g⟩ := e
    cases g
    · rfl
    · exact congrArg (fun n => Res.ok ((_, n), b')) (Nat.and_two_pow_sub_one_eq_mod _ _)

theorem decodes_ship (t : TheShip) (h : t.mode < 256 ∧ t.witnesses < 256 ∧ t.duration < 256) :
    Decodes (do
      let mode ← readU8
      let witnesses ← readU8
      let duration ← readU8
      pure (TheShip.mk mode witnesses duration)) (encShip t) t := by
  unfold encShip u8
  repeat with_reducible refine Decodes.assoc ?_
  refine Decodes.bind (decodes_u8 _ h.1) ?_
  refine Decodes.bind (decodes_u8 _ h.2.1) ?_
  refine Decodes.bind' (e2 := []) (decodes_u8 _ h.2.2) ?_ (by simp)
  cases t
  exact Decodes.pure _

theorem decodesEnd_sourceInfo (engine : Engine) (upper : Bool) (i : ServerInfo)
    (h : wfSourceInfo engine i = true) :
    DecodesEnd (parseSourceInfo engine) (encSourceInfo upper i) i := by
  simp only [wfSourceInfo, wfCommon, Bool.and_eq_true, decide_eq_true_eq, beq_iff_eq,
    Bool.not_eq_true', Option.isNone_iff_eq_none] at h
  obtain ⟨⟨⟨⟨⟨⟨⟨⟨⟨⟨⟨⟨⟨⟨hpv, hname⟩, hmap⟩, hfolder⟩, hmode⟩, hon⟩, hmax⟩, hbots⟩, hver⟩, hship⟩, hshipv⟩, hextra⟩, hmod⟩, hmd⟩, happ⟩ := h
  unfold parseSourceInfo encSourceInfo
  repeat with_reducible refine DecodesEnd.assoc ?_
  refine DecodesEnd.bind (decodes_u8 _ hpv) ?_ rfl
  refine DecodesEnd.bind (decodes_cstr _ hname) ?_ rfl
  refine DecodesEnd.bind (decodes_cstr _ hmap) ?_ rfl
  refine DecodesEnd.bind (decodes_cstr _ hfolder) ?_ rfl
  refine DecodesEnd.bind (decodes_cstr _ hmode) ?_ rfl
  refine DecodesEnd.bind (decodes_le 2 (i.appid % 65536) (Nat.mod_lt _ (by decide))) ?_ rfl
  refine DecodesEnd.bind (decodes_u8 _ hon) ?_ rfl
  refine DecodesEnd.bind (decodes_u8 _ hmax) ?_ rfl
  refine DecodesEnd.bind (decodes_u8 _ hbots) ?_ rfl
  refine DecodesEnd.bind (decodes_u8 _ (serverTypeByte_lt upper i.serverType)) ?_ rfl
  rw [serverFromGldsrc_byte]
  refine DecodesEnd.bind (Decodes.lift_ok _) ?_ (List.nil_append _).symm
  refine DecodesEnd.bind (decodes_u8 _ (environmentByte_lt upper i.environmentType)) ?_ rfl
  rw [environmentFromGldsrc_byte]
  refine DecodesEnd.bind (Decodes.lift_ok _) ?_ (List.nil_append _).symm
  refine DecodesEnd.bind (decodes_boolByte _) ?_ rfl
  refine DecodesEnd.bind (decodes_boolByte _) ?_ rfl
  refine DecodesEnd.bind (decodes_readIf _ i.theShip encShip hship fun t ht => decodes_ship t (by
    have := hshipv; simp only [ht, Option.all_some, Bool.and_eq_true, decide_eq_true_eq] at this
    exact ⟨this.1.1, this.1.2, this.2⟩)) ?_ rfl
  refine DecodesEnd.bind (decodes_cstr _ hver) ?_ rfl
  have happ' : (match i.extraData.bind (·.gameId) with
      | some gid => gid % 2 ^ 24
      | none => i.appid % 65536) = i.appid := by
    cases hg : i.extraData.bind (·.gameId) with
    | none => rw [hg] at happ; exact Nat.mod_eq_of_lt (of_decide_eq_true happ)
    | some gid => rw [hg] at happ; exact (beq_iff_eq.mp happ).symm
  refine DecodesEnd.bind_pure (decodesEnd_extra (i.appid % 65536) i.extraData hextra) fun b => ?_
  rw [happ']
  cases i
  simp only at hmod hmd
  subst hmod hmd
  rfl

theorem okStr_ascii (s : Bytes) (h : isAsciiText s = true) : okStr s = true := by
  rw [okStr_iff]
  simp only [isAsciiText, List.all_eq_true, Bool.and_eq_true, decide_eq_true_eq, bne_iff_ne] at h
  exact ⟨fun hm => (h 0 hm).2 rfl, validUtf8_ascii s fun b hb => (h b hb).1⟩

theorem decodes_mod (m : ModData) (h : wfMod m = true) : Decodes parseModData (encMod m) m := by
  simp only [wfMod, Bool.and_eq_true, decide_eq_true_eq] at h
  obtain ⟨⟨⟨hl, hd⟩, hv⟩, hs⟩ := h
  unfold parseModData encMod
  repeat with_reducible refine Decodes.assoc ?_
  refine Decodes.bind (decodes_cstr _ hl) ?_
  refine Decodes.bind (decodes_cstr _ hd) ?_
  refine Decodes.bind (decodes_skip [0]) ?_
  refine Decodes.bind (decodes_le 4 _ hv) ?_
  refine Decodes.bind (decodes_le 4 _ hs) ?_
  refine Decodes.bind (decodes_boolByte _) ?_
  refine Decodes.bind_last (decodes_boolByte m.hasOwnDll) ?_
  cases m
  exact Decodes.pure _

theorem decodes_goldSrcInfo (address : Bytes) (i : ServerInfo) (h : wfGoldSrcInfo address i = true) :
    Decodes parseGoldSrcInfo (encGoldSrcInfo address i) i := by
  simp only [wfGoldSrcInfo, wfCommon, Bool.and_eq_true, decide_eq_true_eq, beq_iff_eq,
    Bool.not_eq_true', Option.isNone_iff_eq_none, List.isEmpty_eq_false_iff, bne_iff_ne] at h
  obtain ⟨⟨⟨⟨⟨⟨⟨⟨⟨⟨⟨⟨⟨⟨⟨⟨hpv, hname⟩, hmap⟩, hfolder⟩, hmode⟩, hon⟩, hmax⟩, hbots⟩, haddr⟩, hne⟩, happ⟩, hship⟩, hver⟩, hextra⟩, hmod⟩, hmd⟩, henv⟩ := h
  obtain ⟨a0, arest, rfl⟩ : ∃ a0 arest, address = a0 :: arest := by
    cases address with
    | nil => exact absurd rfl hne
    | cons a r => exact ⟨a, r, rfl⟩
  have hrest : isAsciiText arest = true := by
    simp only [isAsciiText, List.all_cons, Bool.and_eq_true] at haddr
    exact haddr.2
  unfold parseGoldSrcInfo encGoldSrcInfo
  rw [show cstr (a0 :: arest) = [a0] ++ cstr arest from rfl]
  repeat with_reducible refine Decodes.assoc ?_
  refine Decodes.bind (decodes_readU8 a0) ?_
  refine Decodes.bind (decodes_cstr arest (okStr_ascii _ hrest)) ?_
  refine Decodes.bind (decodes_cstr _ hname) ?_
  refine Decodes.bind (decodes_cstr _ hmap) ?_
  refine Decodes.bind (decodes_cstr _ hfolder) ?_
  refine Decodes.bind (decodes_cstr _ hmode) ?_
  refine Decodes.bind (decodes_u8 _ hon) ?_
  refine Decodes.bind (decodes_u8 _ hmax) ?_
  refine Decodes.bind (decodes_u8 _ hpv) ?_
  refine Decodes.bind (decodes_u8 _ (serverTypeByte_lt true i.serverType)) ?_
  have hst : goldServerType (serverTypeByte true i.serverType) = .ok i.serverType := by cases i.serverType <;> rfl
  rw [hst]
  refine Decodes.bind' (e1 := []) (Decodes.lift_ok _) ?_ (List.nil_append _).symm
  refine Decodes.bind (decodes_u8 _ (environmentByte_lt true i.environmentType)) ?_
  have het : goldEnvironment (environmentByte true i.environmentType) = .ok i.environmentType := by
    cases he : i.environmentType
    · rfl
    · rfl
    · exact absurd he henv
  rw [het]
  refine Decodes.bind' (e1 := []) (Decodes.lift_ok _) ?_ (List.nil_append _).symm
  refine Decodes.bind (decodes_boolByte _) ?_
  refine Decodes.bind (decodes_boolByte _) ?_
  have hmodp : Decodes (readIf i.isMod parseModData) (optEnc encMod i.modData) i.modData :=
    decodes_readIf _ i.modData encMod hmod.symm fun m hm => decodes_mod m (by
      have := hmd; simpa [hm] using this)
  refine Decodes.bind hmodp ?_
  refine Decodes.bind (decodes_boolByte _) ?_
  refine Decodes.bind_last (decodes_u8 _ hbots) ?_
  cases i
  simp only at happ hship hver hextra
  subst happ hship hextra
  simp only [List.isEmpty_iff] at hver
  subst hver
  exact Decodes.pure _

end Gd.Valve
