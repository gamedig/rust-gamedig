import GdVerif.Proto.CliJson
import GdVerif.Lemmas.CliCodec
/-
  Lemmas for the JSON printer / reader of the command-line tool's model: the reader inverts the printer, for
  every value, in the compact and in the pretty style.
-/
namespace Gd.Cli

theorem skipWs_append_ws (ws rest : Bytes) (h : ∀ b ∈ ws, isWs b = true) : skipWs (ws ++ rest) = skipWs rest := by
  induction ws with
  | nil => rfl
  | cons b r ih =>
    have hb := h b (by simp)
    simp only [List.cons_append, skipWs, hb, ↓reduceIte]
    exact ih fun x hx => h x (by simp [hx])

theorem skipWs_cons_of_not (c : UInt8) (r : Bytes) (h : isWs c = false) : skipWs (c :: r) = c :: r := by
  simp [skipWs, h]

structure Style.Ws (st : Style) : Prop where
  item : ∀ d, ∀ b ∈ st.item d, isWs b = true
  close : ∀ d, ∀ b ∈ st.close d, isWs b = true
  colon : ∀ b ∈ st.colon, isWs b = true

theorem Style.compact_ws : Style.compact.Ws := by
  refine ⟨fun _ b hb => ?_, fun _ b hb => ?_, fun b hb => ?_⟩ <;> simp [Style.compact] at hb

theorem indentOf_ws (d : Nat) : ∀ b ∈ indentOf d, isWs b = true := by
  intro b hb
  have := List.eq_of_mem_replicate hb
  subst this
  decide

theorem Style.pretty_ws : Style.pretty.Ws := by
  refine ⟨fun d b hb => ?_, fun d b hb => ?_, fun b hb => ?_⟩
  · simp only [Style.pretty, List.mem_cons] at hb
    rcases hb with rfl | hb
    · decide
    · exact indentOf_ws _ b hb
  · simp only [Style.pretty, List.mem_cons] at hb
    rcases hb with rfl | hb
    · decide
    · exact indentOf_ws _ b hb
  · simp only [Style.pretty, List.mem_cons, List.not_mem_nil, or_false] at hb
    subst hb
    decide

/-- the two-character escapes: the letter after the backslash and the byte it stands for -/
def shortEscapes : List (UInt8 × UInt8) :=
  [(0x22, 0x22), (0x5C, 0x5C), (0x62, 0x08), (0x66, 0x0C), (0x6E, 0x0A), (0x72, 0x0D), (0x74, 0x09)]

theorem jsonEscapeByte_cases (b : UInt8) :
    (∃ e, (e, b) ∈ shortEscapes ∧ jsonEscapeByte b = [0x5C, e])
    ∨ (b.toNat < 0x20 ∧ jsonEscapeByte b = [0x5C, 0x75, 0x30, 0x30, hexLowerDigit (b.toNat / 16), hexLowerDigit (b.toNat % 16)])
    ∨ (b ≠ 0x22 ∧ b ≠ 0x5C ∧ ¬ b.toNat < 0x20 ∧ jsonEscapeByte b = [b]) := by
  by_cases hshort : b = 0x22 ∨ b = 0x5C ∨ b = 0x08 ∨ b = 0x0C ∨ b = 0x0A ∨ b = 0x0D ∨ b = 0x09
  · rcases hshort with rfl | rfl | rfl | rfl | rfl | rfl | rfl <;> exact Or.inl ⟨_, by decide, rfl⟩
  simp only [not_or] at hshort
  obtain ⟨h22, h5C, h08, h0C, h0A, h0D, h09⟩ := hshort
  by_cases hlt : b.toNat < 0x20
  · refine Or.inr (Or.inl ⟨hlt, ?_⟩)
    rw [jsonEscapeByte, if_neg h22, if_neg h5C, if_neg h08, if_neg h0C, if_neg h0A, if_neg h0D, if_neg h09, if_pos hlt]
  · refine Or.inr (Or.inr ⟨h22, h5C, hlt, ?_⟩)
    rw [jsonEscapeByte, if_neg h22, if_neg h5C, if_neg h08, if_neg h0C, if_neg h0A, if_neg h0D, if_neg h09, if_neg hlt]

theorem jsonEscapeByte_length_pos (b : UInt8) : 1 ≤ (jsonEscapeByte b).length := by
  rcases jsonEscapeByte_cases b with ⟨e, _, h⟩ | ⟨_, h⟩ | ⟨_, _, _, h⟩ <;> rw [h] <;> exact Nat.succ_pos _

theorem escape_length_ge (s : Bytes) : s.length ≤ (s.flatMap jsonEscapeByte).length := by
  induction s with
  | nil => simp
  | cons b r ih =>
    simp only [List.flatMap_cons, List.length_append, List.length_cons]
    have := jsonEscapeByte_length_pos b
    omega

theorem hex4_control (n : Nat) (h : n < 32) :
    hex4 0x30 0x30 (hexLowerDigit (n / 16)) (hexLowerDigit (n % 16)) = some n := by
  revert n; decide

theorem readStrBody_short (f : Nat) (e b : UInt8) (r : Bytes) (h : (e, b) ∈ shortEscapes) :
    readStrBody (f + 1) (0x5C :: e :: r) = (readStrBody f r).map fun p => (b :: p.1, p.2) := by
  simp only [shortEscapes, List.mem_cons, Prod.mk.injEq, List.not_mem_nil, or_false] at h
  rcases h with ⟨rfl, rfl⟩ | ⟨rfl, rfl⟩ | ⟨rfl, rfl⟩ | ⟨rfl, rfl⟩ | ⟨rfl, rfl⟩ | ⟨rfl, rfl⟩ | ⟨rfl, rfl⟩ <;> rfl

theorem readStrBody_u00 (f : Nat) (b : UInt8) (r : Bytes) (h : b.toNat < 0x20) :
    readStrBody (f + 1) (0x5C :: 0x75 :: 0x30 :: 0x30 :: hexLowerDigit (b.toNat / 16) :: hexLowerDigit (b.toNat % 16) :: r)
      = (readStrBody f r).map fun p => (b :: p.1, p.2) := by
  have henc : utf8EncodeChar b.toNat = [b] := by
    rw [utf8EncodeChar, if_pos (by omega), u8_ofNat_toNat]
  have hlow : b.toNat < 0xD800 ∨ 0xDBFF < b.toNat := Or.inl (by omega)
  rw [readStrBody]
  simp only [show ((0x5C : UInt8) = 0x22) = False by decide, show ((0x75 : UInt8) = 0x22) = False by decide,
      show ((0x75 : UInt8) = 0x5C) = False by decide, show ((0x75 : UInt8) = 0x2F) = False by decide,
      show ((0x75 : UInt8) = 0x62) = False by decide, show ((0x75 : UInt8) = 0x66) = False by decide,
      show ((0x75 : UInt8) = 0x6E) = False by decide, show ((0x75 : UInt8) = 0x72) = False by decide,
      show ((0x75 : UInt8) = 0x74) = False by decide, ↓reduceIte, hex4_control b.toNat h,
      show ¬ (0xDC00 ≤ b.toNat ∧ b.toNat ≤ 0xDFFF) by omega, hlow, henc, List.cons_append, List.nil_append]

theorem readStrBody_plain (f : Nat) (b : UInt8) (r : Bytes) (h22 : b ≠ 0x22) (h5C : b ≠ 0x5C) (hge : ¬ b.toNat < 0x20) :
    readStrBody (f + 1) (b :: r) = (readStrBody f r).map fun p => (b :: p.1, p.2) := by
  simp only [readStrBody, h22, h5C, hge, ↓reduceIte]

theorem readStrBody_escaped (b : UInt8) (f : Nat) (tail : Bytes) :
    readStrBody (f + 1) (jsonEscapeByte b ++ tail) = (readStrBody f tail).map fun p => (b :: p.1, p.2) := by
  rcases jsonEscapeByte_cases b with ⟨e, he, h⟩ | ⟨hlt, h⟩ | ⟨h22, h5C, hge, h⟩ <;> rw [h]
  · exact readStrBody_short f e b tail he
  · exact readStrBody_u00 f b tail hlt
  · exact readStrBody_plain f b tail h22 h5C hge
theorem readStrBody_body (s : Bytes) : ∀ (f : Nat) (rest : Bytes), s.length < f →
    readStrBody f (s.flatMap jsonEscapeByte ++ 0x22 :: rest) = some (s, rest) := by
  induction s with
  | nil =>
    intro f rest hf
    cases f with
    | zero => omega
    | succ f => simp [readStrBody]
  | cons b r ih =>
    intro f rest hf
    cases f with
    | zero => omega
    | succ f =>
      simp only [List.flatMap_cons, List.append_assoc]
      rw [readStrBody_escaped, ih f rest (by simp only [List.length_cons] at hf; omega)]
      rfl

theorem readStrBody_string (s rest : Bytes) :
    readStrBody ((s.flatMap jsonEscapeByte ++ 0x22 :: rest).length + 1) (s.flatMap jsonEscapeByte ++ 0x22 :: rest)
      = some (s, rest) := by
  apply readStrBody_body
  have := escape_length_ge s
  simp only [List.length_append, List.length_cons]
  omega

/-- what may follow a value: nothing, or a character that cannot continue a number -/
def Delim (rest : Bytes) : Prop := ∀ c r, rest = c :: r → isNumChar c = false

theorem Delim.nil : Delim [] := fun _ _ h => by cases h

theorem Delim.cons {c : UInt8} (r : Bytes) (h : isNumChar c = false) : Delim (c :: r) := by
  intro c' r' heq
  cases heq
  exact h

theorem isNumChar_ws (b : UInt8) (h : isWs b = true) : isNumChar b = false := by
  simp only [isWs, Bool.or_eq_true, decide_eq_true_eq] at h
  rcases h with ((rfl | rfl) | rfl) | rfl <;> decide

theorem Delim.ws_append (ws : Bytes) (rest : Bytes) (hws : ∀ b ∈ ws, isWs b = true) (hr : Delim rest) : Delim (ws ++ rest) := by
  cases ws with
  | nil => exact hr
  | cons b r => exact Delim.cons _ (isNumChar_ws b (hws b (by simp)))

theorem spanNum_append (t rest : Bytes) (ht : ∀ b ∈ t, isNumChar b = true) (hr : Delim rest) :
    spanNum (t ++ rest) = (t, rest) := by
  induction t with
  | nil =>
    cases rest with
    | nil => rfl
    | cons c r => simp [spanNum, hr c r rfl]
  | cons b r ih =>
    have hb := ht b (by simp)
    have := ih fun x hx => ht x (by simp [hx])
    simp only [List.cons_append, spanNum, hb, ↓reduceIte, this]

theorem isNumChar_digit (b : UInt8) (h : isDigit b = true) : isNumChar b = true := by simp [isNumChar, h]

theorem numDigits_chars (t : Bytes) (h : numDigits t = true) : ∀ b ∈ t, isNumChar b = true := by
  induction t with
  | nil => intro b hb; cases hb
  | cons c r ih =>
    simp only [numDigits, Bool.and_eq_true] at h
    exact List.forall_mem_cons.mpr ⟨isNumChar_digit _ h.1, ih h.2⟩

theorem numExp_chars (t : Bytes) (h : numExp t = true) : ∀ b ∈ t, isNumChar b = true := by
  cases t with
  | nil => intro b hb; cases hb
  | cons c r =>
    simp only [numExp] at h
    by_cases hc : c = 0x2D ∨ c = 0x2B
    · simp only [hc, ↓reduceIte] at h
      have hsign : isNumChar c = true := by rcases hc with rfl | rfl <;> decide
      cases r with
      | nil => simp at h
      | cons d r' =>
        simp only [Bool.and_eq_true] at h
        exact List.forall_mem_cons.mpr ⟨hsign, List.forall_mem_cons.mpr ⟨isNumChar_digit _ h.1, numDigits_chars _ h.2⟩⟩
    · simp only [hc, ↓reduceIte, Bool.and_eq_true] at h
      exact List.forall_mem_cons.mpr ⟨isNumChar_digit _ h.1, numDigits_chars _ h.2⟩

theorem numFracRest_chars (t : Bytes) (h : numFracRest t = true) : ∀ b ∈ t, isNumChar b = true := by
  induction t with
  | nil => intro b hb; cases hb
  | cons c r ih =>
    simp only [numFracRest] at h
    by_cases hd : isDigit c = true
    · simp only [hd, ↓reduceIte] at h
      exact List.forall_mem_cons.mpr ⟨isNumChar_digit _ hd, ih h⟩
    · simp only [hd, Bool.false_eq_true, ↓reduceIte] at h
      by_cases he : c = 0x65 ∨ c = 0x45
      · simp only [he, ↓reduceIte] at h
        have hexp : isNumChar c = true := by rcases he with rfl | rfl <;> decide
        exact List.forall_mem_cons.mpr ⟨hexp, numExp_chars _ h⟩
      · simp [he] at h

theorem numAfterInt_chars (t : Bytes) (h : numAfterInt t = true) : ∀ b ∈ t, isNumChar b = true := by
  cases t with
  | nil => intro b hb; cases hb
  | cons c r =>
    simp only [numAfterInt] at h
    by_cases hc : c = 0x2E
    · simp only [hc, ↓reduceIte] at h
      cases r with
      | nil => simp at h
      | cons d r' =>
        simp only [Bool.and_eq_true] at h
        exact List.forall_mem_cons.mpr ⟨hc ▸ by decide, List.forall_mem_cons.mpr ⟨isNumChar_digit _ h.1, numFracRest_chars _ h.2⟩⟩
    · simp only [hc, ↓reduceIte] at h
      by_cases he : c = 0x65 ∨ c = 0x45
      · simp only [he, ↓reduceIte] at h
        have hexp : isNumChar c = true := by rcases he with rfl | rfl <;> decide
        exact List.forall_mem_cons.mpr ⟨hexp, numExp_chars _ h⟩
      · simp [he] at h

theorem numIntRest_chars (t : Bytes) (h : numIntRest t = true) : ∀ b ∈ t, isNumChar b = true := by
  induction t with
  | nil => intro b hb; cases hb
  | cons c r ih =>
    simp only [numIntRest] at h
    by_cases hd : isDigit c = true
    · simp only [hd, ↓reduceIte] at h
      exact List.forall_mem_cons.mpr ⟨isNumChar_digit _ hd, ih h⟩
    · simp only [hd, Bool.false_eq_true, ↓reduceIte] at h
      exact numAfterInt_chars _ h

theorem numUnsigned_chars (t : Bytes) (h : numUnsigned t = true) :
    (∀ b ∈ t, isNumChar b = true) ∧ ∃ c r, t = c :: r ∧ isDigit c = true := by
  cases t with
  | nil => simp [numUnsigned] at h
  | cons c r =>
    simp only [numUnsigned] at h
    by_cases hc : c = 0x30
    · simp only [hc, ↓reduceIte] at h
      subst hc
      exact ⟨List.forall_mem_cons.mpr ⟨by decide, numAfterInt_chars _ h⟩, _, _, rfl, by decide⟩
    · simp only [hc, ↓reduceIte, Bool.and_eq_true] at h
      exact ⟨List.forall_mem_cons.mpr ⟨isNumChar_digit _ h.1, numIntRest_chars _ h.2⟩, _, _, rfl, h.1⟩

theorem isJsonNumber_chars (t : Bytes) (h : isJsonNumber t = true) :
    (∀ b ∈ t, isNumChar b = true) ∧ ∃ c r, t = c :: r ∧ (c = 0x2D ∨ isDigit c = true) := by
  cases t with
  | nil => simp [isJsonNumber] at h
  | cons c r =>
    simp only [isJsonNumber] at h
    by_cases hc : c = 0x2D
    · simp only [hc, ↓reduceIte] at h
      subst hc
      exact ⟨List.forall_mem_cons.mpr ⟨by decide, (numUnsigned_chars _ h).1⟩, _, _, rfl, Or.inl rfl⟩
    · simp only [hc, ↓reduceIte] at h
      obtain ⟨hall, c', r', heq, hd⟩ := numUnsigned_chars _ h
      cases heq
      exact ⟨hall, _, _, rfl, Or.inr hd⟩

mutual
  /-- nodes of a value (each value and each member of a container counts one): the fuel its text needs -/
  def sizeJ : J → Nat
    | .arr l => 1 + sizeL l
    | .obj m => 1 + sizeM m
    | .null => 1
    | .bool _ => 1
    | .num _ => 1
    | .str _ => 1
  def sizeL : JList → Nat
    | .nil => 0
    | .cons h t => 1 + sizeJ h + sizeL t
  def sizeM : JMembers → Nat
    | .nil => 0
    | .cons _ v t => 1 + sizeJ v + sizeM t
end

theorem sizeJ_pos (j : J) : 1 ≤ sizeJ j := by
  cases j <;> simp [sizeJ] <;> omega

theorem fuel_succ {n f : Nat} (hn : 1 ≤ n) (hf : n ≤ f) : ∃ f', f = f' + 1 := ⟨f - 1, by omega⟩

theorem numChar_not_special (c : UInt8) (h : isNumChar c = true) :
    isWs c = false ∧ c ≠ 0x22 ∧ c ≠ 0x5B ∧ c ≠ 0x7B ∧ c ≠ 0x6E ∧ c ≠ 0x74 ∧ c ≠ 0x66 ∧ c ≠ 0x5D ∧ c ≠ 0x7D := by
  refine ⟨?_, ?_, ?_, ?_, ?_, ?_, ?_, ?_, ?_⟩
  · cases hw : isWs c
    · rfl
    · rw [isNumChar_ws c hw] at h; cases h
  all_goals (intro heq; subst heq; revert h; decide)

theorem printJ_head (st : Style) (d : Nat) (j : J) (hok : j.numbersOk = true) :
    ∃ c tl, printJ st d j = c :: tl ∧ isWs c = false ∧ c ≠ 0x5D ∧ c ≠ 0x7D := by
  cases j with
  | null | str _ | arr _ | obj _ => exact ⟨_, _, rfl, by decide, by decide, by decide⟩
  | bool b => cases b <;> exact ⟨_, _, rfl, by decide, by decide, by decide⟩
  | num t =>
    simp only [J.numbersOk] at hok
    obtain ⟨hall, c, r, heq, _⟩ := isJsonNumber_chars t hok
    have hc := numChar_not_special c (hall c (by simp [heq]))
    exact ⟨c, r, by simp [printJ, heq], hc.1, hc.2.2.2.2.2.2.2.1, hc.2.2.2.2.2.2.2.2⟩

theorem readJ_start (f : Nat) (ws : Bytes) (c : UInt8) (r : Bytes) (hws : ∀ b ∈ ws, isWs b = true) :
    readJ (f + 1) (ws ++ c :: r) = readJ (f + 1) (c :: r) := by
  simp only [readJ, skipWs_append_ws _ _ hws]

theorem readJ_keyword (f : Nat) (rest : Bytes) :
    readJ (f + 1) (0x6E :: 0x75 :: 0x6C :: 0x6C :: rest) = some (.null, rest)
    ∧ readJ (f + 1) (0x74 :: 0x72 :: 0x75 :: 0x65 :: rest) = some (.bool true, rest)
    ∧ readJ (f + 1) (0x66 :: 0x61 :: 0x6C :: 0x73 :: 0x65 :: rest) = some (.bool false, rest) := by
  simp [readJ, skipWs, isWs]

theorem readJ_str (f : Nat) (r : Bytes) :
    readJ (f + 1) (0x22 :: r) = (readStrBody (r.length + 1) r).map fun p => (.str p.1, p.2) := by
  simp [readJ, skipWs, isWs]

theorem readJ_num (f : Nat) (c : UInt8) (r : Bytes) (hc : isNumChar c = true) :
    readJ (f + 1) (c :: r) =
      if isJsonNumber (spanNum (c :: r)).1 then some (.num (spanNum (c :: r)).1, (spanNum (c :: r)).2) else none := by
  obtain ⟨h0, h1, h2, h3, h4, h5, h6, _, _⟩ := numChar_not_special c hc
  simp only [readJ, skipWs, h0, Bool.false_eq_true, ↓reduceIte, h1, h2, h3, h4, h5, h6]

theorem readJ_arr (f : Nat) (r : Bytes) :
    readJ (f + 1) (0x5B :: r) =
      match skipWs r with
      | [] => none
      | c2 :: rest => if c2 = 0x5D then some (.arr .nil, rest) else (readItems f r).map fun p => (.arr p.1, p.2) := by
  simp [readJ, skipWs, isWs]
  rfl

theorem readJ_obj (f : Nat) (r : Bytes) :
    readJ (f + 1) (0x7B :: r) =
      match skipWs r with
      | [] => none
      | c2 :: rest => if c2 = 0x7D then some (.obj .nil, rest) else (readMembers f r).map fun p => (.obj p.1, p.2) := by
  simp [readJ, skipWs, isWs]
  rfl

/-- the text `readItems` is given for a non-empty array: the first item and, after it, the rest and the `]` -/
def itemsText (st : Style) (d : Nat) (h : J) (t : JList) (rest : Bytes) : Bytes :=
  st.item d ++ (printJ st (d + 1) h ++ (printItems st d false t ++ 0x5D :: rest))

def membersText (st : Style) (d : Nat) (k : Bytes) (v : J) (t : JMembers) (rest : Bytes) : Bytes :=
  st.item d ++ (0x22 :: (k.flatMap jsonEscapeByte ++ 0x22 :: (0x3A :: (st.colon ++ (printJ st (d + 1) v
    ++ (printMembers st d false t ++ 0x7D :: rest))))))

theorem printItems_false_cons (st : Style) (d : Nat) (h : J) (t : JList) (rest : Bytes) :
    printItems st d false (.cons h t) ++ 0x5D :: rest = 0x2C :: itemsText st d h t rest := by
  simp [printItems, itemsText, List.append_assoc]

theorem printMembers_false_cons (st : Style) (d : Nat) (k : Bytes) (v : J) (t : JMembers) (rest : Bytes) :
    printMembers st d false (.cons k v t) ++ 0x7D :: rest = 0x2C :: membersText st d k v t rest := by
  simp [printMembers, membersText, jsonString, List.append_assoc]

theorem printJ_arr_cons (st : Style) (d : Nat) (h : J) (t : JList) (rest : Bytes) :
    printJ st d (.arr (.cons h t)) ++ rest = 0x5B :: itemsText st d h t rest := by
  simp [printJ, printItems, itemsText, List.append_assoc]

theorem printJ_obj_cons (st : Style) (d : Nat) (k : Bytes) (v : J) (t : JMembers) (rest : Bytes) :
    printJ st d (.obj (.cons k v t)) ++ rest = 0x7B :: membersText st d k v t rest := by
  simp [printJ, printMembers, membersText, jsonString, List.append_assoc]

theorem items_tail_delim (st : Style) (hst : st.Ws) (d : Nat) (t : JList) (rest : Bytes) :
    Delim (printItems st d false t ++ 0x5D :: rest) := by
  cases t with
  | nil =>
    simp only [printItems, Bool.false_eq_true, ↓reduceIte]
    exact Delim.ws_append _ _ (hst.close d) (Delim.cons _ (by decide))
  | cons h t => rw [printItems_false_cons]; exact Delim.cons _ (by decide)

theorem members_tail_delim (st : Style) (hst : st.Ws) (d : Nat) (t : JMembers) (rest : Bytes) :
    Delim (printMembers st d false t ++ 0x7D :: rest) := by
  cases t with
  | nil =>
    simp only [printMembers, Bool.false_eq_true, ↓reduceIte]
    exact Delim.ws_append _ _ (hst.close d) (Delim.cons _ (by decide))
  | cons k v t => rw [printMembers_false_cons]; exact Delim.cons _ (by decide)

mutual
  theorem readJ_print (st : Style) (hst : st.Ws) : ∀ (j : J), j.numbersOk = true → ∀ (d f : Nat) (ws rest : Bytes),
      (∀ b ∈ ws, isWs b = true) → sizeJ j ≤ f → Delim rest → readJ f (ws ++ (printJ st d j ++ rest)) = some (j, rest)
    | .null, _, d, f, ws, rest, hws, hf, _ => by
      obtain ⟨f, rfl⟩ := fuel_succ (sizeJ_pos _) hf
      exact (readJ_start _ _ _ _ hws).trans (readJ_keyword f rest).1
    | .bool true, _, d, f, ws, rest, hws, hf, _ => by
      obtain ⟨f, rfl⟩ := fuel_succ (sizeJ_pos _) hf
      exact (readJ_start _ _ _ _ hws).trans (readJ_keyword f rest).2.1
    | .bool false, _, d, f, ws, rest, hws, hf, _ => by
      obtain ⟨f, rfl⟩ := fuel_succ (sizeJ_pos _) hf
      exact (readJ_start _ _ _ _ hws).trans (readJ_keyword f rest).2.2
    | .num t, hok, d, f, ws, rest, hws, hf, hrest => by
      obtain ⟨f, rfl⟩ := fuel_succ (sizeJ_pos _) hf
      simp only [J.numbersOk] at hok
      obtain ⟨hall, c, r, heq, _⟩ := isJsonNumber_chars t hok
      have hspan := spanNum_append t rest hall hrest
      have hc : isNumChar c = true := hall c (by simp [heq])
      have htext : printJ st d (.num t) ++ rest = c :: (r ++ rest) := by simp [printJ, heq]
      rw [htext, readJ_start _ _ _ _ hws, readJ_num _ _ _ hc]
      have : c :: (r ++ rest) = t ++ rest := by simp [heq]
      rw [this, hspan]
      simp only [hok, ↓reduceIte]
    | .str s, _, d, f, ws, rest, hws, hf, _ => by
      obtain ⟨f, rfl⟩ := fuel_succ (sizeJ_pos _) hf
      have htext : printJ st d (.str s) ++ rest = 0x22 :: (s.flatMap jsonEscapeByte ++ 0x22 :: rest) := by
        simp [printJ, jsonString, List.append_assoc]
      rw [htext, readJ_start _ _ _ _ hws, readJ_str, readStrBody_string]
      rfl
    | .arr .nil, _, d, f, ws, rest, hws, hf, _ => by
      obtain ⟨f, rfl⟩ := fuel_succ (sizeJ_pos _) hf
      refine (readJ_start _ _ 0x5B (0x5D :: rest) hws).trans ?_
      rw [readJ_arr]
      simp [skipWs, isWs]
    | .arr (.cons h t), hok, d, f, ws, rest, hws, hf, _ => by
      obtain ⟨f, rfl⟩ := fuel_succ (sizeJ_pos _) hf
      simp only [J.numbersOk] at hok
      have hokh : h.numbersOk = true := by simp only [JList.numbersOk, Bool.and_eq_true] at hok; exact hok.1
      rw [printJ_arr_cons, readJ_start _ _ _ _ hws, readJ_arr]
      obtain ⟨c, tl, hhead, hcws, hc5d, _⟩ := printJ_head st (d + 1) h hokh
      have hskip : skipWs (itemsText st d h t rest) = c :: (tl ++ (printItems st d false t ++ 0x5D :: rest)) := by
        unfold itemsText
        rw [skipWs_append_ws _ _ (hst.item d), hhead]
        exact skipWs_cons_of_not _ _ hcws
      rw [hskip]
      simp only [hc5d, ↓reduceIte]
      have := readItems_print st hst (.cons h t) hok h t rfl d f rest (by simp only [sizeJ] at hf; omega)
      unfold itemsText at this ⊢
      rw [this]
      rfl
    | .obj .nil, _, d, f, ws, rest, hws, hf, _ => by
      obtain ⟨f, rfl⟩ := fuel_succ (sizeJ_pos _) hf
      refine (readJ_start _ _ 0x7B (0x7D :: rest) hws).trans ?_
      rw [readJ_obj]
      simp [skipWs, isWs]
    | .obj (.cons k v t), hok, d, f, ws, rest, hws, hf, _ => by
      obtain ⟨f, rfl⟩ := fuel_succ (sizeJ_pos _) hf
      simp only [J.numbersOk] at hok
      rw [printJ_obj_cons, readJ_start _ _ _ _ hws, readJ_obj]
      have hskip : skipWs (membersText st d k v t rest) = 0x22 :: (k.flatMap jsonEscapeByte ++ 0x22 :: (0x3A :: (st.colon
          ++ (printJ st (d + 1) v ++ (printMembers st d false t ++ 0x7D :: rest))))) := by
        unfold membersText
        rw [skipWs_append_ws _ _ (hst.item d)]
        exact skipWs_cons_of_not _ _ (by decide)
      rw [hskip]
      simp only [show ((0x22 : UInt8) = 0x7D) = False by decide, ↓reduceIte]
      have := readMembers_print st hst (.cons k v t) hok k v t rfl d f rest (by simp only [sizeJ] at hf; omega)
      rw [this]
      rfl
  theorem readItems_print (st : Style) (hst : st.Ws) : ∀ (l : JList), l.numbersOk = true → ∀ (h : J) (t : JList), l = .cons h t →
      ∀ (d f : Nat) (rest : Bytes), sizeL l ≤ f → readItems f (itemsText st d h t rest) = some (l, rest)
    | .nil, _, h, t, heq, _, _, _, _ => by cases heq
    | .cons h t, hok, _, _, heq, d, f, rest, hf => by
      cases heq
      obtain ⟨f, rfl⟩ : ∃ f', f = f' + 1 := ⟨f - 1, by simp only [sizeL] at hf; omega⟩
      simp only [JList.numbersOk, Bool.and_eq_true] at hok
      have hh := readJ_print st hst h hok.1 (d + 1) f (st.item d) (printItems st d false t ++ 0x5D :: rest) (hst.item d)
        (by simp only [sizeL] at hf; omega) (items_tail_delim st hst d t rest)
      unfold itemsText
      simp only [readItems, hh]
      cases t with
      | nil =>
        have : skipWs (printItems st d false .nil ++ 0x5D :: rest) = 0x5D :: rest := by
          simp only [printItems, Bool.false_eq_true, ↓reduceIte]
          rw [skipWs_append_ws _ _ (hst.close d)]
          exact skipWs_cons_of_not _ _ (by decide)
        rw [this]
        simp
      | cons h2 t2 =>
        rw [printItems_false_cons, skipWs_cons_of_not _ _ (by decide)]
        simp only [show ((0x2C : UInt8) = 0x5D) = False by decide, ↓reduceIte]
        rw [readItems_print st hst (.cons h2 t2) hok.2 h2 t2 rfl d f rest (by simp only [sizeL] at hf ⊢; omega)]
        rfl
  theorem readMembers_print (st : Style) (hst : st.Ws) : ∀ (l : JMembers), l.numbersOk = true → ∀ (k : Bytes) (v : J) (t : JMembers),
      l = .cons k v t → ∀ (d f : Nat) (rest : Bytes), sizeM l ≤ f → readMembers f (membersText st d k v t rest) = some (l, rest)
    | .nil, _, k, v, t, heq, _, _, _, _ => by cases heq
    | .cons k v t, hok, _, _, _, heq, d, f, rest, hf => by
      cases heq
      obtain ⟨f, rfl⟩ : ∃ f', f = f' + 1 := ⟨f - 1, by simp only [sizeM] at hf; omega⟩
      simp only [JMembers.numbersOk, Bool.and_eq_true] at hok
      have hv := readJ_print st hst v hok.1 (d + 1) f st.colon (printMembers st d false t ++ 0x7D :: rest) hst.colon
        (by simp only [sizeM] at hf; omega) (members_tail_delim st hst d t rest)
      unfold membersText
      simp only [readMembers]
      rw [skipWs_append_ws _ _ (hst.item d), skipWs_cons_of_not _ _ (by decide)]
      simp only [↓reduceIte, readStrBody_string]
      rw [skipWs_cons_of_not _ _ (by decide)]
      simp only [↓reduceIte, hv]
      cases t with
      | nil =>
        have : skipWs (printMembers st d false .nil ++ 0x7D :: rest) = 0x7D :: rest := by
          simp only [printMembers, Bool.false_eq_true, ↓reduceIte]
          rw [skipWs_append_ws _ _ (hst.close d)]
          exact skipWs_cons_of_not _ _ (by decide)
        rw [this]
        simp
      | cons k2 v2 t2 =>
        rw [printMembers_false_cons, skipWs_cons_of_not _ _ (by decide)]
        simp only [show ((0x2C : UInt8) = 0x7D) = False by decide, ↓reduceIte]
        rw [readMembers_print st hst (.cons k2 v2 t2) hok.2 k2 v2 t2 rfl d f rest (by simp only [sizeM] at hf ⊢; omega)]
        rfl
end

mutual
  theorem sizeJ_le_print (st : Style) : ∀ (j : J), j.numbersOk = true → ∀ d, sizeJ j ≤ (printJ st d j).length
    | .null, _, d | .bool true, _, d | .bool false, _, d => by simp [sizeJ, printJ, asciiBytes]
    | .num t, hok, d => by
      simp only [J.numbersOk] at hok
      obtain ⟨_, c, r, heq, _⟩ := isJsonNumber_chars t hok
      simp [sizeJ, printJ, heq]
    | .str s, _, d => by simp [sizeJ, printJ, jsonString]
    | .arr l, hok, d => by
      simp only [J.numbersOk] at hok
      have := sizeL_le_print st l hok true d
      simp only [sizeJ, printJ, List.length_append, List.length_cons, List.length_nil]
      simp only [↓reduceIte] at this
      omega
    | .obj m, hok, d => by
      simp only [J.numbersOk] at hok
      have := sizeM_le_print st m hok true d
      simp only [sizeJ, printJ, List.length_append, List.length_cons, List.length_nil]
      simp only [↓reduceIte] at this
      omega
  theorem sizeL_le_print (st : Style) : ∀ (l : JList), l.numbersOk = true → ∀ (first : Bool) d,
      sizeL l ≤ (printItems st d first l).length + (if first then 1 else 0)
    | .nil, _, first, d => by simp [sizeL]
    | .cons h t, hok, first, d => by
      simp only [JList.numbersOk, Bool.and_eq_true] at hok
      have h1 := sizeJ_le_print st h hok.1 (d + 1)
      have h2 := sizeL_le_print st t hok.2 false d
      simp only [Bool.false_eq_true, ↓reduceIte, Nat.add_zero] at h2
      simp only [sizeL, printItems, List.length_append]
      cases first <;> simp <;> omega
  theorem sizeM_le_print (st : Style) : ∀ (l : JMembers), l.numbersOk = true → ∀ (first : Bool) d,
      sizeM l ≤ (printMembers st d first l).length + (if first then 1 else 0)
    | .nil, _, first, d => by simp [sizeM]
    | .cons k v t, hok, first, d => by
      simp only [JMembers.numbersOk, Bool.and_eq_true] at hok
      have h1 := sizeJ_le_print st v hok.1 (d + 1)
      have h2 := sizeM_le_print st t hok.2 false d
      simp only [Bool.false_eq_true, ↓reduceIte, Nat.add_zero] at h2
      simp only [sizeM, printMembers, List.length_append]
      cases first <;> simp <;> omega
end

theorem readJson_print (st : Style) (hst : st.Ws) (j : J) (hok : j.numbersOk = true) (d : Nat) :
    readJson (printJ st d j) = some j := by
  have h := readJ_print st hst j hok d ((printJ st d j).length + 1) [] [] (fun b hb => by cases hb)
    (by have := sizeJ_le_print st j hok d; omega) Delim.nil
  simp only [List.nil_append, List.append_nil] at h
  simp [readJson, h, skipWs]

end Gd.Cli
