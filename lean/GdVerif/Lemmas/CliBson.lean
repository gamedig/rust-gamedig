import GdVerif.Proto.CliBson
import GdVerif.Lemmas.Codec
import GdVerif.Lemmas.Decimal
/-
  Lemmas about the BSON model (`Proto/CliBson.lean`): the reader undoes the serialiser.
-/
namespace Gd.Cli

/-- (`Gd.Cli.readCStr`: BSON's cstring on a byte list, not the buffer parser `Gd.readCStr`) -/
theorem readCStr_append (k rest : Bytes) (h : (0 : UInt8) ∉ k) : readCStr (k ++ 0 :: rest) = some (k, rest) := by
  induction k with
  | nil => simp [readCStr]
  | cons b r ih =>
    have hb : b ≠ 0 := fun e => h (by simp [e])
    have hr : (0 : UInt8) ∉ r := fun e => h (by simp [e])
    simp [readCStr, hb, ih hr]

theorem split4_natLE (x : Nat) (rest : Bytes) : split4 (natLE 4 x ++ rest) = some (x % 2 ^ 32, rest) := by
  have h := leNat_natLE 4 x
  simp only [natLE, List.cons_append, List.nil_append, split4] at h ⊢
  rw [h]

theorem split8_natLE (x : Nat) (rest : Bytes) : split8 (natLE 8 x ++ rest) = some (x % 2 ^ 64, rest) := by
  have h := leNat_natLE 8 x
  simp only [natLE, List.cons_append, List.nil_append, split8] at h ⊢
  rw [h]

theorem toSigned_ofSigned32 (v : Int) (lo : -2147483648 ≤ v) (hi : v ≤ 2147483647) :
    toSigned 32 (ofSigned 32 v % 2 ^ 32) = v := by
  rw [Nat.mod_eq_of_lt (ofSigned_lt 32 v)]
  exact toSigned_ofSigned 32 (by decide) v (by omega) (by omega)

theorem toSigned_ofSigned64 (v : Int) (lo : -9223372036854775808 ≤ v) (hi : v ≤ 9223372036854775807) :
    toSigned 64 (ofSigned 64 v % 2 ^ 64) = v := by
  rw [Nat.mod_eq_of_lt (ofSigned_lt 64 v)]
  exact toSigned_ofSigned 64 (by decide) v (by omega) (by omega)

theorem IntKind.range (k : IntKind) :
    (k.wide = false → -2147483648 ≤ k.lo ∧ k.hi ≤ 2147483647)
    ∧ -9223372036854775808 ≤ k.lo ∧ (k ≠ .u64 → k.hi ≤ 9223372036854775807) := by
  cases k <;> decide

theorem readBVal_num (n : Num) (f : Nat) (rest : Bytes) (ht : n.typed = true) (hr : n.refused = false) :
    readBVal (f + 1) n.tag (encNum n ++ rest) = some (.num n.canon, rest) := by
  cases n with
  | f64 bits =>
    simp only [Num.typed, decide_eq_true_eq] at ht
    simp [readBVal, Num.tag, encNum, split8_natLE, Num.canon, Nat.mod_eq_of_lt ht]
  | int k v =>
    simp only [Num.typed, Bool.and_eq_true, decide_eq_true_eq] at ht
    obtain ⟨hnarrow, hlo, hhi⟩ := IntKind.range k
    cases hw : k.wide
    · have := hnarrow hw
      simp [readBVal, Num.tag, encNum, hw, split4_natLE, Num.canon, toSigned_ofSigned32 v (by omega) (by omega)]
    · have hv : v ≤ 9223372036854775807 := by
        by_cases hu : k = .u64
        · subst hu
          exact Int.not_lt.mp (of_decide_eq_false hr)
        · exact Int.le_trans ht.2 (hhi hu)
      simp [readBVal, Num.tag, encNum, hw, split8_natLE, Num.canon, toSigned_ofSigned64 v (by omega) hv]
theorem Num.tag_ne_zero (n : Num) : n.tag ≠ 0 := by
  cases n with
  | f64 _ => simp [Num.tag]
  | int k v => cases k <;> simp [Num.tag, IntKind.wide]

theorem V.tag_ne_zero (v : V) : v.tag ≠ 0 := by
  cases v <;> simp [V.tag, Num.tag_ne_zero]

theorem readBVal_str (s : Bytes) (f : Nat) (rest : Bytes) (hu : validUtf8 s = true) (hs : s.length + 1 < 2 ^ 31) :
    readBVal (f + 1) 0x02 (natLE 4 (s.length + 1) ++ s ++ [0] ++ rest) = some (.str s, rest) := by
  have hlen : (s.length + 1) % 4294967296 = s.length + 1 := Nat.mod_eq_of_lt (by omega)
  have hd : List.drop s.length (s ++ 0 :: rest) = 0 :: rest := List.drop_left
  have ht : List.take s.length (s ++ 0 :: rest) = s := List.take_left
  have hn : ¬ (2147483648 ≤ s.length + 1) := by omega
  simp [readBVal, List.append_assoc, split4_natLE, hlen, hd, ht, hu, hn]

theorem VList.firstErr_cons_none {h : V} {t : VList} :
    VList.firstErr (.cons h t) = none ↔ V.firstErr h = none ∧ VList.firstErr t = none := by
  cases hh : V.firstErr h <;> simp [VList.firstErr, hh]

theorem VMembers.firstErr_cons_none {k : Bytes} {v : V} {t : VMembers} :
    VMembers.firstErr (.cons k v t) = none ↔ (0 : UInt8) ∉ k ∧ V.firstErr v = none ∧ VMembers.firstErr t = none := by
  by_cases hk : (0 : UInt8) ∈ k
  · simp [VMembers.firstErr, hk]
  · cases hh : V.firstErr v <;> simp [VMembers.firstErr, hk, hh]

mutual
  theorem readBVal_enc : (v : V) → (f : Nat) → (rest : Bytes) → v.cost ≤ f → V.firstErr v = none → V.typed v = true →
      V.small v = true → readBVal f v.tag (encV v ++ rest) = some (V.canon v, rest)
    | v, 0, _, hc, _, _, _ => by cases v <;> simp [V.cost] at hc
    | .null, f + 1, rest, _, _, _, _ => by simp [readBVal, V.tag, encV, V.canon]
    | .bool b, f + 1, rest, _, _, _, _ => by cases b <;> simp [readBVal, V.tag, encV, V.canon]
    | .num n, f + 1, rest, _, he, ht, _ => by
      have hr : n.refused = false := by
        cases h : n.refused
        · rfl
        · simp [V.firstErr, h] at he
      simp only [V.typed] at ht
      simpa [V.tag, encV, V.canon] using readBVal_num n f rest ht hr
    | .str s, f + 1, rest, _, _, ht, hs => by
      simp only [V.typed] at ht
      simp only [V.small, decide_eq_true_eq] at hs
      simpa [V.tag, encV, V.canon] using readBVal_str s f rest ht hs
    | .arr items, f + 1, rest, hc, he, ht, hs => by
      simp only [V.cost] at hc
      simp only [V.firstErr] at he
      simp only [V.typed] at ht
      simp only [V.small, Bool.and_eq_true, decide_eq_true_eq] at hs
      have ih := readBItems_enc items 0 f rest (by omega) he ht hs.2
      have hlen : ((encItems 0 items).length + 5) % 4294967296 = (encItems 0 items).length + 5 :=
        Nat.mod_eq_of_lt (by omega)
      simp [readBVal, V.tag, encV, V.canon, List.append_assoc, split4_natLE, hlen, ih]
      omega
    | .doc ms, f + 1, rest, hc, he, ht, hs => by
      simp only [V.cost] at hc
      simp only [V.firstErr] at he
      simp only [V.typed] at ht
      simp only [V.small, Bool.and_eq_true, decide_eq_true_eq] at hs
      have ih := readBElems_enc ms f rest (by omega) he ht hs.2
      have hlen : ((encMembers ms).length + 5) % 4294967296 = (encMembers ms).length + 5 :=
        Nat.mod_eq_of_lt (by omega)
      simp [readBVal, V.tag, encV, V.canon, List.append_assoc, split4_natLE, hlen, ih]
      omega
  theorem readBItems_enc : (l : VList) → (i f : Nat) → (rest : Bytes) → l.cost ≤ f → VList.firstErr l = none →
      VList.typed l = true → VList.small l = true → readBItems f (encItems i l ++ 0 :: rest) = some (VList.canon l, rest)
    | l, _, 0, _, hc, _, _, _ => by cases l <;> simp [VList.cost] at hc
    | .nil, i, f + 1, rest, _, _, _, _ => by simp [readBItems, encItems, VList.canon]
    | .cons h t, i, f + 1, rest, hc, he, ht, hs => by
      simp only [VList.cost] at hc
      simp only [VList.typed, Bool.and_eq_true] at ht
      simp only [VList.small, Bool.and_eq_true] at hs
      obtain ⟨heh, het⟩ := VList.firstErr_cons_none.mp he
      have ih1 := readBVal_enc h f (encItems (i + 1) t ++ 0 :: rest) (by omega) heh ht.1 hs.1
      have ih2 := readBItems_enc t (i + 1) f rest (by omega) het ht.2 hs.2
      have hk := readCStr_append (natDec i) (encV h ++ (encItems (i + 1) t ++ 0 :: rest)) (natDec_text i).1
      simp [readBItems, encItems, VList.canon, List.append_assoc, V.tag_ne_zero h, hk, (natDec_text i).2.1, ih1, ih2]
  theorem readBElems_enc : (ms : VMembers) → (f : Nat) → (rest : Bytes) → ms.cost ≤ f → VMembers.firstErr ms = none →
      VMembers.typed ms = true → VMembers.small ms = true →
      readBElems f (encMembers ms ++ 0 :: rest) = some (VMembers.canon ms, rest)
    | ms, 0, _, hc, _, _, _ => by cases ms <;> simp [VMembers.cost] at hc
    | .nil, f + 1, rest, _, _, _, _ => by simp [readBElems, encMembers, VMembers.canon]
    | .cons k v t, f + 1, rest, hc, he, ht, hs => by
      simp only [VMembers.cost] at hc
      simp only [VMembers.typed, Bool.and_eq_true] at ht
      simp only [VMembers.small, Bool.and_eq_true] at hs
      obtain ⟨hk0, hev, het⟩ := VMembers.firstErr_cons_none.mp he
      have ih1 := readBVal_enc v f (encMembers t ++ 0 :: rest) (by omega) hev ht.1.2 hs.1
      have ih2 := readBElems_enc t f rest (by omega) het ht.2 hs.2
      have hk := readCStr_append k (encV v ++ (encMembers t ++ 0 :: rest)) hk0
      simp [readBElems, encMembers, VMembers.canon, List.append_assoc, V.tag_ne_zero v, hk, ht.1.1, ih1, ih2]
end

mutual
  theorem V.cost_le : (v : V) → v.cost ≤ (encV v).length + 1
    | .null | .bool _ | .num _ | .str _ => by simp [V.cost]
    | .arr items => by
      have := VList.cost_le items 0
      simp only [V.cost, encV, List.length_append, natLE_length, List.length_singleton]
      omega
    | .doc ms => by
      have := VMembers.cost_le ms
      simp only [V.cost, encV, List.length_append, natLE_length, List.length_singleton]
      omega
  theorem VList.cost_le : (l : VList) → (i : Nat) → l.cost ≤ (encItems i l).length + 1
    | .nil, _ => by simp [VList.cost]
    | .cons h t, i => by
      have := V.cost_le h
      have := VList.cost_le t (i + 1)
      have := (natDec_text i).2.2
      have : 0 < (natDec i).length := List.length_pos_iff.mpr this
      simp only [VList.cost, encItems, List.length_cons, List.length_append]
      omega
  theorem VMembers.cost_le : (ms : VMembers) → ms.cost ≤ (encMembers ms).length + 1
    | .nil => by simp [VMembers.cost]
    | .cons k v t => by
      have := V.cost_le v
      have := VMembers.cost_le t
      simp only [VMembers.cost, encMembers, List.length_cons, List.length_append]
      omega
end

theorem bsonDecode_enc (ms : VMembers) (he : VMembers.firstErr ms = none) (ht : VMembers.typed ms = true)
    (hs : V.small (.doc ms) = true) : bsonDecode (encV (.doc ms)) = some (.doc (VMembers.canon ms)) := by
  have h := readBVal_enc (.doc ms) ((encV (.doc ms)).length + 1) [] (V.cost_le _) (by simpa [V.firstErr] using he)
    (by simpa [V.typed] using ht) hs
  simp only [List.append_nil, V.tag] at h
  simp [bsonDecode, h, V.canon]

mutual
  theorem V.firstErr_none_iff : (v : V) → (V.firstErr v = none ↔ V.encodable v = true)
    | .null | .bool _ | .str _ => by simp [V.firstErr, V.encodable]
    | .num n => by cases h : n.refused <;> simp [V.firstErr, V.encodable, h]
    | .arr items => by simpa [V.firstErr, V.encodable] using VList.firstErr_none_iff items
    | .doc ms => by simpa [V.firstErr, V.encodable] using VMembers.firstErr_none_iff ms
  theorem VList.firstErr_none_iff : (l : VList) → (VList.firstErr l = none ↔ VList.encodable l = true)
    | .nil => by simp [VList.firstErr, VList.encodable]
    | .cons h t => by
      rw [VList.firstErr_cons_none, V.firstErr_none_iff h, VList.firstErr_none_iff t, VList.encodable, Bool.and_eq_true]
  theorem VMembers.firstErr_none_iff : (ms : VMembers) → (VMembers.firstErr ms = none ↔ VMembers.encodable ms = true)
    | .nil => by simp [VMembers.firstErr, VMembers.encodable]
    | .cons k v t => by
      rw [VMembers.firstErr_cons_none, V.firstErr_none_iff v, VMembers.firstErr_none_iff t]
      simp [VMembers.encodable, and_assoc]
end

theorem Num.canon_of_isBson (n : Num) (h : n.isBson = true) : n.canon = n := by
  cases n with
  | f64 _ => rfl
  | int k v => cases k <;> simp [Num.isBson] at h <;> simp [Num.canon, IntKind.wide]

mutual
  theorem V.canon_of_isBson : (v : V) → V.isBson v = true → V.canon v = v
    | .null, _ | .bool _, _ | .str _, _ => by simp [V.canon]
    | .num n, h => by simp [V.canon, Num.canon_of_isBson n (by simpa [V.isBson] using h)]
    | .arr items, h => by simp [V.canon, VList.canon_of_isBson items (by simpa [V.isBson] using h)]
    | .doc ms, h => by simp [V.canon, VMembers.canon_of_isBson ms (by simpa [V.isBson] using h)]
  theorem VList.canon_of_isBson : (l : VList) → VList.isBson l = true → VList.canon l = l
    | .nil, _ => by simp [VList.canon]
    | .cons h t, hb => by
      simp only [VList.isBson, Bool.and_eq_true] at hb
      simp [VList.canon, V.canon_of_isBson h hb.1, VList.canon_of_isBson t hb.2]
  theorem VMembers.canon_of_isBson : (ms : VMembers) → VMembers.isBson ms = true → VMembers.canon ms = ms
    | .nil, _ => by simp [VMembers.canon]
    | .cons k v t, hb => by
      simp only [VMembers.isBson, Bool.and_eq_true] at hb
      simp [VMembers.canon, V.canon_of_isBson v hb.1, VMembers.canon_of_isBson t hb.2]
end

mutual
  theorem V.canon_isBson : (v : V) → V.isBson (V.canon v) = true
    | .null | .bool _ | .str _ => by simp [V.canon, V.isBson]
    | .num n => by
      cases n with
      | f64 _ => simp [V.canon, V.isBson, Num.canon, Num.isBson]
      | int k v => cases k <;> simp [V.canon, V.isBson, Num.canon, Num.isBson, IntKind.wide]
    | .arr items => by simpa [V.canon, V.isBson] using VList.canon_isBson items
    | .doc ms => by simpa [V.canon, V.isBson] using VMembers.canon_isBson ms
  theorem VList.canon_isBson : (l : VList) → VList.isBson (VList.canon l) = true
    | .nil => by simp [VList.canon, VList.isBson]
    | .cons h t => by simp [VList.canon, VList.isBson, V.canon_isBson h, VList.canon_isBson t]
  theorem VMembers.canon_isBson : (ms : VMembers) → VMembers.isBson (VMembers.canon ms) = true
    | .nil => by simp [VMembers.canon, VMembers.isBson]
    | .cons _ v t => by simp [VMembers.canon, VMembers.isBson, V.canon_isBson v, VMembers.canon_isBson t]
end

theorem encNum_wf (n : Num) : WfVal n.tag (encNum n) := by
  cases n with
  | f64 bits => exact WfVal.double _ (natLE_length 8 bits)
  | int k v =>
    cases hk : k.wide
    · simp only [Num.tag, encNum, hk, Bool.false_eq_true, ↓reduceIte]
      exact WfVal.int32 _ (natLE_length 4 _)
    · simp only [Num.tag, encNum, hk, ↓reduceIte]
      exact WfVal.int64 _ (natLE_length 8 _)

mutual
  theorem encV_wf : (v : V) → V.encodable v = true → V.small v = true → WfVal v.tag (encV v)
    | .null, _, _ => WfVal.null
    | .bool b, _, _ => by cases b <;> exact WfVal.bool _ (by simp)
    | .num n, _, _ => encNum_wf n
    | .str s, _, hs => by
      simp only [V.small, decide_eq_true_eq] at hs
      exact WfVal.str s hs
    | .arr items, he, hs => by
      simp only [V.small, Bool.and_eq_true, decide_eq_true_eq] at hs
      simp only [V.encodable] at he
      have := WfVal.arr _ (encItems_wf items 0 he hs.2) hs.1
      have hl : 4 + (encItems 0 items).length + 1 = (encItems 0 items).length + 5 := by omega
      rw [hl] at this
      exact this
    | .doc ms, he, hs => by
      simp only [V.small, Bool.and_eq_true, decide_eq_true_eq] at hs
      simp only [V.encodable] at he
      have := WfVal.doc _ (encMembers_wf ms he hs.2) hs.1
      have hl : 4 + (encMembers ms).length + 1 = (encMembers ms).length + 5 := by omega
      rw [hl] at this
      exact this
  theorem encItems_wf : (l : VList) → (i : Nat) → VList.encodable l = true → VList.small l = true → WfElems (encItems i l)
    | .nil, _, _, _ => WfElems.nil
    | .cons h t, i, he, hs => by
      simp only [VList.encodable, Bool.and_eq_true] at he
      simp only [VList.small, Bool.and_eq_true] at hs
      have := WfElems.cons h.tag (natDec i) (encV h) (encItems (i + 1) t) (natDec_text i).1 (encV_wf h he.1 hs.1)
        (encItems_wf t (i + 1) he.2 hs.2)
      simpa [encItems, List.append_assoc] using this
  theorem encMembers_wf : (ms : VMembers) → VMembers.encodable ms = true → VMembers.small ms = true → WfElems (encMembers ms)
    | .nil, _, _ => WfElems.nil
    | .cons k v t, he, hs => by
      simp only [VMembers.encodable, Bool.and_eq_true, Bool.not_eq_true', decide_eq_false_iff_not] at he
      simp only [VMembers.small, Bool.and_eq_true] at hs
      have := WfElems.cons v.tag k (encV v) (encMembers t) he.1.1 (encV_wf v he.1.2 hs.1) (encMembers_wf t he.2 hs.2)
      simpa [encMembers, List.append_assoc] using this
end

end Gd.Cli
