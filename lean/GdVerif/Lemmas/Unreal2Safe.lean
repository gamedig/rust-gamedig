import GdVerif.Lemmas.QLogic
import GdVerif.Lemmas.ReaderU2
/-
  Crash-freedom and wire-conformance of the whole Unreal 2 query model.
-/
namespace Gd.Unreal2
open Gd

theorem packetKindOf_ne (n : Nat) : packetKindOf n ≠ .crash := by
  unfold packetKindOf; split <;> simp

theorem safe_consumeHeaders (k : PacketKind) : Safe (consumeHeaders k) := by
  unfold consumeHeaders
  refine Safe.bind (safe_moveCursor _) fun _ => Safe.bind safe_readU8 fun _ =>
    Safe.bind (Safe.lift_ne _ (packetKindOf_ne _)) fun _ => ?_
  split
  · exact Safe.fail _
  · exact Safe.pure _

theorem safe_parseServerInfo : Safe parseServerInfo := by
  unfold parseServerInfo
  exact Safe.bind (safe_readUnsigned _ _) fun _ => Safe.bind safe_readU2Str fun _ =>
    Safe.bind (safe_readUnsigned _ _) fun _ => Safe.bind (safe_readUnsigned _ _) fun _ =>
    Safe.bind safe_readU2Str fun _ => Safe.bind safe_readU2Str fun _ => Safe.bind safe_readU2Str fun _ =>
    Safe.bind (safe_readUnsigned _ _) fun _ => Safe.bind (safe_readUnsigned _ _) fun _ => Safe.pure _

theorem safe_tryRead {p : Par α} (hp : Safe p) : Safe (tryRead p) := by
  intro b
  have := hp b
  unfold tryRead
  cases h : p b with
  | ok x => obtain ⟨a, b'⟩ := x; rw [h] at this; simpa [Post] using this
  | err k => simp [Post]
  | crash => rw [h] at this; exact this.elim

theorem noGrow_tryRead {p : Par α} (hp : NoGrow p) : NoGrow (tryRead p) := by
  intro b a b' h
  unfold tryRead at h
  cases hr : p b with
  | ok x =>
    obtain ⟨v, b1⟩ := x
    rw [hr] at h
    cases h
    exact hp b v _ hr
  | err k => rw [hr] at h; cases h; exact Nat.le_refl _
  | crash => rw [hr] at h; cases h

theorem safe_rulesStep (st : MutatorsAndRules) : Safe (rulesStep st) := by
  unfold rulesStep
  exact Safe.bind safe_readU2Str fun _ => Safe.bind (safe_tryRead safe_readU2Str) fun _ => Safe.pure _

theorem progress_rulesStep (st : MutatorsAndRules) : Progress (rulesStep st) := by
  unfold rulesStep
  exact Progress.bind progress_readU2Str fun _ =>
    NoGrow.bind (noGrow_tryRead progress_readU2Str.noGrow) fun _ => NoGrow.pure _

theorem safe_parseRules (st : MutatorsAndRules) : Safe (parseRules st) := fun b =>
  safe_whileRemaining rulesStep safe_rulesStep progress_rulesStep (b.remaining + 1) st b (Nat.lt_succ_self _)

theorem safe_playerStep (st : Players) : Safe (playerStep st) := by
  unfold playerStep
  exact Safe.bind (safe_readUnsigned _ _) fun _ => Safe.bind safe_readU2Str fun _ =>
    Safe.bind (safe_readUnsigned _ _) fun _ => Safe.bind (safe_readSigned _ _) fun _ =>
    Safe.bind (safe_readUnsigned _ _) fun _ => Safe.pure _

theorem progress_playerStep (st : Players) : Progress (playerStep st) := by
  unfold playerStep
  exact Progress.bind (progress_readUnsigned _ 4 (by omega)) fun _ =>
    NoGrow.bind progress_readU2Str.noGrow fun _ => NoGrow.bind (noGrow_readUnsigned _ _) fun _ =>
    NoGrow.bind (noGrow_readSigned _ _) fun _ => NoGrow.bind (noGrow_readUnsigned _ _) fun _ => NoGrow.pure _

theorem safe_parsePlayers (st : Players) : Safe (parsePlayers st) := fun b =>
  safe_whileRemaining playerStep safe_playerStep progress_playerStep (b.remaining + 1) st b (Nat.lt_succ_self _)

theorem rulesRound_ne (st : MutatorsAndRules) (data : Bytes) : rulesRound st data ≠ .crash := by
  unfold rulesRound
  have h1 := safe_consumeHeaders .mutatorsAndRules (Buf.new data)
  cases hc : consumeHeaders .mutatorsAndRules (Buf.new data) with
  | err k => simp
  | crash => rw [hc] at h1; exact h1.elim
  | ok x =>
    obtain ⟨u, b⟩ := x
    simp only
    have h2 := safe_parseRules st b
    cases hp : parseRules st b with
    | ok y => simp
    | err k => simp
    | crash => rw [hp] at h2; exact h2.elim

theorem playersRound_ne (n : Nat) (st : Players) (data : Bytes) : playersRound n st data ≠ .crash := by
  unfold playersRound
  have h := Safe.run_ne_crash (Safe.bind (safe_consumeHeaders .players) fun _ => safe_parsePlayers st) data
  cases hr : (consumeHeaders .players >>= fun _ => parsePlayers st).run data with
  | ok y => simp
  | err k => simp
  | crash => exact absurd hr h

/-- one of the three requests -/
def Allowed (data : Bytes) : Prop := ∃ kind : PacketKind, data = requestBytes kind

/-- `EvOk` below, with the requests restricted to the kinds satisfying `allowed` -/
def EvKinds (s : Sock) (allowed : PacketKind → Prop) : Ev → Prop
  | .send c port data _ => c = s.id ∧ port = s.port ∧ ∃ kind, allowed kind ∧ data = requestBytes kind
  | .recv c size _ => c = s.id ∧ size = some PACKET_SIZE
  | .opened _ _ _ _ => False

/-- what the Unreal 2 client may do with its socket: send one of the three requests to the server's
port, receive into the fixed 1024-byte buffer -/
def EvOk (s : Sock) : Ev → Prop
  | .send c port data _ => c = s.id ∧ port = s.port ∧ Allowed data
  | .recv c size _ => c = s.id ∧ size = some PACKET_SIZE
  | .opened _ _ _ _ => False

theorem EvKinds.evOk {s : Sock} {allowed : PacketKind → Prop} {e : Ev} (h : EvKinds s allowed e) : EvOk s e := by
  cases e with
  | opened => exact h
  | send c p d f => obtain ⟨h1, h2, k, _, h3⟩ := h; exact ⟨h1, h2, k, h3⟩
  | recv => exact h

section kinds
variable (s : Sock) (allowed : PacketKind → Prop)

theorem qsafe_recv : QSafe s (EvKinds s allowed) (recv s (some PACKET_SIZE)) :=
  QSafe.recv s _ _ fun _ => ⟨rfl, rfl⟩

theorem qsafe_requestImpl (kind : PacketKind) (hk : allowed kind) : QSafe s (EvKinds s allowed) (requestImpl s kind) := by
  unfold requestImpl
  exact QSafe.bind (QSafe.send s _ _ fun _ => ⟨rfl, rfl, kind, hk, rfl⟩) fun _ => qsafe_recv s allowed

theorem qsafe_requestData (r : Nat) (kind : PacketKind) (hk : allowed kind) :
    QSafe s (EvKinds s allowed) (requestData s r kind) :=
  QSafe.retry (qsafe_requestImpl s allowed kind hk) r

/-- the listening loops: with fuel above the number of queued deliveries they never run dry -/
theorem qsafe_recvWhile (hudp : s.tcp = false) (body : σ → Bytes → Res (σ × Bool))
    (hbody : ∀ st data, body st data ≠ .crash) :
    ∀ (fuel : Nat) (st : σ) (w : Net), IsOpen s w → qlen w s.id < fuel →
      (recvWhile s body fuel st w).1 ≠ .crash ∧ Step (EvKinds s allowed) w (recvWhile s body fuel st w).2 := by
  intro fuel
  induction fuel with
  | zero => intro _ w _ h; omega
  | succ fuel ih =>
    intro st w hopen hq
    unfold recvWhile
    have hrecv := qsafe_recv s allowed w hopen
    cases hr : recv s (some PACKET_SIZE) w with
    | mk res w1 =>
      rw [hr] at hrecv
      cases res with
      | crash => exact absurd rfl hrecv.1
      | err k => exact ⟨by simp, hrecv.2⟩
      | ok data =>
        simp only
        have hcons := recv_ok_consumes s hudp _ w w1 data hopen hr
        cases hb : body st data with
        | crash => exact absurd hb (hbody st data)
        | err k => exact ⟨by simp, hrecv.2⟩
        | ok x =>
          obtain ⟨st', go⟩ := x
          cases go with
          | false => exact ⟨by simp, hrecv.2⟩
          | true =>
            simp only
            obtain ⟨h3, h4⟩ := ih st' w1 (hopen.step hrecv.2) (by omega)
            exact ⟨h3, hrecv.2.trans h4⟩

theorem qsafe_listen (hudp : s.tcp = false) (body : σ → Bytes → Res (σ × Bool))
    (hbody : ∀ st data, body st data ≠ .crash) (st : σ) :
    QSafe s (EvKinds s allowed) (fun w => recvWhile s body (queued s w + 1) st w) := by
  intro w hopen
  exact qsafe_recvWhile s allowed hudp body hbody (queued s w + 1) st w hopen (by simp [queued, qlen])

theorem qsafe_queryServerInfo (r : Nat) (hk : allowed .serverInfo) :
    QSafe s (EvKinds s allowed) (queryServerInfo s r) := by
  unfold queryServerInfo
  exact QSafe.bind (qsafe_requestData s allowed r _ hk) fun _ =>
    QSafe.parse _ _ (Safe.bind (safe_consumeHeaders _) fun _ => safe_parseServerInfo) _

theorem qsafe_queryRules (hudp : s.tcp = false) (r : Nat) (hk : allowed .mutatorsAndRules) :
    QSafe s (EvKinds s allowed) (queryRules s r) := by
  unfold queryRules
  exact QSafe.bind (qsafe_requestData s allowed r _ hk) fun _ =>
    QSafe.bind (QSafe.parse _ _ (Safe.bind (safe_consumeHeaders _) fun _ => safe_parseRules _) _) fun st =>
    qsafe_listen s allowed hudp rulesRound rulesRound_ne st

theorem qsafe_queryPlayers (hudp : s.tcp = false) (r n : Nat) (hk : allowed .players) :
    QSafe s (EvKinds s allowed) (queryPlayers s r n) := by
  unfold queryPlayers
  refine QSafe.bind (qsafe_requestData s allowed r _ hk) fun data =>
    QSafe.bind (QSafe.lift _ _ _ (playersRound_ne n .empty data)) fun x => ?_
  obtain ⟨st, more⟩ := x
  cases more with
  | true => exact qsafe_listen s allowed hudp (playersRound n) (playersRound_ne n) st
  | false => exact QSafe.pure _ _ _

end kinds

/-- the request kinds a query with these toggles may send: server info always, a section's request
only when the section is not skipped -/
def kindAllowed (g : Gather) : PacketKind → Prop
  | .serverInfo => True
  | .mutatorsAndRules => g.mutatorsAndRules ≠ .skip
  | .players => g.players ≠ .skip

theorem qsafe_queryBody_kinds (s : Sock) (hudp : s.tcp = false) (g : Gather) (r : Nat) :
    QSafe s (EvKinds s (kindAllowed g)) (queryBody s g r) := by
  unfold queryBody
  exact QSafe.bind (qsafe_queryServerInfo s _ r trivial) fun _ =>
    QSafe.bind (QSafe.maybeGather_of_run _ fun h => qsafe_queryRules s _ hudp r h) fun _ =>
    QSafe.bind (QSafe.maybeGather_of_run _ fun h => qsafe_queryPlayers s _ hudp r _ h) fun _ => QSafe.pure _ _ _

theorem qsafe_queryBody (s : Sock) (hudp : s.tcp = false) (g : Gather) (r : Nat) :
    QSafe s (EvOk s) (queryBody s g r) :=
  (qsafe_queryBody_kinds s hudp g r).mono fun _ h => h.evOk

/-- what the whole query may log: one socket opened (UDP, to the given port), then `EvOk` events -/
def QueryEvOk (port : Nat) (id : Nat) : Ev → Prop
  | .opened c tcp p _ => c = id ∧ tcp = false ∧ p = port
  | e => EvOk ⟨id, port, false⟩ e

theorem query_eq (port : Nat) (g : Gather) (r : Nat) :
    query port g r = (openSock false port >>= fun s => queryBody s g r) := rfl

theorem query_safe (port : Nat) (g : Gather) (r : Nat) (w : Net) :
    (query port g r w).1 ≠ .crash
    ∧ ∃ added, (query port g r w).2.log = w.log ++ added ∧ ∀ e ∈ added, QueryEvOk port w.conns.length e :=
  openThen_safe false port (QueryEvOk port) (fun _ _ => ⟨rfl, rfl, rfl⟩)
    (fun s hp ht => by
      obtain ⟨id, p, tcp⟩ := s
      cases hp
      cases ht
      exact (qsafe_queryBody _ rfl g r).mono fun e he => by
        cases e with
        | opened => exact he.elim
        | send => exact he
        | recv => exact he) w

end Gd.Unreal2
