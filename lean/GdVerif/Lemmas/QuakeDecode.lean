import GdVerif.Lemmas.Quake
import GdVerif.Lemmas.QuakeSafe
/-
  C05: the Quake status reader on the SPEC's reply — a player line, the line loop, the `Response { … }` expression,
  the header check.
-/
namespace Gd.Quake
open Gd Gd.Quake.Spec

/-- the fields of a line, as the server writes them -/
def tokens (l : Line) : List Bytes :=
  match l.player with
  | .one p => [dec p.id, dec p.score, dec p.time, dec p.ping, text l.quoteName p.name, text l.quoteExtra p.skin,
      dec p.colorPrimary, dec p.colorSecondary]
  | .two p => [decInt p.score, dec p.ping, text l.quoteName p.name] ++
      (match p.address with
       | none => []
       | some a => [text l.quoteExtra a])

theorem encLineBody_eq (l : Line) : encLineBody l = joinSp (tokens l) := by
  obtain ⟨pl, qn, qe⟩ := l
  cases pl with
  | one p => simp [encLineBody, tokens, joinSp, sp, List.append_assoc]
  | two p =>
    obtain ⟨score, ping, name, address⟩ := p
    cases address <;> simp [encLineBody, tokens, joinSp, sp, List.append_assoc]

/-- what the line reader needs of a field: it comes back as one field, it is valid UTF-8, it has no line feed -/
structure GoodTok (t : Bytes) : Prop where
  tok : Tok t
  utf8 : validUtf8 t = true
  nolf : (0x0A : UInt8) ∉ t

theorem good_dec (n : Nat) : GoodTok (dec n) := ⟨tok_dec n, validUtf8_dec n, not_mem_dec _ (by decide) n⟩

theorem good_decInt (i : Int) : GoodTok (decInt i) :=
  ⟨tok_decInt i, validUtf8_decInt i, not_mem_decInt _ (by decide) (by decide) i⟩

theorem good_text (q : Bool) (s : Bytes) (h : okField q s = true) : GoodTok (text q s) := by
  obtain ⟨hv, _, hlf, _⟩ := (okField_iff q s).mp h
  refine ⟨tok_text q s h, ?_, ?_⟩
  · cases q with
    | true =>
      simp only [text, quote, ↓reduceIte]
      exact validUtf8_append _ _ (validUtf8_append _ _ (by decide) hv) (by decide)
    | false => simpa [text] using hv
  · cases q with
    | true =>
      simp only [text, quote, ↓reduceIte, List.mem_append, List.mem_singleton, not_or]
      exact ⟨⟨by decide, hlf⟩, by decide⟩
    | false => simpa [text] using hlf

theorem validUtf8_joinSp (ts : List Bytes) (h : ∀ t ∈ ts, validUtf8 t = true) : validUtf8 (joinSp ts) = true := by
  cases ts with
  | nil => rfl
  | cons t r =>
    exact validUtf8_append _ _ (h t (by simp)) (validUtf8_seps 0x20 (by decide) r fun x hx => h x (by simp [hx]))

theorem not_mem_joinSp (c : UInt8) (hc : c ≠ 0x20) (ts : List Bytes) (h : ∀ t ∈ ts, c ∉ t) : c ∉ joinSp ts := by
  cases ts with
  | nil => simp [joinSp]
  | cons t r =>
    simp only [joinSp, List.mem_append, not_or]
    exact ⟨h t (by simp), not_mem_seps c 0x20 hc r fun x hx => h x (by simp [hx])⟩

theorem wfLine_one {v : Version} {p : PlayerOne} {qn qe : Bool} (h : wfLine v ⟨.one p, qn, qe⟩ = true) :
    v = .one ∧ p.id < 2 ^ 8 ∧ p.score < 2 ^ 16 ∧ p.time < 2 ^ 16 ∧ p.ping < 2 ^ 16 ∧ okField qn p.name = true ∧
      okField qe p.skin = true ∧ p.colorPrimary < 2 ^ 8 ∧ p.colorSecondary < 2 ^ 8 := by
  simp only [wfLine, Bool.and_eq_true, beq_iff_eq, decide_eq_true_eq, and_assoc] at h
  exact h

theorem wfLine_two {v : Version} {p : PlayerTwo} {qn qe : Bool} (h : wfLine v ⟨.two p, qn, qe⟩ = true) :
    v ≠ .one ∧ -(2 ^ 31 : Int) ≤ p.score ∧ p.score < 2 ^ 31 ∧ p.ping < 2 ^ 16 ∧ okField qn p.name = true ∧
      (∀ a, p.address = some a → okField qe a = true) := by
  simp only [wfLine, Bool.and_eq_true, bne_iff_ne, ne_eq, decide_eq_true_eq, and_assoc] at h
  obtain ⟨h1, h2, h3, h4, h5, h6⟩ := h
  refine ⟨h1, h2, h3, h4, h5, fun a ha => ?_⟩
  rw [ha] at h6
  exact h6

theorem good_tokens (v : Version) (l : Line) (h : wfLine v l = true) : ∀ t ∈ tokens l, GoodTok t := by
  obtain ⟨pl, qn, qe⟩ := l
  cases pl with
  | one p =>
    obtain ⟨_, _, _, _, _, hn, hs, _, _⟩ := wfLine_one h
    simp only [tokens, List.forall_mem_cons]
    exact ⟨good_dec _, good_dec _, good_dec _, good_dec _, good_text _ _ hn, good_text _ _ hs, good_dec _, good_dec _,
      fun _ h => nomatch h⟩
  | two p =>
    obtain ⟨_, _, _, _, hn, ha⟩ := wfLine_two h
    obtain ⟨score, ping, name, address⟩ := p
    cases address with
    | none =>
      simp only [tokens, List.append_nil, List.forall_mem_cons]
      exact ⟨good_decInt _, good_dec _, good_text _ _ hn, fun _ h => nomatch h⟩
    | some a =>
      simp only [tokens, List.cons_append, List.nil_append, List.forall_mem_cons]
      exact ⟨good_decInt _, good_dec _, good_text _ _ hn, good_text _ _ (ha a rfl), fun _ h => nomatch h⟩

theorem tokens_ne_nil (l : Line) : tokens l ≠ [] := by
  obtain ⟨pl, qn, qe⟩ := l
  cases pl <;> simp [tokens]

theorem parsePlayer_tokens (v : Version) (l : Line) (h : wfLine v l = true) : parsePlayer v (tokens l) = .ok l.player := by
  obtain ⟨pl, qn, qe⟩ := l
  cases pl with
  | one p =>
    obtain ⟨hv, h1, h2, h3, h4, hn, hs, h5, h6⟩ := wfLine_one h
    subst hv
    simp only [parsePlayer, parsePlayerOne, tokens, List.getElem?_cons_zero, List.getElem?_cons_succ,
      fieldUnsigned_dec _ _ h1, fieldUnsigned_dec _ _ h2, fieldUnsigned_dec _ _ h3, fieldUnsigned_dec _ _ h4,
      fieldUnsigned_dec _ _ h5, fieldUnsigned_dec _ _ h6, fieldText_text _ _ hn, fieldText_text _ _ hs, Res.bind_ok,
      Res.pure_eq]
  | two p =>
    obtain ⟨hv, hlo, hhi, hp, hn, ha⟩ := wfLine_two h
    obtain ⟨score, ping, name, address⟩ := p
    have hpl : ∀ t, parsePlayer v t = (do let p ← parsePlayerTwo t; pure (.two p)) := by
      intro t
      cases v with
      | one => exact absurd rfl hv
      | two => rfl
      | three => rfl
    rw [hpl]
    cases address with
    | none =>
      simp only [parsePlayerTwo, tokens, List.append_nil, List.getElem?_cons_zero, List.getElem?_cons_succ,
        List.getElem?_nil, fieldSigned_decInt _ hlo hhi, fieldUnsigned_dec _ _ hp, fieldText_text _ _ hn, fieldOptText,
        Res.bind_ok, Res.pure_eq]
    | some a =>
      simp only [parsePlayerTwo, tokens, List.cons_append, List.nil_append, List.getElem?_cons_zero,
        List.getElem?_cons_succ, fieldSigned_decInt _ hlo hhi, fieldUnsigned_dec _ _ hp, fieldText_text _ _ hn,
        fieldOptText, removeWrappingQuotes_text _ _ (ha a rfl), Res.bind_ok, Res.pure_eq]

theorem playerLine_line (v : Version) (l : Line) (h : wfLine v l = true) : Decodes (playerLine v) (encLine l) l.player := by
  have hg := good_tokens v l h
  have hsplit : splitFields false (encLineBody l) = tokens l := by
    rw [encLineBody_eq]
    exact splitFields_joinSp _ (tokens_ne_nil l) fun t ht => (hg t ht).tok
  have hread := decodes_readStrUntil 0x0A (encLineBody l)
    (by rw [encLineBody_eq]; exact not_mem_joinSp _ (by decide) _ fun t ht => (hg t ht).nolf)
    (by rw [encLineBody_eq]; exact validUtf8_joinSp _ fun t ht => (hg t ht).utf8)
  unfold playerLine encLine lf
  refine Decodes.bind_last hread ?_
  rw [hsplit, parsePlayer_tokens v l h]
  exact Decodes.lift_ok _

/-- a rest that starts with a line, even an empty one, is not the end of the packet -/
theorem not_end_line (e x : Bytes) : ((e ++ 0x0A :: x).isEmpty || (e ++ 0x0A :: x) == [0x00]) = false := by
  cases e with
  | nil => rfl
  | cons a r => cases r <;> simp

theorem getPlayersLoop_lines (v : Version) (tail : Bytes) (ht : tail = [] ∨ tail = [0x00]) (lines : List Line)
    (hw : ∀ l ∈ lines, wfLine v l = true) :
    ∀ (fuel : Nat) (b : Buf), b.rest = (lines.map encLine).flatten ++ tail → b.rest.length < fuel →
      ∃ b', getPlayersLoop v fuel b = .ok (lines.map (·.player), b') ∧ b'.data = b.data := by
  induction lines with
  | nil =>
    intro fuel b hr hf
    obtain ⟨f, rfl⟩ : ∃ f, fuel = f + 1 := ⟨fuel - 1, by omega⟩
    refine ⟨b, ?_, rfl⟩
    rw [getPlayersLoop_succ, if_pos]
    · rfl
    · rw [hr]
      rcases ht with rfl | rfl <;> rfl
  | cons l r ih =>
    intro fuel b hr hf
    obtain ⟨f, rfl⟩ : ∃ f, fuel = f + 1 := ⟨fuel - 1, by omega⟩
    rw [List.map_cons, List.flatten_cons, List.append_assoc] at hr
    obtain ⟨b1, hp, hr1, hd1⟩ := playerLine_line v l (hw l (by simp)) b _ hr
    rw [encLine, lf, List.append_assoc, List.singleton_append, ← hr1] at hr
    obtain ⟨b2, hl, hd2⟩ := ih (fun x hx => hw x (by simp [hx])) f b1 hr1
      (by rw [hr, List.length_append, List.length_cons] at hf; omega)
    refine ⟨b2, ?_, hd2.trans hd1⟩
    rw [getPlayersLoop_succ, hr, not_end_line, if_neg (by simp), Par.bind_ok hp, Par.bind_ok hl]
    rfl

theorem getPlayers_lines (v : Version) (tail : Bytes) (ht : tail = [] ∨ tail = [0x00]) (lines : List Line)
    (hw : ∀ l ∈ lines, wfLine v l = true) (b : Buf) (hr : b.rest = (lines.map encLine).flatten ++ tail) :
    ∃ b', getPlayers v b = .ok (lines.map (·.player), b') ∧ b'.data = b.data :=
  getPlayersLoop_lines v tail ht lines hw (b.remaining + 1) b hr (Nat.lt_succ_self _)

theorem without_nil (m : Vars) : without m [] = m := List.filter_eq_self.mpr fun _ _ => rfl

theorem without_single (m : Vars) (k : Bytes) : without m [k] = Valve.mapRemove m k := by
  simp only [without, Valve.mapRemove, List.contains_cons, List.contains_nil, Bool.or_false, bne]

theorem without_without (m : Vars) (a b : List Bytes) : without (without m a) b = without m (a ++ b) := by
  unfold without
  rw [List.filter_filter]
  congr 1
  funext p
  rw [List.contains_append, Bool.not_or, Bool.and_comm]

theorem lookup_without (m : Vars) (ks : List Bytes) (k : Bytes) (h : k ∉ ks) : (without m ks).lookup k = m.lookup k := by
  induction m with
  | nil => rfl
  | cons p r ih =>
    unfold without at ih ⊢
    rw [List.filter_cons]
    split
    · simp only [List.lookup, ih]
    · rename_i hp
      have hne : (k == p.1) = false := beq_eq_false_iff_ne.mpr fun e => h (e ▸ by simpa using hp)
      simp only [List.lookup, hne, ih]

theorem named_without (m : Vars) (ks : List Bytes) (k1 k2 : Bytes) (h1 : k1 ∉ ks) (h2 : k2 ∉ ks) :
    named (without m ks) k1 k2 = named m k1 k2 := by
  unfold named
  rw [lookup_without m ks k1 h1, lookup_without m ks k2 h2]

theorem takeVar_eq (m : Vars) (k1 k2 : Bytes) :
    takeVar m k1 k2 = ((named m k1 k2).map (·.2), without m (optKey (named m k1 k2))) := by
  unfold takeVar named
  cases h1 : m.lookup k1 with
  | some v => simp [optKey, without_single]
  | none =>
    cases h2 : m.lookup k2 with
    | some v => simp [optKey, without_single]
    | none => simp [optKey, without_nil]

theorem optKey_subset (m : Vars) (k1 k2 : Bytes) : ∀ k ∈ optKey (named m k1 k2), k ∈ [k1, k2] := by
  intro k hk
  unfold named at hk
  cases h1 : m.lookup k1 with
  | some v => rw [h1] at hk; simp [optKey] at hk; simp [hk]
  | none =>
    rw [h1] at hk
    cases h2 : m.lookup k2 with
    | some v => rw [h2] at hk; simp [optKey] at hk; simp [hk]
    | none => rw [h2] at hk; simp [optKey] at hk

theorem named_key {m : Vars} {k1 k2 k v : Bytes} (h : named m k1 k2 = some (k, v)) : k = k1 ∨ k = k2 := by
  have := optKey_subset m k1 k2 k (by rw [h]; exact List.mem_singleton.mpr rfl)
  simpa using this

/-- taking a variable after others have been taken: as long as its two spellings are none of the keys taken so far
(`ks`, all among `E`), the result is read off the original list; the keys taken stay among `E ++ [k1, k2]` -/
theorem takeVar_without (m : Vars) (ks E : List Bytes) (k1 k2 : Bytes) (hks : ∀ k ∈ ks, k ∈ E)
    (hE : ∀ k ∈ E, k ≠ k1 ∧ k ≠ k2) :
    takeVar (without m ks) k1 k2 = ((named m k1 k2).map (·.2), without m (ks ++ optKey (named m k1 k2)))
    ∧ ∀ k ∈ ks ++ optKey (named m k1 k2), k ∈ E ++ [k1, k2] := by
  refine ⟨?_, fun k hk => ?_⟩
  · rw [takeVar_eq, named_without m ks k1 k2 (fun h => (hE _ (hks _ h)).1 rfl) (fun h => (hE _ (hks _ h)).2 rfl),
      without_without]
  · rcases List.mem_append.mp hk with h | h
    · exact List.mem_append_left _ (hks k h)
    · exact List.mem_append_right _ (optKey_subset m k1 k2 k h)

/-- the four fields are taken from different variables: no spelling of a later one is a spelling of an earlier one -/
theorem keys_apart :
    (∀ k ∈ [kHostname, kSvHostname], k ≠ kMapname ∧ k ≠ kMap) ∧
    (∀ k ∈ [kHostname, kSvHostname, kMapname, kMap], k ≠ kMaxclients ∧ k ≠ kSvMaxclients) ∧
    (∀ k ∈ [kHostname, kSvHostname, kMapname, kMap, kMaxclients, kSvMaxclients], k ≠ kVersion ∧ k ≠ kStarVersion) := by
  decide +kernel

theorem keys_eq : hostnameKey = kHostname ∧ hostnameAlt = kSvHostname ∧ mapKey = kMapname ∧ mapAlt = kMap ∧
    maxKey = kMaxclients ∧ maxAlt = kSvMaxclients ∧ versionKey = kVersion ∧ versionAlt = kStarVersion :=
  ⟨rfl, rfl, rfl, rfl, rfl, rfl, rfl, rfl⟩

theorem buildResponse_expected (cfg : Config) (st : State) (hl : st.lines.length < 256) :
    buildResponse st.vars (st.lines.map (·.player)) = expected cfg st := by
  -- the four `takeVar`s in source order, each on what the ones before left
  obtain ⟨t1, u1⟩ := takeVar_without st.vars [] [] kHostname kSvHostname (fun _ h => h) (fun _ h => nomatch h)
  obtain ⟨t2, u2⟩ := takeVar_without st.vars _ _ kMapname kMap u1 keys_apart.1
  obtain ⟨t3, u3⟩ := takeVar_without st.vars _ _ kMaxclients kSvMaxclients u2 keys_apart.2.1
  obtain ⟨t4, _⟩ := takeVar_without st.vars _ _ kVersion kStarVersion u3 keys_apart.2.2
  rw [without_nil] at t1
  obtain ⟨e1, e2, e3, e4, e5, e6, e7, e8⟩ := keys_eq
  unfold buildResponse expected
  rw [e1, e2, e3, e4, e5, e6, e7, e8]
  simp only [t1, t2, t3, t4]
  cases named st.vars kHostname kSvHostname with
  | none => rfl
  | some n1 =>
    cases named st.vars kMapname kMap with
    | none => rfl
    | some n2 =>
      cases named st.vars kMaxclients kSvMaxclients with
      | none => rfl
      | some n3 =>
        simp only [Option.map_some, okOr, Res.bind_ok]
        cases parseUnsigned 8 n3.2 with
        | none => rfl
        | some maxClients =>
          simp only [Res.bind_ok, Res.pure_eq, List.length_map, Nat.mod_eq_of_lt hl, optKey, List.nil_append,
            List.cons_append]

/-- the SPEC's domain, taken apart -/
structure WfParts (cfg : Config) (st : State) : Prop where
  vars : ∀ p ∈ st.vars, okVarText p.1 = true ∧ okVarText p.2 = true
  distinct : distinctKeys st.vars = true
  host : ∃ kn name, named st.vars hostnameKey hostnameAlt = some (kn, name)
  map : ∃ km map, named st.vars mapKey mapAlt = some (km, map)
  max : ∃ kx mx m, named st.vars maxKey maxAlt = some (kx, mx) ∧ parseUnsigned 8 mx = some m
  lines : ∀ l ∈ st.lines, wfLine cfg.version l = true
  count : st.lines.length < 256
  size : (reply cfg st).length ≤ 65535

theorem wf_parts {cfg : Config} {st : State} (hw : wf cfg st = true) : WfParts cfg st := by
  simp only [wf, Bool.and_eq_true, List.all_eq_true, decide_eq_true_eq] at hw
  obtain ⟨⟨⟨⟨⟨⟨⟨hvars, hdist⟩, h1⟩, h2⟩, h3⟩, hlines⟩, hcount⟩, hsize⟩ := hw
  obtain ⟨⟨kn, name⟩, hn1⟩ := Option.isSome_iff_exists.mp h1
  obtain ⟨⟨km, map⟩, hn2⟩ := Option.isSome_iff_exists.mp h2
  cases hn3 : named st.vars maxKey maxAlt with
  | none => rw [hn3] at h3; cases h3
  | some n3 =>
    rw [hn3] at h3
    obtain ⟨m, hp⟩ := Option.isSome_iff_exists.mp h3
    exact ⟨hvars, hdist, ⟨kn, name, hn1⟩, ⟨km, map, hn2⟩, ⟨n3.1, n3.2, m, hn3, hp⟩, hlines, hcount, hsize⟩

theorem expected_wf (cfg : Config) (st : State) (hw : wf cfg st = true) :
    ∃ kn name km map kx mx m, named st.vars hostnameKey hostnameAlt = some (kn, name)
      ∧ named st.vars mapKey mapAlt = some (km, map) ∧ named st.vars maxKey maxAlt = some (kx, mx)
      ∧ parseUnsigned 8 mx = some m
      ∧ expected cfg st = .ok ⟨name, map, st.lines.map (·.player), st.lines.length, m,
          (named st.vars versionKey versionAlt).map (·.2),
          without st.vars ([kn, km, kx] ++ optKey (named st.vars versionKey versionAlt))⟩ := by
  obtain ⟨kn, name, h1⟩ := (wf_parts hw).host
  obtain ⟨km, map, h2⟩ := (wf_parts hw).map
  obtain ⟨kx, mx, m, h3, h4⟩ := (wf_parts hw).max
  exact ⟨kn, name, km, map, kx, mx, m, h1, h2, h3, h4, by simp only [expected, h1, h2, h3, h4]⟩

theorem header_eq (v : Version) : header v = v.responseHeader := by
  cases v <;> decide +kernel

/-- the header checks of `get_data_impl` on a datagram that starts with the out-of-band marker -/
theorem stripHeader_marker (v : Version) (rest : Bytes) :
    (stripHeader v).run ([0xFF, 0xFF, 0xFF, 0xFF] ++ rest) =
      if v.responseHeader.isPrefixOf rest then .ok (rest.drop v.responseHeader.length) else .err .packetBad := by
  have h1 := decodes_le 4 0xFFFFFFFF (by decide)
  rw [show natLE 4 0xFFFFFFFF = [0xFF, 0xFF, 0xFF, 0xFF] from by decide] at h1
  obtain ⟨b1, hp1, hr1, _⟩ := h1 (Buf.new ([0xFF, 0xFF, 0xFF, 0xFF] ++ rest)) rest rfl
  unfold Par.run stripHeader
  rw [Par.bind_ok hp1]
  simp only [bne_self_eq_false, Bool.false_eq_true, ↓reduceIte]
  rw [Par.bind_ok (show remainingBytes b1 = .ok (b1.rest, b1) from rfl), hr1]
  by_cases hpre : v.responseHeader.isPrefixOf rest = true
  · obtain ⟨t, rfl⟩ := List.isPrefixOf_iff_prefix.mp hpre
    obtain ⟨b2, hp2, hr2, _⟩ := decodes_skip v.responseHeader b1 t hr1
    simp only [hpre, Bool.not_true, Bool.false_eq_true, ↓reduceIte]
    rw [Par.bind_ok hp2, List.drop_left]
    simp only [remainingBytes, hr2]
  · simp only [hpre, Bool.not_false, Bool.false_eq_true, ↓reduceIte, Par.fail]

theorem stripHeader_reply (cfg : Config) (st : State) :
    (stripHeader cfg.version).run (reply cfg st) = .ok (body cfg st) := by
  rw [reply, header_eq, List.append_assoc, stripHeader_marker,
    if_pos (List.isPrefixOf_iff_prefix.mpr (List.prefix_append _ _)), List.drop_left]

theorem parseBody_body (cfg : Config) (st : State) (hw : wf cfg st = true) :
    (parseBody cfg.version).run (body cfg st) = expected cfg st := by
  have hp := wf_parts hw
  obtain ⟨b1, hp1, hr1, _⟩ := decodes_getServerValues st.vars hp.vars hp.distinct (Buf.new (body cfg st))
    ((st.lines.map encLine).flatten ++ (if cfg.trailingNul then [0x00] else [])) (by simp [body, List.append_assoc])
  obtain ⟨b2, hp2, _⟩ := getPlayers_lines cfg.version (if cfg.trailingNul then [0x00] else [])
    (by cases cfg.trailingNul <;> simp) st.lines hp.lines b1 hr1
  unfold Par.run parseBody
  rw [Par.bind_ok hp1, Par.bind_ok hp2, buildResponse_expected cfg st hp.count]
  cases expected cfg st <;> rfl

end Gd.Quake
