import GdVerif.Lemmas.QCost
import GdVerif.Lemmas.QBlock
import GdVerif.Lemmas.QLogic
/-
  Whole queries in the counting logics `Cost` / `Sends` / `Block` (the per-family C12 / C13 theorems):

  * socket creation as a step of each logic (a refused / failed creation is one blocked step);
  * from a logic judgement to the statement about a whole query started on `Net.init`;
  * the *silent server*: `SilentFor tcp n queue` (the next `n` receives of the socket time out),
    `SilentSends` / `SilentRun` (what a fault-free computation does against such a socket: it succeeds having only
    sent / it fails after so many timed-out receives; `SilentAttempt` = one timed-out receive) and the retry theorem
    `SilentAttempt.retry`: exactly `r + 1` attempts, every one of them one timed-out receive, then the receive-class
    error;
  * from the first socket on: `PendingSilent` (the script of the socket to be created next is silent),
    `SilentRun.openSock` and its result `SilentOutcome` (result, log counts, what is left of the script);
  * several sockets one after the other: `SilentOutcomeN` (`append`), `AllSilent`.
-/
namespace Gd

def isOpened : Ev → Bool
  | .opened _ _ _ _ => true
  | _ => false

def nOpened (l : List Ev) : Nat := l.countP isOpened

theorem nOpened_append (a b : List Ev) : nOpened (a ++ b) = nOpened a + nOpened b := by simp [nOpened]

theorem counts_append {a b : List Ev} {k1 b1 v1 o1 k2 b2 v2 o2 : Nat}
    (h1 : nSends a = k1 ∧ nBlocked a = b1 ∧ nRecvOk a = v1 ∧ nOpened a = o1)
    (h2 : nSends b = k2 ∧ nBlocked b = b2 ∧ nRecvOk b = v2 ∧ nOpened b = o2) :
    nSends (a ++ b) = k1 + k2 ∧ nBlocked (a ++ b) = b1 + b2 ∧ nRecvOk (a ++ b) = v1 + v2 ∧
      nOpened (a ++ b) = o1 + o2 := by
  obtain ⟨rfl, rfl, rfl, rfl⟩ := h1
  obtain ⟨rfl, rfl, rfl, rfl⟩ := h2
  exact ⟨nSends_append a b, nBlocked_append a b, nRecvOk_append a b, nOpened_append a b⟩

theorem Cost.openSock (tcp : Bool) (port : Nat) : Cost 0 0 (openSock tcp port) := by
  intro w
  unfold Gd.openSock
  split <;> exact ⟨_, rfl, by simp [nSends, nRecvOk, isSend, isRecvOk]⟩

theorem Sends.openSock (tcp : Bool) (port : Nat) : Sends 0 (openSock tcp port) := by
  intro w
  unfold Gd.openSock
  split <;> exact ⟨_, rfl, by simp [nSends, isSend]⟩

theorem Block.openSock (tcp : Bool) (port : Nat) : Block 0 1 (openSock tcp port) := by
  intro w
  unfold Gd.openSock
  split <;> exact ⟨_, rfl, by simp [nBlocked, isBlocked]⟩

theorem Block.total {q : Q α} {ko ke : Nat} (h : Block ko ke q) (script : List ConnScript) (faults : List Bool) :
    nBlocked (q (Net.init script faults)).2.log ≤ max ko ke := by
  obtain ⟨added, hl, hc⟩ := h (Net.init script faults)
  rw [hl]
  simp only [Net.init, List.nil_append]
  cases hr : (q (Net.init script faults)).1 <;> rw [hr] at hc <;> simp only at hc <;> omega

theorem Sends.total {q : Q α} {k : Nat} (h : Sends k q) (script : List ConnScript) (faults : List Bool) :
    nSends (q (Net.init script faults)).2.log ≤ k := by
  obtain ⟨added, hl, hc⟩ := h (Net.init script faults)
  rw [hl]
  simpa [Net.init] using hc

theorem Cost.total {q : Q α} {k : Nat} (h : Cost (k : Int) (k : Int) q) (script : List ConnScript) (faults : List Bool) :
    nSends (q (Net.init script faults)).2.log ≤ k + nRecvOk (q (Net.init script faults)).2.log := by
  obtain ⟨added, hl, hc⟩ := h (Net.init script faults)
  rw [hl]
  simp only [Net.init, List.nil_append]
  cases hr : (q (Net.init script faults)).1 <;> rw [hr] at hc <;> simp only at hc <;> omega

/-- the next `n` receives of a socket with this queue time out: the queue starts with `n` silences, or
(UDP only, where an exhausted script is a peer that stays silent) with fewer and then ends. -/
def SilentFor (tcp : Bool) : Nat → List Delivery → Prop
  | 0, _ => True
  | _ + 1, [] => tcp = false
  | n + 1, .silence :: r => SilentFor tcp n r
  | _ + 1, .data _ :: _ => False

theorem SilentFor.replicate (tcp : Bool) (n : Nat) (rest : List Delivery) :
    SilentFor tcp n (List.replicate n .silence ++ rest) := by
  induction n with
  | zero => exact True.intro
  | succ n ih => simpa [List.replicate_succ, SilentFor] using ih

theorem SilentFor.nil_udp (n : Nat) : SilentFor false n [] := by
  cases n <;> simp [SilentFor]

theorem SilentFor.mono {tcp : Bool} : ∀ {n m : Nat} {q : List Delivery}, SilentFor tcp n q → m ≤ n → SilentFor tcp m q := by
  intro n
  induction n with
  | zero => intro m q _ hm; have : m = 0 := by omega
            subst this; exact True.intro
  | succ n ih =>
    intro m q h hm
    cases m with
    | zero => exact True.intro
    | succ m =>
      cases q with
      | nil => exact h
      | cons d r =>
        cases d with
        | silence => exact ih (q := r) h (by omega)
        | data b => exact h.elim

def squeue (s : Sock) (w : Net) : List Delivery := w.conns.getD s.id []

/-- the state a silent-server run is in: no send fault pending, the socket's next `n` receives time out -/
structure SilentAt (s : Sock) (n : Nat) (w : Net) : Prop where
  faults : w.faults = []
  silent : SilentFor s.tcp n (squeue s w)

/-- what a step of a silent-server run leaves unchanged -/
structure Kept (w w' : Net) : Prop where
  pending : w'.pending = w.pending
  faults : w'.faults = w.faults
  len : w'.conns.length = w.conns.length

theorem Kept.refl (w : Net) : Kept w w := ⟨rfl, rfl, rfl⟩
theorem Kept.trans {w w1 w2 : Net} (h1 : Kept w w1) (h2 : Kept w1 w2) : Kept w w2 :=
  ⟨h2.pending.trans h1.pending, h2.faults.trans h1.faults, h2.len.trans h1.len⟩

/-- `q` succeeds without receiving anything: it sends exactly `k` datagrams, none fails, nothing else
happens, the socket stays as silent as it was -/
def SilentSends (s : Sock) (k : Nat) (q : Q α) : Prop :=
  ∀ w n, SilentAt s n w → ∃ a added, (q w).1 = .ok a ∧ (q w).2.log = w.log ++ added ∧ Kept w (q w).2 ∧
    SilentAt s n (q w).2 ∧ nSends added = k ∧ nBlocked added = 0 ∧ nRecvOk added = 0 ∧ nOpened added = 0

/-- `q` fails with the receive-class error after `b` receives that timed out, on a socket silent for at least that
long: it has sent exactly `k` datagrams, nothing was received, nothing else happened -/
def SilentRun (s : Sock) (k b : Nat) (q : Q α) : Prop :=
  ∀ w n, SilentAt s (n + b) w → ∃ added, (q w).1 = .err .packetReceive ∧ (q w).2.log = w.log ++ added ∧
    Kept w (q w).2 ∧ SilentAt s n (q w).2 ∧ nSends added = k ∧ nBlocked added = b ∧ nRecvOk added = 0 ∧
    nOpened added = 0

/-- one attempt: `q` fails at its first receive -/
def SilentAttempt (s : Sock) (k : Nat) (q : Q α) : Prop := SilentRun s k 1 q

theorem SilentSends.pure (s : Sock) (a : α) : SilentSends s 0 (pure a : Q α) :=
  fun w _ h => ⟨a, [], rfl, by simp, Kept.refl w, h, rfl, rfl, rfl, rfl⟩

theorem SilentSends.lift (s : Sock) {r : Res α} {a : α} (h : r = .ok a) : SilentSends s 0 (Q.lift r) := by
  subst h
  exact fun w _ h => ⟨a, [], rfl, by simp [Q.lift], Kept.refl w, h, rfl, rfl, rfl, rfl⟩

theorem SilentSends.send (s : Sock) (data : Bytes) : SilentSends s 1 (send s data) := by
  intro w n h
  rw [send_clean s data w h.faults]
  exact ⟨(), _, rfl, rfl, ⟨rfl, rfl, rfl⟩, ⟨h.faults, h.silent⟩, rfl, rfl, rfl, rfl⟩

theorem SilentSends.bind {s : Sock} {q : Q α} {f : α → Q β} {k1 k2 : Nat}
    (hq : SilentSends s k1 q) (hf : ∀ a, SilentSends s k2 (f a)) : SilentSends s (k1 + k2) (q >>= f) := by
  intro w n h
  obtain ⟨a, ad1, hr1, hl1, hk1, hs1, c⟩ := hq w n h
  obtain ⟨b, ad2, hr2, hl2, hk2, hs2, d⟩ := hf a _ n hs1
  rw [Q.bind_of_ok hr1]
  exact ⟨b, ad1 ++ ad2, hr2, by rw [hl2, hl1, List.append_assoc], hk1.trans hk2, hs2, counts_append c d⟩

theorem lt_of_getD_cons {l : List (List Delivery)} {i : Nat} {d : Delivery} {r : List Delivery}
    (h : l.getD i [] = d :: r) : i < l.length := by
  apply Classical.byContradiction
  intro hge
  rw [List.getD_eq_getElem?_getD, List.getElem?_eq_none (Nat.le_of_not_lt hge)] at h
  cases h

theorem SilentAttempt.recv (s : Sock) (size : Option Nat) : SilentAttempt s 0 (recv s size) := by
  intro w n h
  have hs := h.silent
  unfold squeue at hs
  refine ⟨[.recv s.id size none], ?_⟩
  cases hq : w.conns.getD s.id [] with
  | nil =>
    rw [hq] at hs
    have hudp : s.tcp = false := hs
    have hres : Gd.recv s size w = (.err .packetReceive, { w with log := w.log ++ [.recv s.id size none] }) := by
      simp only [Gd.recv, hq, hudp, Bool.false_eq_true, ↓reduceIte]
    rw [hres]
    refine ⟨rfl, rfl, ⟨rfl, rfl, rfl⟩, ⟨h.faults, ?_⟩, rfl, rfl, rfl, rfl⟩
    simp only [squeue, hq, hudp]
    exact SilentFor.nil_udp n
  | cons d rest =>
    rw [hq] at hs
    cases d with
    | data b => exact hs.elim
    | silence =>
      have hres : Gd.recv s size w = (.err .packetReceive,
          { w with conns := setAt w.conns s.id rest, log := w.log ++ [.recv s.id size none] }) := by
        simp only [Gd.recv, hq]
      rw [hres]
      refine ⟨rfl, rfl, ⟨rfl, rfl, setAt_length _ _ _⟩, ⟨h.faults, ?_⟩, rfl, rfl, rfl, rfl⟩
      simp only [squeue, getD_setAt, lt_of_getD_cons hq, and_self, ↓reduceIte]
      exact hs

theorem SilentRun.bind_left {s : Sock} {q : Q α} {k b : Nat} (hq : SilentRun s k b q) (f : α → Q β) :
    SilentRun s k b (q >>= f) := by
  intro w n h
  obtain ⟨ad, hr, rest⟩ := hq w n h
  rw [Q.bind_of_err hr]
  exact ⟨ad, rfl, rest⟩

theorem SilentAttempt.bind_left {s : Sock} {q : Q α} {k : Nat} (hq : SilentAttempt s k q) (f : α → Q β) :
    SilentAttempt s k (q >>= f) :=
  SilentRun.bind_left hq f

theorem SilentAttempt.seq {s : Sock} {q : Q α} {f : α → Q β} {k1 k2 : Nat}
    (hq : SilentSends s k1 q) (hf : ∀ a, SilentAttempt s k2 (f a)) : SilentAttempt s (k1 + k2) (q >>= f) := by
  intro w n h
  obtain ⟨a, ad1, hr1, hl1, hk1, hs1, c⟩ := hq w (n + 1) h
  obtain ⟨ad2, hr2, hl2, hk2, hs2, d⟩ := hf a _ n hs1
  rw [Q.bind_of_ok hr1]
  exact ⟨ad1 ++ ad2, hr2, by rw [hl2, hl1, List.append_assoc], hk1.trans hk2, hs2, counts_append c d⟩

theorem SilentAttempt.exchange1 {α : Type} (s : Sock) (req : Bytes) (size : Nat) (check : Bytes → Res α) :
    SilentAttempt s 1 (exchange1 s req size check) :=
  SilentAttempt.seq (k2 := 0) (SilentSends.send s req) fun _ => (SilentAttempt.recv s _).bind_left _

theorem SilentAttempt.retry {s : Sock} {q : Q α} {k : Nat} (hq : SilentAttempt s k q) (r : Nat) :
    SilentRun s (k * (r + 1)) (r + 1) (retryOnTimeout r q) := by
  induction r with
  | zero =>
    rw [Nat.zero_add, Nat.mul_one]
    exact hq
  | succ r ih =>
    intro w n h
    obtain ⟨ad1, hr1, hl1, hk1, hs1, c⟩ := hq w (n + (r + 1)) h
    obtain ⟨ad2, hr2, hl2, hk2, hs2, d⟩ := ih _ n hs1
    rw [retryOnTimeout_again (Prod.ext hr1 rfl) rfl]
    refine ⟨ad1 ++ ad2, hr2, by rw [hl2, hl1, List.append_assoc], hk1.trans hk2, hs2, ?_⟩
    rw [Nat.mul_succ k (r + 1), Nat.add_comm (k * (r + 1)) k, Nat.add_comm (r + 1) 1]
    exact counts_append c d

theorem SilentAttempt.retry1 {s : Sock} {q : Q α} (hq : SilentAttempt s 1 q) (r : Nat) :
    SilentRun s (r + 1) (r + 1) (retryOnTimeout r q) := by
  have := hq.retry r
  rwa [Nat.one_mul] at this

/-- the script of the next socket to be created: it is created, and its next `n` receives time out
(no script left = a UDP peer that never answers) -/
def PendingSilent (tcp : Bool) (n : Nat) : List ConnScript → Prop
  | [] => tcp = false
  | .opened ds :: _ => SilentFor tcp n ds
  | .refused :: _ => False

/-- what a query that creates one socket and runs into `b` timeouts on it does: the result, the log
and how much of the script is left for further sockets -/
structure SilentOutcome (w : Net) (res : Res α × Net) (k b : Nat) : Prop where
  result : res.1 = .err .packetReceive
  pending : res.2.pending = w.pending.tail
  faults : res.2.faults = []
  sends : ∃ added, res.2.log = w.log ++ added ∧ nSends added = k ∧ nBlocked added = b ∧ nRecvOk added = 0 ∧
    nOpened added = 1

theorem SilentRun.openSock {tcp : Bool} {k b : Nat} {f : Sock → Q α}
    (hf : ∀ s, s.tcp = tcp → SilentRun s k b (f s)) (port : Nat) (w : Net) (hfl : w.faults = [])
    (hp : PendingSilent tcp b w.pending) :
    SilentOutcome w ((openSock tcp port >>= f) w) k b := by
  rw [Q.bind_apply]
  have key : ∀ (ds : List Delivery) (rest : List ConnScript), SilentFor tcp b ds → rest = w.pending.tail →
      SilentOutcome w (f ⟨w.conns.length, port, tcp⟩
        { w with pending := rest, conns := w.conns ++ [ds],
                 log := w.log ++ [.opened w.conns.length tcp port false] }) k b := by
    intro ds rest hds hrest
    have hat : SilentAt ⟨w.conns.length, port, tcp⟩ (0 + b)
        { w with pending := rest, conns := w.conns ++ [ds], log := w.log ++ [.opened w.conns.length tcp port false] } := by
      refine ⟨hfl, ?_⟩
      simp only [squeue, List.getD_eq_getElem?_getD, List.getElem?_append_right (Nat.le_refl _), Nat.sub_self,
        List.getElem?_cons_zero, Option.getD_some, Nat.zero_add]
      exact hds
    obtain ⟨ad, hr, hl, hk, hs, c⟩ := hf ⟨w.conns.length, port, tcp⟩ rfl _ 0 hat
    refine ⟨hr, hk.pending.trans hrest, hs.faults, [.opened w.conns.length tcp port false] ++ ad,
      hl.trans (List.append_assoc _ _ _), ?_⟩
    simpa only [Nat.zero_add] using counts_append (k1 := 0) (b1 := 0) (v1 := 0) (o1 := 1) ⟨rfl, rfl, rfl, rfl⟩ c
  cases hpe : w.pending with
  | nil =>
    rw [hpe] at hp
    have htcp : tcp = false := hp
    simp only [Gd.openSock, hpe]
    exact key [] [] (by rw [htcp]; exact SilentFor.nil_udp b) (by rw [hpe]; rfl)
  | cons c rest =>
    rw [hpe] at hp
    cases c with
    | refused => exact hp.elim
    | opened ds =>
      simp only [Gd.openSock, hpe]
      exact key ds rest hp (by rw [hpe]; rfl)

theorem SilentOutcome.bind_left {q : Q α} {w : Net} {k b : Nat} (h : SilentOutcome w (q w) k b) (f : α → Q β) :
    SilentOutcome w ((q >>= f) w) k b := by
  rw [Q.bind_of_err h.result]
  exact ⟨rfl, h.pending, h.faults, h.sends⟩

/-- outcome of a computation that created `nsock` sockets one after the other, found every one of
them silent and failed with `e` -/
structure SilentOutcomeN (w : Net) (res : Res α × Net) (e : ErrKind) (nsock k b : Nat) : Prop where
  result : res.1 = .err e
  pending : res.2.pending = w.pending.drop nsock
  faults : res.2.faults = []
  sends : ∃ added, res.2.log = w.log ++ added ∧ nSends added = k ∧ nBlocked added = b ∧ nRecvOk added = 0 ∧
    nOpened added = nsock

theorem SilentOutcome.toN {w : Net} {res : Res α × Net} {k b : Nat} (h : SilentOutcome w res k b) :
    SilentOutcomeN w res .packetReceive 1 k b :=
  ⟨h.result, by rw [h.pending, List.drop_one], h.faults, h.sends⟩

theorem SilentOutcomeN.counts {script : List ConnScript} {res : Res α × Net} {e : ErrKind} {n k b : Nat}
    (h : SilentOutcomeN (Net.init script []) res e n k b) :
    res.1 = .err e ∧ nSends res.2.log = k ∧ nBlocked res.2.log = b ∧ nRecvOk res.2.log = 0 ∧
      nOpened res.2.log = n := by
  obtain ⟨added, hl, c1, c2, c3, c4⟩ := h.sends
  simp only [Net.init, List.nil_append] at hl
  rw [hl]
  exact ⟨h.result, c1, c2, c3, c4⟩

theorem SilentOutcome.counts {script : List ConnScript} {res : Res α × Net} {k b : Nat}
    (h : SilentOutcome (Net.init script []) res k b) :
    res.1 = .err .packetReceive ∧ nSends res.2.log = k ∧ nBlocked res.2.log = b ∧ nRecvOk res.2.log = 0 ∧
      nOpened res.2.log = 1 :=
  h.toN.counts

theorem SilentOutcomeN.append {w : Net} {r1 : Res α × Net} {r2 : Res β × Net} {e1 e2 : ErrKind}
    {n1 k1 b1 n2 k2 b2 : Nat} (h1 : SilentOutcomeN w r1 e1 n1 k1 b1) (h2 : SilentOutcomeN r1.2 r2 e2 n2 k2 b2) :
    SilentOutcomeN w r2 e2 (n1 + n2) (k1 + k2) (b1 + b2) := by
  obtain ⟨a1, hl1, c⟩ := h1.sends
  obtain ⟨a2, hl2, d⟩ := h2.sends
  exact ⟨h2.result, by rw [h2.pending, h1.pending, List.drop_drop], h2.faults, a1 ++ a2,
    by rw [hl2, hl1, List.append_assoc], counts_append c d⟩

/-- the scripts of the next sockets to be created (their transports in order): each is created and
its next `n` receives time out -/
def AllSilent (n : Nat) : List Bool → List ConnScript → Prop
  | [], _ => True
  | tcp :: ts, p => PendingSilent tcp n p ∧ AllSilent n ts p.tail

theorem AllSilent.nil_udp (n : Nat) : ∀ (ts : List Bool), (∀ t ∈ ts, t = false) → AllSilent n ts []
  | [], _ => True.intro
  | t :: ts, h => ⟨h t (by simp), AllSilent.nil_udp n ts fun x hx => h x (by simp [hx])⟩

end Gd
