import GdVerif.Lemmas.QBounds
import GdVerif.Lemmas.Decodes
/-
  `SendBound n q` bounds the sends `q` appends: `Sends n q` of `Lemmas/QCost.lean` over another spelling of the counter
  (`countSends`, a filter's length).  The C01 / C10 / C13 statements of Savage 2 and Mindustry are written with this
  spelling; the rules are transported from `Sends`.  (`Lemmas/Decodes.lean` is imported for the files of those families.)
-/
namespace Gd

def Ev.isSend : Ev → Bool
  | .send _ _ _ _ => true
  | _ => false

def countSends (l : List Ev) : Nat := (l.filter Ev.isSend).length

theorem countSends_eq (l : List Ev) : countSends l = nSends l := by
  have e : Ev.isSend = isSend := by funext ev; cases ev <;> rfl
  rw [countSends, nSends, List.countP_eq_length_filter, e]

def SendBound (n : Nat) (q : Q α) : Prop :=
  ∀ w, ∃ added, (q w).2.log = w.log ++ added ∧ countSends added ≤ n

namespace SendBound

theorem iff_sends {n : Nat} {q : Q α} : SendBound n q ↔ Sends n q := by
  simp only [SendBound, Sends, countSends_eq]

theorem mono {n m : Nat} {q : Q α} (h : SendBound n q) (hnm : n ≤ m) : SendBound m q :=
  iff_sends.2 ((iff_sends.1 h).weaken hnm)

theorem pure (a : α) : SendBound 0 (Pure.pure a : Q α) := iff_sends.2 (Sends.pure a)

theorem lift (r : Res α) : SendBound 0 (Q.lift r) := iff_sends.2 (Sends.lift r)

theorem parse (p : Par α) (d : Bytes) : SendBound 0 (parse p d) := lift _

theorem bind {n m : Nat} {q : Q α} {f : α → Q β} (hq : SendBound n q) (hf : ∀ a, SendBound m (f a)) :
    SendBound (n + m) (q >>= f) :=
  iff_sends.2 (Sends.bind (iff_sends.1 hq) fun a => iff_sends.1 (hf a))

theorem openSock (tcp : Bool) (port : Nat) : SendBound 0 (openSock tcp port) := iff_sends.2 (Sends.openSock tcp port)

theorem send (s : Sock) (data : Bytes) : SendBound 1 (send s data) := iff_sends.2 (Sends.send s data)

theorem recv (s : Sock) (size : Option Nat) : SendBound 0 (recv s size) := iff_sends.2 (Sends.recv s size)

/-- `r` retries: at most `r + 1` runs of the unit -/
theorem retry {n : Nat} {q : Q α} (hq : SendBound n q) (r : Nat) : SendBound ((r + 1) * n) (retryOnTimeout r q) := by
  rw [Nat.mul_comm]
  exact iff_sends.2 (Sends.retry (iff_sends.1 hq) r)

theorem run {n : Nat} {q : Q α} (hq : SendBound n q) (script : List ConnScript) (faults : List Bool) :
    countSends (q (Net.init script faults)).2.log ≤ n := by
  rw [countSends_eq]
  exact (iff_sends.1 hq).total script faults

end SendBound

end Gd
