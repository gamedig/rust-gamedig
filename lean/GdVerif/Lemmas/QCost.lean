import GdVerif.Net
import GdVerif.Lemmas.QLogic
/-
  Counting on what a query computation adds to the log.  `Bounded m ko ke q`: `q` appends `added` to the log, and a
  measure `m added` that adds up over `++` is at most `ko` when `q` succeeds and at most `ke` when it does not.  `Cost`
  (sends minus successful receives), `Sends` (sends) — both here — and `Block` (`Lemmas/QBlock.lean`: blocked steps) are
  this judgement for three measures; their rules for `>>=`, `retryOnTimeout` and `maybeGather` are its rules.
-/
namespace Gd

def Bounded (m : List Ev → Int) (ko ke : Int) (q : Q α) : Prop :=
  ∀ w, ∃ added, (q w).2.log = w.log ++ added ∧
    m added ≤ (match (q w).1 with
      | .ok _ => ko
      | _ => ke)

namespace Bounded
variable {α β : Type} {m : List Ev → Int}

theorem weaken {q : Q α} {ko ke ko' ke' : Int} (h : Bounded m ko ke q) (h1 : ko ≤ ko') (h2 : ke ≤ ke') :
    Bounded m ko' ke' q := by
  intro w
  obtain ⟨added, hl, hc⟩ := h w
  refine ⟨added, hl, Int.le_trans hc ?_⟩
  cases (q w).1 <;> assumption

theorem same_iff {q : Q α} {k : Int} :
    Bounded m k k q ↔ ∀ w, ∃ added, (q w).2.log = w.log ++ added ∧ m added ≤ k := by
  refine forall_congr' fun w => exists_congr fun added => and_congr_right fun _ => ?_
  cases (q w).1 <;> exact Iff.rfl

theorem lift (hm : ∀ a b, m (a ++ b) = m a + m b) (r : Res α) : Bounded m 0 0 (Q.lift r) := by
  have h0 : m [] = 0 := by have := hm [] []; rw [List.append_nil] at this; omega
  exact fun w => ⟨[], (List.append_nil _).symm, by rw [h0]; cases r <;> exact Int.le_refl 0⟩

theorem bind (hm : ∀ a b, m (a ++ b) = m a + m b) {q : Q α} {f : α → Q β} {ko1 ke1 ko2 ke2 : Int}
    (hq : Bounded m ko1 ke1 q) (hf : ∀ a, Bounded m ko2 ke2 (f a)) :
    Bounded m (ko1 + ko2) (max ke1 (ko1 + ke2)) (q >>= f) := by
  intro w
  obtain ⟨a1, hl1, hc1⟩ := hq w
  rw [Q.bind_apply]
  cases hqw : q w with
  | mk res w1 =>
    rw [hqw] at hl1 hc1
    cases res with
    | ok a =>
      obtain ⟨a2, hl2, hc2⟩ := hf a w1
      refine ⟨a1 ++ a2, by rw [hl2, hl1, List.append_assoc], ?_⟩
      rw [hm]
      simp only at hc1 ⊢
      have h12 := Int.add_le_add hc1 hc2
      generalize (f a w1).1 = r2 at h12 ⊢
      cases r2
      · exact h12
      · exact Int.le_trans h12 (Int.le_max_right _ _)
      · exact Int.le_trans h12 (Int.le_max_right _ _)
    | err k => exact ⟨a1, hl1, Int.le_trans hc1 (Int.le_max_left _ _)⟩
    | crash => exact ⟨a1, hl1, Int.le_trans hc1 (Int.le_max_left _ _)⟩

theorem retry_succ (hm : ∀ a b, m (a ++ b) = m a + m b) {q : Q α} {A ko ke : Int} (hA : 0 ≤ A) (hke : 0 ≤ ke)
    (hq : Bounded m ko ke q) {r : Nat} (ih : Bounded m (A + ko) (A + ke) (retryOnTimeout r q)) :
    Bounded m (A + ke + ko) (A + ke + ke) (retryOnTimeout (r + 1) q) := by
  intro w
  obtain ⟨a1, hl1, hc1⟩ := hq w
  rcases retryOnTimeout_cases r q w with e | ⟨k, w1, e, _, e'⟩
  · rw [e]
    refine ⟨a1, hl1, Int.le_trans hc1 ?_⟩
    cases (q w).1 <;> simp only <;> omega
  · rw [e] at hl1 hc1
    obtain ⟨a2, hl2, hc2⟩ := ih w1
    rw [e']
    refine ⟨a1 ++ a2, by rw [hl2, hl1, List.append_assoc], ?_⟩
    rw [hm]
    simp only at hc1
    generalize (retryOnTimeout r q w1).1 = r2 at hc2 ⊢
    cases r2 <;> simp only at hc2 ⊢ <;> omega

/-- every failed attempt before the last contributes `ke` -/
theorem retry (hm : ∀ a b, m (a ++ b) = m a + m b) {q : Q α} {ko ke : Int} (hke : 0 ≤ ke) (hq : Bounded m ko ke q)
    (r : Nat) : Bounded m (r * ke + ko) ((r + 1) * ke) (retryOnTimeout r q) := by
  induction r with
  | zero => exact hq.weaken (by omega) (by omega)
  | succ r ih =>
    have e : ((r + 1 : Nat) : Int) * ke = r * ke + ke := by rw [Int.natCast_succ, Int.add_mul, Int.one_mul]
    rw [Int.add_mul, Int.one_mul] at ih ⊢
    rw [e]
    exact retry_succ hm (Int.mul_nonneg (Int.natCast_nonneg r) hke) hke hq ih

/-- one bound `k` whatever the outcome: `r + 1` attempts of at most `k` each -/
theorem retry_same (hm : ∀ a b, m (a ++ b) = m a + m b) {q : Q α} {k : Nat} (hq : Bounded m k k q) (r : Nat) :
    Bounded m ((k * (r + 1) : Nat) : Int) ((k * (r + 1) : Nat) : Int) (retryOnTimeout r q) := by
  have e : ((k * (r + 1) : Nat) : Int) = (r + 1) * k := by rw [Nat.mul_comm]; push_cast; rfl
  have e' : (r : Int) * k + k ≤ (r + 1) * k := by rw [Int.add_mul, Int.one_mul]; exact Int.le_refl _
  rw [e]
  exact (hq.retry hm (Int.natCast_nonneg k) r).weaken e' (Int.le_refl _)

theorem maybeGather (hm : ∀ a b, m (a ++ b) = m a + m b) {q : Q α} {k : Int} (hk : 0 ≤ k) (hq : Bounded m k k q)
    (t : Toggle) : Bounded m k k (Gd.maybeGather t q) := by
  cases t with
  | skip => exact (lift hm (.ok none)).weaken hk hk
  | try_ =>
    intro w
    obtain ⟨a1, hl1, hc1⟩ := hq w
    simp only [Gd.maybeGather]
    cases hqw : q w with
    | mk res w1 =>
      rw [hqw] at hl1 hc1
      cases res <;> exact ⟨a1, hl1, hc1⟩
  | enforce =>
    exact ((hq.bind hm fun a => lift hm (.ok (some a))).weaken (by omega) (by omega))

end Bounded

/-! ### sends against receives: `Cost`

`ko` / `ke` are integers: a successful receive "earns" a send (the challenge echo), so `recv` has `ko = -1`. -/

def isSend : Ev → Bool
  | .send _ _ _ _ => true
  | _ => false

def isRecvOk : Ev → Bool
  | .recv _ _ (some _) => true
  | _ => false

def nSends (l : List Ev) : Nat := l.countP isSend
def nRecvOk (l : List Ev) : Nat := l.countP isRecvOk

theorem nSends_append (a b : List Ev) : nSends (a ++ b) = nSends a + nSends b := by simp [nSends]
theorem nRecvOk_append (a b : List Ev) : nRecvOk (a ++ b) = nRecvOk a + nRecvOk b := by simp [nRecvOk]

theorem nSends_send (c p : Nat) (d : Bytes) (f : Bool) (l : List Ev) : nSends (.send c p d f :: l) = nSends l + 1 := by
  simp [nSends, List.countP_cons, isSend]

theorem nSends_recv (c : Nat) (sz g : Option Nat) (l : List Ev) : nSends (.recv c sz g :: l) = nSends l := by
  simp [nSends, isSend]

/-- `Bounded` for the measure `unpaid` (sends minus successful receives), see `Cost.iff_bounded`; written out, because
this is the form in which the property theorems (C13) state the bound. -/
def Cost (ko ke : Int) (q : Q α) : Prop :=
  ∀ w, ∃ added, (q w).2.log = w.log ++ added ∧
    (match (q w).1 with
     | .ok _ => (nSends added : Int) ≤ ko + nRecvOk added
     | _ => (nSends added : Int) ≤ ke + nRecvOk added)

/-- sends not yet paid for by a receive -/
def unpaid (l : List Ev) : Int := nSends l - nRecvOk l

theorem unpaid_append (a b : List Ev) : unpaid (a ++ b) = unpaid a + unpaid b := by
  simp only [unpaid, nSends_append, nRecvOk_append]
  omega

theorem Cost.iff_bounded {q : Q α} {ko ke : Int} : Cost ko ke q ↔ Bounded unpaid ko ke q := by
  refine forall_congr' fun w => exists_congr fun added => and_congr_right fun _ => ?_
  cases (q w).1 <;> exact ⟨Int.sub_right_le_of_le_add, Int.le_add_of_sub_right_le⟩

theorem Cost.weaken {q : Q α} {ko ke ko' ke' : Int} (h : Cost ko ke q) (h1 : ko ≤ ko') (h2 : ke ≤ ke') :
    Cost ko' ke' q :=
  Cost.iff_bounded.2 ((Cost.iff_bounded.1 h).weaken h1 h2)

theorem Cost.pure (a : α) : Cost 0 0 (pure a : Q α) :=
  fun w => ⟨[], by simp, by simp [nSends, nRecvOk]⟩

theorem Cost.fail (k : ErrKind) : Cost 0 0 (Q.fail k : Q α) :=
  fun w => ⟨[], by simp [Q.fail], by simp [Q.fail, nSends, nRecvOk]⟩

theorem Cost.lift (r : Res α) : Cost 0 0 (Q.lift r) :=
  fun w => ⟨[], by simp [Q.lift], by cases r <;> simp [Q.lift, nSends, nRecvOk]⟩

theorem Cost.parse (p : Par α) (data : Bytes) : Cost 0 0 (parse p data) := Cost.lift _

theorem Cost.bind {q : Q α} {f : α → Q β} {ko1 ke1 ko2 ke2 : Int}
    (hq : Cost ko1 ke1 q) (hf : ∀ a, Cost ko2 ke2 (f a)) :
    Cost (ko1 + ko2) (max ke1 (ko1 + ke2)) (q >>= f) :=
  Cost.iff_bounded.2 ((Cost.iff_bounded.1 hq).bind unpaid_append fun a => Cost.iff_bounded.1 (hf a))

theorem Cost.bind_free {q : Q α} {f : α → Q β} {ko ke : Int} (hq : Cost ko ke q) (hf : ∀ a, Cost 0 0 (f a))
    (h : ko ≤ ke) : Cost ko ke (q >>= f) :=
  (Cost.bind hq hf).weaken (by omega) (by omega)

theorem Cost.bind_add {q : Q α} {f : α → Q β} {k1 k2 : Int} (hq : Cost k1 k1 q) (hf : ∀ a, Cost k2 k2 (f a))
    (h : 0 ≤ k2) : Cost (k1 + k2) (k1 + k2) (q >>= f) :=
  (Cost.bind hq hf).weaken (Int.le_refl _) (by omega)

theorem Cost.send (s : Sock) (data : Bytes) : Cost 1 1 (send s data) := by
  intro w
  unfold Gd.send
  split <;> exact ⟨_, rfl, by simp [nSends, nRecvOk, isSend, isRecvOk]⟩

theorem Cost.recv (s : Sock) (size : Option Nat) : Cost (-1) 0 (recv s size) := by
  intro w
  unfold Gd.recv
  split
  · exact ⟨_, rfl, by simp [nSends, nRecvOk, isSend, isRecvOk]⟩
  · exact ⟨_, rfl, by simp [nSends, nRecvOk, isSend, isRecvOk]⟩
  · split <;> exact ⟨_, rfl, by simp [nSends, nRecvOk, isSend, isRecvOk]⟩

theorem Cost.ite {c : Prop} [Decidable c] {p q : Q α} {ko ke : Int} (hp : Cost ko ke p) (hq : Cost ko ke q) :
    Cost ko ke (if c then p else q) := by
  split <;> assumption

theorem Cost.retry {q : Q α} {k : Nat} (hq : Cost k k q) (r : Nat) :
    Cost ((k * (r + 1) : Nat) : Int) ((k * (r + 1) : Nat) : Int) (retryOnTimeout r q) :=
  Cost.iff_bounded.2 ((Cost.iff_bounded.1 hq).retry_same unpaid_append r)

theorem Cost.maybeGather {q : Q α} {k : Int} (hk : 0 ≤ k) (hq : Cost k k q) (t : Toggle) : Cost k k (Gd.maybeGather t q) :=
  Cost.iff_bounded.2 ((Cost.iff_bounded.1 hq).maybeGather unpaid_append hk t)

/-! ### sends alone

`Sends k q`: whatever the state and the outcome, `q` appends events to the log of which at most `k` are sends.  For a
protocol without a challenge nothing a server sends earns a further request, and the bound is absolute. -/

/-- `Bounded` for the measure `nSends` with one bound for both outcomes (`Sends.iff_bounded`); written out, because this
is the form in which the property theorems (C13) state the bound. -/
def Sends (k : Nat) (q : Q α) : Prop :=
  ∀ w, ∃ added, (q w).2.log = w.log ++ added ∧ nSends added ≤ k

theorem Sends.iff_bounded {q : Q α} {k : Nat} : Sends k q ↔ Bounded (fun l => (nSends l : Int)) k k q := by
  refine forall_congr' fun w => exists_congr fun added => and_congr_right fun _ => ?_
  cases (q w).1 <;> exact Int.ofNat_le.symm

theorem nSends_cast_append (a b : List Ev) : (nSends (a ++ b) : Int) = nSends a + nSends b := by
  rw [nSends_append, Int.natCast_add]

theorem Sends.weaken {q : Q α} {k k' : Nat} (h : Sends k q) (hk : k ≤ k') : Sends k' q := by
  intro w
  obtain ⟨a, h1, h2⟩ := h w
  exact ⟨a, h1, Nat.le_trans h2 hk⟩

theorem Sends.pure (a : α) : Sends 0 (pure a : Q α) := fun w => ⟨[], by simp, by simp [nSends]⟩

theorem Sends.fail (k : ErrKind) : Sends 0 (Q.fail k : Q α) :=
  fun w => ⟨[], by simp [Q.fail], by simp [nSends]⟩

theorem Sends.lift (r : Res α) : Sends 0 (Q.lift r) := fun w => ⟨[], by simp [Q.lift], by simp [nSends]⟩

theorem Sends.parse (p : Par α) (data : Bytes) : Sends 0 (parse p data) := Sends.lift _

theorem Sends.send (s : Sock) (data : Bytes) : Sends 1 (send s data) := by
  intro w
  unfold Gd.send
  split <;> exact ⟨_, rfl, by simp [nSends, isSend]⟩

theorem Sends.recv (s : Sock) (size : Option Nat) : Sends 0 (recv s size) := by
  intro w
  unfold Gd.recv
  split
  · exact ⟨_, rfl, by simp [nSends, isSend]⟩
  · exact ⟨_, rfl, by simp [nSends, isSend]⟩
  · split <;> exact ⟨_, rfl, by simp [nSends, isSend]⟩

theorem Sends.ite {c : Prop} [Decidable c] {p q : Q α} {k : Nat} (hp : Sends k p) (hq : Sends k q) :
    Sends k (if c then p else q) := by
  split <;> assumption

theorem Sends.bind {q : Q α} {f : α → Q β} {k1 k2 : Nat} (hq : Sends k1 q) (hf : ∀ a, Sends k2 (f a)) :
    Sends (k1 + k2) (q >>= f) :=
  Sends.iff_bounded.2
    (((Sends.iff_bounded.1 hq).bind nSends_cast_append fun a => Sends.iff_bounded.1 (hf a)).weaken
      (by omega) (by omega))

theorem Sends.exchange1 {α : Type} (s : Sock) (req : Bytes) (size : Nat) (check : Bytes → Res α) :
    Sends 1 (exchange1 s req size check) :=
  Sends.bind (k2 := 0) (Sends.send s req) fun _ => Sends.bind (k2 := 0) (Sends.recv s _) fun d => Sends.lift (check d)

theorem Sends.retry {q : Q α} {k : Nat} (hq : Sends k q) (r : Nat) : Sends (k * (r + 1)) (retryOnTimeout r q) :=
  Sends.iff_bounded.2 ((Sends.iff_bounded.1 hq).retry_same nSends_cast_append r)

theorem Sends.maybeGather {q : Q α} {k : Nat} (hq : Sends k q) (t : Toggle) : Sends k (Gd.maybeGather t q) :=
  Sends.iff_bounded.2 ((Sends.iff_bounded.1 hq).maybeGather nSends_cast_append (Int.natCast_nonneg k) t)

end Gd
