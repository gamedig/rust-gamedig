import GdVerif.Lemmas.ValveKind
import GdVerif.Lemmas.Valve
import GdVerif.Lemmas.Reassembly
import GdVerif.Lemmas.QSteps
/-
  The Valve query against a conforming server, up to `receive`: what the client reads from one datagram or from the
  fragments of a split reply (Source or GoldSrc layout, plain or bzip2-compressed, any cut points, any arrival order),
  in the logic `Steps` of `Lemmas/QSteps.lean`; the kind, body and well-formedness facts about the three replies; what
  is asked of the external decoders (`BzOk`, `DecodersAgree`).  At its head `At` / `Runs`, the judgement of a success from a
  state with no send-fault flag scripted (`Ends f (.ok a) (At s · q) (At s · q')`), with its rule for `maybe_gather!`;
  the theorems below and in `Lemmas/ValveFaults.lean` use the finer `Steps`, which also follows flags and sends.

  `Lemmas/ValveFaults.lean` follows the rest of the query (challenge rounds, retries, sections) under a fault plan, and
  obtains the fault-free theorem `query_whole` as the case of the plan without faults.  `Lemmas/ValveWhole.lean` is
  the special case without challenge and split, built on that.
-/
namespace Gd.Valve
open Gd Gd.Valve.Spec

/-- the state of socket `s`: no send fault scripted, the socket is open, `q` is what remains queued on it -/
structure At (s : Sock) (w : Net) (q : List Delivery) : Prop where
  nofault : w.faults = []
  isOpen : s.id < w.conns.length
  queue : w.conns.getD s.id [] = q

/-- `f` succeeds with `a`, consuming the queue from `q` to `q'` -/
def Runs (s : Sock) (f : Q α) (a : α) (q q' : List Delivery) : Prop :=
  ∀ w, At s w q → ∃ w', f w = (.ok a, w') ∧ At s w' q'

theorem Runs.maybeGather {s : Sock} {f : Q α} {a : α} {q q' : List Delivery} (h : Runs s f a q q') (t : Toggle)
    (ht : t ≠ .skip) : Runs s (maybeGather t f) (some a) q q' :=
  Ends.map h fun w w' h1 => by
    cases t with
    | skip => exact absurd rfl ht
    | try_ => simp only [Gd.maybeGather, h1]
    | enforce => simp only [Gd.maybeGather]; rw [Q.bind_apply, h1]; rfl

theorem afterFirst_single (ext : Ext) (s : Sock) (engine : Engine) (protocol : Nat) (kind : UInt8) (body : Bytes) :
    afterFirst ext s engine protocol ([0xFF, 0xFF, 0xFF, 0xFF] ++ [kind] ++ body)
      = Q.lift (.ok ⟨0xFFFFFFFF, kind.toNat, body⟩) := by
  funext w
  simp only [afterFirst, parse, run_readU8_header, run_packetFromBuffer]
  rfl

theorem steps_receive_single (ext : Ext) (s : Sock) (hudp : s.tcp = false) (engine : Engine) (protocol : Nat)
    (kind : Nat) (hkind : kind < 256) (body : Bytes) (hl : (reply kind body).length ≤ PACKET_SIZE) (q : List Delivery)
    (fs : List Bool) (sn : List (Bytes × Bool)) :
    Steps s (receive ext s engine protocol) (.ok ⟨0xFFFFFFFF, kind, body⟩) ⟨.data (reply kind body) :: q, fs, sn⟩
      ⟨q, fs, sn⟩ := by
  rw [receive_eq]
  refine Steps.bind (steps_recv s hudp PACKET_SIZE _ hl q fs sn) ?_
  have h := afterFirst_single ext s engine protocol (UInt8.ofNat kind) body
  rw [show (UInt8.ofNat kind).toNat = kind by simp [UInt8.toNat_ofNat', Nat.mod_eq_of_lt hkind]] at h
  exact (Steps.lift s _ _).congr h

theorem decodes_splitHeader : Decodes (readUnsigned .little 4) splitHeader 0xFFFFFFFE := by
  simpa [natLE, splitHeader] using decodes_le 4 0xFFFFFFFE (by decide)

/-- the size field of the Source split header: absent for protocol 7 + app 240 -/
theorem decodes_splitSize (engine : Engine) (protocol : Nat) :
    Decodes (if protocol == 7 && engine == Engine.new 240 then pure 1248 else readUnsigned .little 2 : Par Nat)
      (if withSize engine protocol then le 2 1248 else []) 1248 := by
  unfold withSize
  cases hw : (protocol == 7 && engine == Engine.new 240)
  · simpa [le] using decodes_le 2 1248 (by decide)
  · simpa using Decodes.pure (1248 : Nat)

/-- a Source split fragment.  `z` is bit 31 of the id: set when the reply is bzip2-compressed, and fragment 0 then
announces the uncompressed size and the CRC-32 before its chunk -/
theorem run_splitPacketNew_source (ids : Option (Nat × Option Nat)) (protocol id total number size crc : Nat)
    (chunk : Bytes) (z : Bool) (hz : ((id >>> 31) &&& 1 == 1) = z) (hid : id < 2 ^ 32) (ht : total < 256)
    (hn : number < 256) (hs : size < 2 ^ 32) (hcrc : crc < 2 ^ 32) :
    (splitPacketNew (.source ids) protocol).run
        (sourceFragment (withSize (.source ids) protocol) id total number
          ((if z && number == 0 then le 4 size ++ le 4 crc else []) ++ chunk))
      = .ok ⟨0xFFFFFFFE, id, total, number, 1248, if z && number == 0 then some (size, crc) else none, chunk⟩ := by
  have h : DecodesEnd (splitPacketNew (.source ids) protocol)
      (sourceFragment (withSize (.source ids) protocol) id total number
        ((if z && number == 0 then le 4 size ++ le 4 crc else []) ++ chunk))
      ⟨0xFFFFFFFE, id, total, number, 1248, if z && number == 0 then some (size, crc) else none, chunk⟩ := by
    unfold splitPacketNew sourceFragment
    simp only [List.append_assoc, u8]
    refine DecodesEnd.bind decodes_splitHeader ?_ rfl
    refine DecodesEnd.bind (decodes_le 4 id hid) ?_ rfl
    refine DecodesEnd.bind (decodes_u8 total ht) ?_ rfl
    refine DecodesEnd.bind (decodes_u8 number hn) ?_ rfl
    refine DecodesEnd.bind (decodes_splitSize (.source ids) protocol) ?_ rfl
    simp only [hz]
    have hopt : Decodes (readIf (z && number == 0) (do
          let a ← readUnsigned .little 4
          let b ← readUnsigned .little 4
          pure (a, b)))
        (if z && number == 0 then le 4 size ++ le 4 crc else [])
        (if z && number == 0 then some (size, crc) else none) := by
      cases (z && number == 0)
      · simpa using decodes_readIf_none _
      · simp only [↓reduceIte]
        exact decodes_readIf_some (Decodes.bind (decodes_le 4 size hs)
          (Decodes.bind_last (decodes_le 4 crc hcrc) (Decodes.pure _)))
    refine DecodesEnd.bind hopt ?_ rfl
    exact DecodesEnd.bind_pure (decodesEnd_remainingBytes chunk) (fun _ => rfl)
  exact h.run

/-- a GoldSrc split fragment: number in the upper, count in the lower four bits of one byte -/
theorem run_splitPacketNew_gold (force : Bool) (protocol id total number : Nat) (chunk : Bytes)
    (hid : id < 2 ^ 32) (ht : total < 16) (hn : number < 16) :
    (splitPacketNew (.goldSrc force) protocol).run (goldFragment id total number chunk)
      = .ok ⟨0xFFFFFFFE, id, total, number, 0, none, chunk⟩ := by
  have hlu : lowerUpper (number * 16 + total) = (total, number) := by
    unfold lowerUpper
    congr 1 <;> omega
  have h : DecodesEnd (splitPacketNew (.goldSrc force) protocol) (goldFragment id total number chunk)
      ⟨0xFFFFFFFE, id, total, number, 0, none, chunk⟩ := by
    unfold splitPacketNew goldFragment
    simp only [List.append_assoc, u8]
    refine DecodesEnd.bind decodes_splitHeader ?_ rfl
    refine DecodesEnd.bind (decodes_le 4 id (by omega)) ?_ rfl
    refine DecodesEnd.bind (decodes_u8 (number * 16 + total) (by omega)) ?_ rfl
    simp only [hlu]
    exact DecodesEnd.bind_pure (decodesEnd_remainingBytes chunk) (fun _ => rfl)
  exact h.run

/-- `get_payload` of a compressed reply, when the decoder inverts the server's compressor and the checksum agrees -/
theorem getPayload_bz (ext : Ext) (z packet : Bytes) (crc : Nat) (h1 : ext.bunzip z = some packet)
    (h2 : ext.crc32 packet = crc) (h3 : packet.length ≤ maxDecompressedSize) :
    getPayload ext (some (packet.length, crc)) z = .ok packet := by
  have ht : packet.take (min packet.length maxDecompressedSize + 1) = packet :=
    List.take_of_length_le (by rw [Nat.min_eq_left h3]; omega)
  simp only [getPayload, h1, ht, h2, bne_self_eq_false, Bool.or_self, Bool.false_eq_true, ↓reduceIte]

theorem run_readU8_split (rest : Bytes) : readU8.run (splitHeader ++ rest) = .ok 0xFE := by
  have := (decodes_readU8 0xFE).run_append ([0xFF, 0xFF, 0xFF] ++ rest)
  simpa [splitHeader] using this

/-- How the client reads the fragments of a reply cut into `n` chunks: `frag i ch` is the wire form of fragment `i`
carrying the chunk `ch`; its first byte is `FE`, and `SplitPacket::new` reads it as fragment `i` of `n` of the
response `id`, with payload `ch` (`size`, `dec i`: what the layout has in the size and compression fields). -/
structure Fragments (engine : Engine) (protocol n : Nat) (frag : Nat → Bytes → Bytes) (id size : Nat)
    (dec : Nat → Option (Nat × Nat)) : Prop where
  first : ∀ i ch, readU8.run (frag i ch) = .ok 0xFE
  parse : ∀ i ch, i < n →
    (splitPacketNew engine protocol).run (frag i ch) = .ok ⟨0xFFFFFFFE, id, n, i, size, dec i, ch⟩

theorem run_readU8_sourceFragment (b : Bool) (id n i : Nat) (ch : Bytes) :
    readU8.run (sourceFragment b id n i ch) = .ok 0xFE := by
  unfold sourceFragment
  simp only [List.append_assoc]
  exact run_readU8_split _

theorem bit31_clear {id : Nat} (h : id < 2 ^ 31) : ((id >>> 31) &&& 1 == 1) = false := by
  have : id >>> 31 = 0 := by rw [Nat.shiftRight_eq_div_pow]; exact Nat.div_eq_of_lt h
  simp [this]

theorem bit31_set {id : Nat} (h : 2 ^ 31 ≤ id) (h2 : id < 2 ^ 32) : ((id >>> 31) &&& 1 == 1) = true := by
  have : id >>> 31 = 1 := by rw [Nat.shiftRight_eq_div_pow]; omega
  simp [this]

theorem fragments_source (ids : Option (Nat × Option Nat)) (protocol id n : Nat) (hid : id < 2 ^ 31) (hn : n < 256) :
    Fragments (.source ids) protocol n (sourceFragment (withSize (.source ids) protocol) id n) id 1248
      (fun _ => none) where
  first i ch := run_readU8_sourceFragment _ id n i ch
  parse i ch hi := run_splitPacketNew_source ids protocol id n i 0 0 ch false (bit31_clear hid) (by omega) hn
    (by omega) (by decide) (by decide)

theorem fragments_gold (force : Bool) (protocol id n : Nat) (hid : id < 2 ^ 32) (hn : n < 16) :
    Fragments (.goldSrc force) protocol n (goldFragment id n) id 0 (fun _ => none) where
  first i ch := by
    unfold goldFragment
    simp only [List.append_assoc]
    exact run_readU8_split _
  parse i ch hi := run_splitPacketNew_gold force protocol id n i ch hid hn (by omega)

theorem fragments_bz (ids : Option (Nat × Option Nat)) (protocol id n size crc : Nat) (hid : 2 ^ 31 ≤ id)
    (hid2 : id < 2 ^ 32) (hn : n < 256) (hs : size < 2 ^ 32) (hcrc : crc < 2 ^ 32) :
    Fragments (.source ids) protocol n
      (fun i ch => sourceFragment (withSize (.source ids) protocol) id n i
        ((if i == 0 then le 4 size ++ le 4 crc else []) ++ ch))
      id 1248 (fun i => if i == 0 then some (size, crc) else none) where
  first i ch := run_readU8_sourceFragment _ id n i _
  parse i ch hi := run_splitPacketNew_source ids protocol id n i size crc ch true (bit31_set hid hid2) hid2 hn
    (by omega) hs hcrc

theorem chunks_flatten (sizes : List Nat) (bs : Bytes) : (chunks sizes bs).flatten = bs := by
  induction sizes generalizing bs with
  | nil => simp [chunks]
  | cons n r ih => simp [chunks, ih]

theorem chunks_length (sizes : List Nat) (bs : Bytes) : (chunks sizes bs).length = sizes.length + 1 := by
  induction sizes generalizing bs with
  | nil => simp [chunks]
  | cons n r ih => simp [chunks, ih]

theorem enumFrom_bounds {α : Type} (l : List α) (i : Nat) : ∀ e ∈ Spec.enumFrom i l, i ≤ e.1 ∧ e.1 < i + l.length := by
  induction l generalizing i with
  | nil => intro e he; cases he
  | cons x r ih =>
    intro e he
    simp only [Spec.enumFrom, List.mem_cons] at he
    rcases he with rfl | he
    · simp
    · have := ih (i + 1) e he
      simp only [List.length_cons]
      omega

theorem enumFrom_length {α : Type} (l : List α) (i : Nat) : (Spec.enumFrom i l).length = l.length := by
  induction l generalizing i with
  | nil => rfl
  | cons x r ih => simp [Spec.enumFrom, ih]

theorem steps_recvChunks (s : Sock) (hudp : s.tcp = false) (engine : Engine) (protocol : Nat)
    (frag : Nat × Bytes → Bytes) (mk : Nat × Bytes → SplitPacket) (q : List Delivery) (fs : List Bool)
    (sn : List (Bytes × Bool)) :
    ∀ (E : List (Nat × Bytes)), (∀ e ∈ E, (frag e).length ≤ PACKET_SIZE) →
      (∀ e ∈ E, (splitPacketNew engine protocol).run (frag e) = .ok (mk e)) →
      Steps s (recvChunks s engine protocol E.length) (.ok (E.map mk)) ⟨(E.map fun e => .data (frag e)) ++ q, fs, sn⟩
        ⟨q, fs, sn⟩ := by
  intro E
  induction E with
  | nil => intro _ _; exact Steps.pure s _ _
  | cons e r ih =>
    intro hfit hparse
    simp only [List.length_cons, recvChunks, List.map_cons, List.cons_append]
    refine Steps.bind (steps_recv s hudp PACKET_SIZE _ (hfit e (by simp)) _ fs sn) ?_
    refine Steps.bind ((Steps.parse s _ _ _).congrRes (hparse e (by simp)).symm) ?_
    refine Steps.bind (ih (fun x hx => hfit x (by simp [hx])) (fun x hx => hparse x (by simp [hx]))) ?_
    exact Steps.pure s _ _

/-- `receive` on the fragments of one split reply, arriving in any order: the reassembled payload, read as a packet -/
theorem steps_receive_fragments (ext : Ext) (s : Sock) (hudp : s.tcp = false) (engine : Engine) (protocol : Nat)
    (frag : Nat → Bytes → Bytes) (id size : Nat) (dec : Nat → Option (Nat × Nat)) (c : Bytes) (cs : List Bytes)
    (F : Fragments engine protocol (c :: cs).length frag id size dec)
    (arrival : List Bytes) (harr : arrival.Perm ((Spec.enumFrom 0 (c :: cs)).map fun p => frag p.1 p.2))
    (hfit : ∀ d ∈ arrival, d.length ≤ PACKET_SIZE)
    (payload : Bytes) (hpay : getPayload ext (dec 0) (c :: cs).flatten = .ok payload)
    (pkt : Packet) (hpkt : packetFromBuffer.run payload = .ok pkt) (q : List Delivery) (fs : List Bool)
    (sn : List (Bytes × Bool)) :
    Steps s (receive ext s engine protocol) (.ok pkt) ⟨(arrival.map .data) ++ q, fs, sn⟩ ⟨q, fs, sn⟩ := by
  let mk : Nat → Bytes → SplitPacket := fun i ch => ⟨0xFFFFFFFE, id, (c :: cs).length, i, size, dec i, ch⟩
  obtain ⟨E', hperm, rfl⟩ := perm_map_inv (fun p : Nat × Bytes => frag p.1 p.2) harr
  have hb : ∀ e ∈ E', e.1 < (c :: cs).length := by
    intro e he
    have := (enumFrom_bounds (c :: cs) 0 e (hperm.mem_iff.mp he)).2
    omega
  have hlen : E'.length = (c :: cs).length := by rw [hperm.length_eq, enumFrom_length]
  cases E' with
  | nil => simp at hlen
  | cons e0 E1 =>
    simp only [List.map_cons, List.cons_append, List.map_map]
    rw [receive_eq]
    refine Steps.bind (steps_recv s hudp PACKET_SIZE _ (hfit _ (by simp)) _ fs sn) ?_
    unfold afterFirst
    refine Steps.bind ((Steps.parse s _ _ _).congrRes (F.first e0.1 e0.2).symm) ?_
    simp only [beq_self_eq_true, ↓reduceIte]
    refine Steps.bind ((Steps.parse s _ _ _).congrRes (F.parse e0.1 e0.2 (hb e0 (by simp))).symm) ?_
    have htot : (c :: cs).length - 1 = E1.length := by
      simp only [List.length_cons] at hlen ⊢; omega
    rw [htot]
    have hrest := steps_recvChunks s hudp engine protocol (fun p => frag p.1 p.2) (fun p => mk p.1 p.2) q fs sn E1
      (fun e he => hfit _ (by simp only [List.map_cons, List.mem_cons, List.mem_map]; exact Or.inr ⟨e, he, rfl⟩))
      (fun e he => F.parse e.1 e.2 (hb e (by simp [he])))
    refine Steps.bind (hrest.congr rfl) ?_
    have hasm := assemble_enum ext mk 0xFFFFFFFE id (c :: cs).length (fun _ _ => rfl) (fun _ _ => rfl)
      (fun _ _ => rfl) (fun _ _ => rfl) (fun _ _ => rfl) c cs ((e0 :: E1).map fun p => mk p.1 p.2) (hperm.map _)
    simp only [List.map_cons] at hasm
    rw [hasm, hpay]
    refine Steps.bind (Steps.lift s _ _) ?_
    exact (Steps.parse s _ _ _).congrRes hpkt.symm

theorem run_packetFromBuffer_reply (kind : Nat) (hkind : kind < 256) (body : Bytes) :
    packetFromBuffer.run (reply kind body) = .ok ⟨0xFFFFFFFF, kind, body⟩ := by
  have h := run_packetFromBuffer (UInt8.ofNat kind) body
  rw [show (UInt8.ofNat kind).toNat = kind by simp [UInt8.toNat_ofNat', Nat.mod_eq_of_lt hkind]] at h
  exact h

theorem pairFun_eq {β : Type} (F : Nat → Bytes → β) :
    (fun x : Nat × Bytes => match x with | (i, c) => F i c) = fun p => F p.1 p.2 := by
  funext ⟨i, c⟩; rfl

theorem chunks_cons (sizes : List Nat) (bs : Bytes) : ∃ c cs, chunks sizes bs = c :: cs := by
  cases sizes with
  | nil => exact ⟨bs, [], rfl⟩
  | cons n r => exact ⟨_, _, rfl⟩

/-- what the client's external decoders must do with a compressed reply (nothing for the other transports) -/
def BzOk (ext : Ext) (packet : Bytes) : Transport → Prop
  | .sourceSplitBz _ _ z crc => ext.bunzip z = some packet ∧ ext.crc32 packet = crc ∧ packet.length ≤ maxDecompressedSize
  | _ => True

theorem bzOk_of_uncompressed (ext : Ext) (packet : Bytes) (t : Transport) (h : t.compressed = false) :
    BzOk ext packet t := by
  cases t <;> first | trivial | simp [Transport.compressed] at h

/-- the law under which compressed replies are read: the client's decoder inverts the server's compressor, and both
sides compute the same checksum (`BzOk` is the client's side of the SPEC's `Transport.carries`) -/
theorem bzOk_of_law (ext : Ext) (compress : Bytes → Bytes) (hlaw : ∀ p, ext.bunzip (compress p) = some p)
    (packet : Bytes) (t : Transport) (h : t.carries compress ext.crc32 packet) : BzOk ext packet t := by
  cases t with
  | sourceSplitBz id sizes z crc =>
    obtain ⟨hz, hc, hl⟩ := h
    exact ⟨by rw [hz]; exact hlaw packet, hc.symm, hl⟩
  | _ => trivial

/-- what is asked of the client's external decoders (bzip2, CRC-32): they read the compressed replies of the exchange;
nothing when no reply is compressed -/
def DecodersAgree (ext : Ext) (cfg : Config) (st : State) : Prop :=
  BzOk ext (infoPacket cfg st) cfg.info.transport ∧
  BzOk ext (reply 0x44 (encPlayers st.players)) cfg.players.transport ∧
  BzOk ext (reply 0x45 (encRules st.rules)) cfg.rules.transport

theorem decodersAgree_of_uncompressed (ext : Ext) (cfg : Config) (st : State) (hu : uncompressed cfg = true) :
    DecodersAgree ext cfg st := by
  simp only [uncompressed, Bool.and_eq_true, Bool.not_eq_true'] at hu
  exact ⟨bzOk_of_uncompressed _ _ _ hu.1.1, bzOk_of_uncompressed _ _ _ hu.1.2, bzOk_of_uncompressed _ _ _ hu.2⟩

theorem decodersAgree_of_law (ext : Ext) (compress : Bytes → Bytes) (hlaw : ∀ p, ext.bunzip (compress p) = some p)
    (cfg : Config) (st : State) (hcar : carries compress ext.crc32 cfg st) : DecodersAgree ext cfg st :=
  ⟨bzOk_of_law ext compress hlaw _ _ hcar.1, bzOk_of_law ext compress hlaw _ _ hcar.2.1,
    bzOk_of_law ext compress hlaw _ _ hcar.2.2⟩

/-- The datagrams of a reply over a split transport the engine reads: the fragments, numbered from 0, of the chunks
`c :: cs` of the reply — or of its compressed form, which the decoders turn back into the reply. -/
theorem datagrams_split (ext : Ext) (engine : Engine) (protocol : Nat) (t : Transport)
    (ht : wfTransport engine t = true) (hs : t ≠ .single) (packet : Bytes) (hbz : BzOk ext packet t) :
    ∃ frag id size dec c cs,
      datagrams (withSize engine protocol) t packet = (Spec.enumFrom 0 (c :: cs)).map (fun p => frag p.1 p.2)
      ∧ Fragments engine protocol (c :: cs).length frag id size dec
      ∧ getPayload ext (dec 0) (c :: cs).flatten = .ok packet := by
  cases t with
  | single => exact absurd rfl hs
  | sourceSplit id sizes =>
    cases engine with
    | goldSrc f => simp [wfTransport] at ht
    | source ids =>
      simp only [wfTransport, Bool.true_and, Bool.and_eq_true, decide_eq_true_eq] at ht
      obtain ⟨c, cs, hcs⟩ := chunks_cons sizes packet
      have hlen : (c :: cs).length = sizes.length + 1 := by rw [← hcs, chunks_length]
      refine ⟨_, id, _, _, c, cs, ?_, fragments_source ids protocol id _ ht.1 (by omega), ?_⟩
      · rw [← hcs]; rfl
      · simp only [getPayload, ← hcs, chunks_flatten]
  | goldSplit id sizes =>
    cases engine with
    | source ids => simp [wfTransport] at ht
    | goldSrc f =>
      simp only [wfTransport, Bool.true_and, Bool.and_eq_true, decide_eq_true_eq] at ht
      obtain ⟨c, cs, hcs⟩ := chunks_cons sizes packet
      have hlen : (c :: cs).length = sizes.length + 1 := by rw [← hcs, chunks_length]
      refine ⟨_, id, _, _, c, cs, ?_, fragments_gold f protocol id _ ht.1 (by omega), ?_⟩
      · rw [← hcs]; rfl
      · simp only [getPayload, ← hcs, chunks_flatten]
  | sourceSplitBz id sizes z crc =>
    cases engine with
    | goldSrc f => simp [wfTransport] at ht
    | source ids =>
      simp only [wfTransport, Bool.true_and, Bool.and_eq_true, decide_eq_true_eq] at ht
      obtain ⟨⟨⟨hid1, hid2⟩, hsz⟩, hcrc⟩ := ht
      obtain ⟨hb1, hb2, hb3⟩ := hbz
      obtain ⟨c, cs, hcs⟩ := chunks_cons sizes z
      have hlen : (c :: cs).length = sizes.length + 1 := by rw [← hcs, chunks_length]
      have hmax : maxDecompressedSize < 2 ^ 32 := by decide
      refine ⟨_, id, _, _, c, cs, ?_,
        fragments_bz ids protocol id _ packet.length crc hid1 hid2 (by omega) (by omega) hcrc, ?_⟩
      · rw [← hcs]; rfl
      · rw [← hcs, chunks_flatten]
        exact getPayload_bz ext z _ crc hb1 hb2 hb3

theorem arrival_ne_nil {b : Bool} {t : Transport} {packet : Bytes} {arrival : List Bytes}
    (harr : arrival.Perm (datagrams b t packet)) : arrival.map Delivery.data ≠ [] := by
  intro h
  have h0 : (datagrams b t packet).length = 0 := by
    rw [← harr.length_eq]
    simpa using congrArg List.length h
  cases t with
  | single => simp [datagrams] at h0
  | sourceSplit id sizes =>
    obtain ⟨c, cs, hcs⟩ := chunks_cons sizes packet
    simp [datagrams, hcs, enumFrom_length] at h0
  | goldSplit id sizes =>
    obtain ⟨c, cs, hcs⟩ := chunks_cons sizes packet
    simp [datagrams, hcs, enumFrom_length] at h0
  | sourceSplitBz id sizes z crc =>
    obtain ⟨c, cs, hcs⟩ := chunks_cons sizes z
    simp [datagrams, hcs, enumFrom_length] at h0

/-- one datagram, Source split (plain or bzip2-compressed) or GoldSrc split (any cut points, fragments in any arrival
order): `receive` returns the reply -/
theorem steps_receive_final (ext : Ext) (s : Sock) (hudp : s.tcp = false) (engine : Engine) (protocol : Nat)
    (kind : Nat) (hkind : kind < 256) (body : Bytes) (t : Transport) (ht : wfTransport engine t = true)
    (hbz : BzOk ext (reply kind body) t)
    (arrival : List Bytes) (harr : arrival.Perm (datagrams (withSize engine protocol) t (reply kind body)))
    (hfit : ∀ d ∈ arrival, d.length ≤ PACKET_SIZE) (q : List Delivery) (fs : List Bool) (sn : List (Bytes × Bool)) :
    Steps s (receive ext s engine protocol) (.ok ⟨0xFFFFFFFF, kind, body⟩) ⟨arrival.map .data ++ q, fs, sn⟩
      ⟨q, fs, sn⟩ := by
  by_cases hs : t = .single
  · subst hs
    have : arrival = [reply kind body] := List.perm_singleton.mp harr
    subst this
    exact steps_receive_single ext s hudp engine protocol kind hkind body (hfit _ (by simp)) q fs sn
  · obtain ⟨frag, id, size, dec, c, cs, hd, F, hpay⟩ := datagrams_split ext engine protocol t ht hs (reply kind body) hbz
    rw [hd] at harr
    exact steps_receive_fragments ext s hudp engine protocol frag id size dec c cs F arrival harr hfit _ hpay _
      (run_packetFromBuffer_reply kind hkind body) q fs sn

/-- the request of kind `kind` carrying the challenge `c` -/
def answer (kind : Nat) (c : Bytes) : Bytes := packetBytes kind (if kind == 0x54 then infoPayload ++ c else c)

theorem challengeLoop_answer (ext : Ext) (s : Sock) (engine : Engine) (protocol kind fuel hdr : Nat) (c : Bytes) :
    challengeLoop ext s engine protocol kind (fuel + 1) ⟨hdr, 0x41, c⟩
      = (send s (answer kind c) >>= fun _ =>
          receive ext s engine protocol >>= fun p => challengeLoop ext s engine protocol kind fuel p) := rfl

theorem challengeLoop_done (ext : Ext) (s : Sock) (engine : Engine) (protocol kind fuel : Nat) (p : Packet)
    (h : p.kind ≠ 0x41) : challengeLoop ext s engine protocol kind (fuel + 1) p = pure p.payload := by
  unfold challengeLoop
  simp [h]

def challengeDeliveries (cs : List Bytes) : List Delivery := cs.map fun c => .data (challengeReply c)

/-- kind byte of the `A2S_INFO` reply the SPEC prescribes for this engine -/
def infoKind (e : Engine) : Nat :=
  match e with
  | .goldSrc true => 0x6D
  | _ => 0x49

/-- body of that reply: obsolete GoldSrc or Source layout -/
def infoBody (cfg : Config) (st : State) : Bytes :=
  match cfg.engine with
  | .goldSrc true => encGoldSrcInfo cfg.address st.info
  | _ => encSourceInfo cfg.upper st.info

theorem infoPacket_eq (cfg : Config) (st : State) : infoPacket cfg st = reply (infoKind cfg.engine) (infoBody cfg st) := by
  obtain ⟨engine, g, u, a, xi, xp, xr⟩ := cfg
  cases engine with
  | source ids => rfl
  | goldSrc f => cases f <;> rfl

theorem infoKind_ok (e : Engine) : infoKind e < 256 ∧ infoKind e ≠ 0x41 := by
  cases e with
  | source ids => exact ⟨show 0x49 < 256 by decide, show 0x49 ≠ 0x41 by decide⟩
  | goldSrc f => cases f <;> exact ⟨by decide, by decide⟩

theorem wf_parts (cfg : Config) (st : State) (h : wf cfg st = true) :
    (match cfg.engine with
      | .goldSrc true => wfGoldSrcInfo cfg.address st.info
      | e => wfSourceInfo e st.info) = true
    ∧ st.players.length < 256 ∧ (∀ p ∈ st.players, wfPlayer (cfg.engine == Engine.new 2400) p = true)
    ∧ st.rules.length < 65536 ∧ (∀ r ∈ st.rules, okStr r.1 = true ∧ okStr r.2 = true) ∧ distinctKeys st.rules = true := by
  simp only [wf, Bool.and_eq_true, decide_eq_true_eq, List.all_eq_true] at h
  obtain ⟨⟨⟨⟨⟨h1, h2⟩, h3⟩, h4⟩, h5⟩, h6⟩ := h
  exact ⟨h1, h2, h3, h4, h5, h6⟩

/-- C02's info theorems, for the layout the engine selects -/
theorem run_parseInfo (cfg : Config) (st : State) (hwf : wf cfg st = true) :
    (parseInfo cfg.engine).run (infoBody cfg st) = .ok st.info := by
  have h := (wf_parts cfg st hwf).1
  obtain ⟨engine, g, u, a, xi, xp, xr⟩ := cfg
  cases engine with
  | source ids => exact (decodesEnd_sourceInfo (.source ids) u st.info h).run
  | goldSrc f =>
    cases f with
    | true => exact (decodes_goldSrcInfo a st.info h).run
    | false => exact (decodesEnd_sourceInfo (.goldSrc false) u st.info h).run

/-- what a section contributes to the script under a gathering toggle -/
def sectionAs (t : Toggle) (x : Exchange) (arrival : List Bytes) : List Bytes :=
  if t == .skip then [] else exchangeAs x arrival

theorem fits_sections (cfg : Config) (ai ap ar : List Bytes) (hfit : fits (scriptAs cfg ai ap ar) = true) :
    (∀ d ∈ exchangeAs cfg.info ai, d.length ≤ PACKET_SIZE)
    ∧ (∀ d ∈ sectionAs cfg.gather.players cfg.players ap, d.length ≤ PACKET_SIZE)
    ∧ (∀ d ∈ sectionAs cfg.gather.rules cfg.rules ar, d.length ≤ PACKET_SIZE) := by
  have hfit' : ∀ d ∈ scriptAs cfg ai ap ar, d.length ≤ PACKET_SIZE := by
    simpa [fits, List.all_eq_true] using hfit
  refine ⟨fun d hd => hfit' d ?_, fun d hd => hfit' d ?_, fun d hd => hfit' d ?_⟩ <;>
    simp only [scriptAs, List.mem_append]
  · exact Or.inl (Or.inl hd)
  · exact Or.inl (Or.inr hd)
  · exact Or.inr hd

end Gd.Valve
