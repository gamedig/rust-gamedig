import GdVerif.Lemmas.Decodes
import GdVerif.Spec.Unreal2
/-
  The Unreal 2 string codec: the model's decoder (a stateful colour filter, control filter, NUL trim, over
  windows-1252 / UTF-16LE) against the SPEC's encoder and `strip`.
-/
namespace Gd.Unreal2
open Gd Gd.Unreal2.Spec

theorem colourFilter_drop (k : Nat) (l : List Nat) : colourFilter k l = colourFilter 0 (l.drop k) := by
  induction l generalizing k with
  | nil => cases k <;> simp [colourFilter]
  | cons c r ih =>
    cases k with
    | zero => simp
    | succ k =>
      have : colourFilter (k + 1) (c :: r) = colourFilter k r := by simp [colourFilter]
      rw [this, ih k]
      simp

theorem stripColour_cons_esc (r : List Nat) : stripColour (0x1b :: r) = stripColour (r.drop 3) := by
  match r with
  | [] | [_] | [_, _] | _ :: _ :: _ :: _ => rfl

theorem stripColour_cons_ne (c : Nat) (r : List Nat) (h : c ≠ 0x1b) : stripColour (c :: r) = c :: stripColour r := by
  rw [stripColour.eq_def]
  exact if_neg h

/-- induction along the colour strip: an escape takes the three characters after it with it -/
theorem stripColour_induction {P : List Nat → Prop} (nil : P []) (esc : ∀ r, P (r.drop 3) → P (0x1b :: r))
    (other : ∀ c r, c ≠ 0x1b → P r → P (c :: r)) (l : List Nat) : P l := by
  suffices h : ∀ n (l : List Nat), l.length ≤ n → P l from h l.length l (Nat.le_refl _)
  intro n
  induction n with
  | zero =>
    intro l hl
    rw [List.length_eq_zero_iff.mp (Nat.le_zero.mp hl)]
    exact nil
  | succ n ih =>
    intro l hl
    cases l with
    | nil => exact nil
    | cons c r =>
      have hr : r.length ≤ n := Nat.le_of_succ_le_succ hl
      by_cases hc : c = 0x1b
      · rw [hc]
        exact esc r (ih _ (Nat.le_trans (by rw [List.length_drop]; exact Nat.sub_le _ _) hr))
      · exact other c r hc (ih r hr)

/-- the stateful filter of the code computes the declarative strip -/
theorem colourFilter_eq_stripColour (l : List Nat) : colourFilter 0 l = stripColour l := by
  induction l using stripColour_induction with
  | nil => rfl
  | esc r ih =>
    have h1 : colourFilter 0 (0x1b :: r) = colourFilter 3 r := rfl
    rw [h1, colourFilter_drop, stripColour_cons_esc, ih]
  | other c r hc ih =>
    have h1 : colourFilter 0 (c :: r) = c :: colourFilter 0 r := by
      have : (c == 0x1b) = false := by simpa using hc
      simp [colourFilter, this]
    rw [h1, stripColour_cons_ne c r hc, ih]

theorem isCtl_eq_isControl (c : Nat) : isCtl c = isControl c := rfl

theorem mem_stripColour {c : Nat} (l : List Nat) : c ∈ stripColour l → c ∈ l := by
  induction l using stripColour_induction with
  | nil => exact id
  | esc r ih =>
    intro h
    rw [stripColour_cons_esc] at h
    exact List.mem_cons_of_mem _ (List.mem_of_mem_drop (ih h))
  | other d r hd ih =>
    intro h
    rw [stripColour_cons_ne d r hd] at h
    rcases List.mem_cons.mp h with rfl | h
    · exact List.mem_cons_self ..
    · exact List.mem_cons_of_mem _ (ih h)

theorem stripColour_append_nul (l : List Nat) :
    stripColour (l ++ [0]) = stripColour l ++ [0] ∨ stripColour (l ++ [0]) = stripColour l := by
  induction l using stripColour_induction with
  | nil => exact .inl rfl
  | esc r ih =>
    rw [List.cons_append, stripColour_cons_esc, stripColour_cons_esc]
    by_cases hr : 3 ≤ r.length
    · rw [List.drop_append_of_le_length hr]
      exact ih
    · -- the escape is cut short by the end of the text: it swallows the NUL
      have hr' : r.length < 3 := Nat.lt_of_not_le hr
      right
      rw [List.drop_eq_nil_of_le (by rw [List.length_append]; exact hr'), List.drop_eq_nil_of_le (Nat.le_of_lt hr')]
  | other d r hd ih =>
    rw [List.cons_append, stripColour_cons_ne d _ hd, stripColour_cons_ne d _ hd]
    rcases ih with h | h
    · left; rw [h]; rfl
    · right; rw [h]

theorem dropWhile_nul_of_noNul (l : List Nat) (h : ∀ c ∈ l, c ≠ 0) : l.dropWhile (· == 0) = l := by
  cases l with
  | nil => rfl
  | cons c r => exact List.dropWhile_cons_of_neg (by simpa using h c (List.mem_cons_self ..))

theorem trimNul_of_noNul (l : List Nat) (h : ∀ c ∈ l, c ≠ 0) : trimNul l = l := by
  have hr : ∀ c ∈ l.reverse, c ≠ 0 := fun c hc => h c (List.mem_reverse.mp hc)
  rw [trimNul, dropWhile_nul_of_noNul l h, dropWhile_nul_of_noNul _ hr, List.reverse_reverse]

theorem trimNul_append_nul (l : List Nat) (h : ∀ c ∈ l, c ≠ 0) : trimNul (l ++ [0]) = l := by
  have hr : ∀ c ∈ l.reverse, c ≠ 0 := fun c hc => h c (List.mem_reverse.mp hc)
  have h1 : (l ++ [0]).reverse.dropWhile (· == 0) = l.reverse := by
    rw [List.reverse_append]
    exact (List.dropWhile_cons_of_pos rfl).trans (dropWhile_nul_of_noNul _ hr)
  cases l with
  | nil => rfl
  | cons c r =>
    have h2 : (c :: r ++ [0]).dropWhile (· == 0) = c :: r ++ [0] :=
      List.dropWhile_cons_of_neg (by simpa using h c (List.mem_cons_self ..))
    rw [trimNul, h2, h1, List.reverse_reverse]

/-- everything the code does after decoding, on NUL-free characters with or without the terminating
NUL: exactly the SPEC's `strip` -/
theorem cleanText_eq (cs : List Nat) (h : ∀ c ∈ cs, c ≠ 0) (nul : Bool) :
    cleanText (cs ++ (if nul then [0] else [])) = utf8Encode (strip cs) := by
  unfold cleanText strip
  congr 1
  have hfilter : (fun c => !isCtl c) = (fun c => !isControl c) := by
    funext c; rw [isCtl_eq_isControl]
  rw [colourFilter_eq_stripColour, hfilter]
  have hno : ∀ c ∈ (stripColour cs).filter (fun c => !isControl c), c ≠ 0 := by
    intro c hc
    exact h c (mem_stripColour _ (List.mem_filter.mp hc).1)
  cases nul with
  | false =>
    simp only [Bool.false_eq_true, ↓reduceIte, List.append_nil]
    exact trimNul_of_noNul _ hno
  | true =>
    simp only [↓reduceIte]
    rcases stripColour_append_nul cs with hs | hs
    · rw [hs, List.filter_append]
      have : [0].filter (fun c => !isControl c) = [0] := by decide
      rw [this]
      exact trimNul_append_nul _ hno
    · rw [hs]
      exact trimNul_of_noNul _ hno

end Gd.Unreal2
