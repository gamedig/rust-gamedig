import GdVerif.Lemmas.GsMap
import GdVerif.Lemmas.GsText
import GdVerif.Lemmas.Decodes
import GdVerif.Spec.Gs2
/-
  GameSpy 2: the parsers of the model against the SPEC encoders — tables.
-/
namespace Gd.Gs2
open Gd Gd.Gs Gd.Gs2.Spec

def OkStr (s : Bytes) : Prop := (0 : UInt8) ∉ s ∧ validUtf8 s = true

theorem okStr_iff (s : Bytes) : okStr s = true ↔ OkStr s := by
  simp [okStr, OkStr]

theorem decodes_cell (s : Bytes) (h : OkStr s) : Decodes readCStr (cstr s) s := decodes_readCStr s h.1 h.2

/-- `table.get_mut(column).unwrap().push(value)` -/
def pushCell (t : Table) (h c : Bytes) : Table := mapInsert t h ((mapGet t h).getD [] ++ [c])

def pushRow (t : Table) : List Bytes → List Bytes → Table
  | h :: hs, c :: cs => pushRow (pushCell t h c) hs cs
  | _, _ => t

theorem tablePush_eq (t : Table) (h c : Bytes) (hk : (mapGet t h).isSome = true) : tablePush t h c = .ok (pushCell t h c) := by
  unfold tablePush pushCell
  cases hm : mapGet t h with
  | none => rw [hm] at hk; cases hk
  | some col => rfl

theorem mapGet_pushCell (t : Table) (h c k : Bytes) :
    mapGet (pushCell t h c) k = if h = k then some ((mapGet t h).getD [] ++ [c]) else mapGet t k := by
  unfold pushCell
  exact mapGet_mapInsert' t h _ k

theorem isSome_pushCell (t : Table) (h c k : Bytes) (hk : (mapGet t k).isSome = true) :
    (mapGet (pushCell t h c) k).isSome = true := by
  rw [mapGet_pushCell]
  split <;> simp [hk]

theorem decodes_readRow : ∀ (hs cells : List Bytes) (t : Table), cells.length = hs.length → (∀ c ∈ cells, OkStr c) →
    (∀ h ∈ hs, (mapGet t h).isSome = true) → Decodes (readRow hs t) ((cells.map cstr).flatten) (pushRow t hs cells) := by
  intro hs
  induction hs with
  | nil =>
    intro cells t hl _ _
    have : cells = [] := List.length_eq_zero_iff.mp hl
    subst this
    exact Decodes.pure _
  | cons h hs ih =>
    intro cells t hl hok hkeys
    cases cells with
    | nil => simp at hl
    | cons c cs =>
      simp only [readRow, List.map_cons, List.flatten_cons, pushRow]
      refine Decodes.bind (decodes_cell c (hok c (by simp))) ?_
      rw [tablePush_eq t h c (hkeys h (by simp))]
      refine Decodes.bind' (e1 := []) (e2 := (cs.map cstr).flatten) (Decodes.lift_ok _) ?_ (by simp)
      exact ih cs _ (by simpa using hl) (fun x hx => hok x (by simp [hx]))
        (fun k hk => isSome_pushCell t h c k (hkeys k (by simp [hk])))

theorem isSome_pushRow : ∀ (hs cells : List Bytes) (t : Table) (k : Bytes), (mapGet t k).isSome = true →
    (mapGet (pushRow t hs cells) k).isSome = true := by
  intro hs
  induction hs with
  | nil => intro cells t k h; cases cells <;> exact h
  | cons h hs ih =>
    intro cells t k hk
    cases cells with
    | nil => exact hk
    | cons c cs => exact ih cs _ k (isSome_pushCell t h c k hk)

def pushRows (t : Table) (hs : List Bytes) (rows : List (List Bytes)) : Table := rows.foldl (fun t r => pushRow t hs r) t

def encRow (r : List Bytes) : Bytes := (r.map cstr).flatten

theorem decodes_readRows (hs : List Bytes) : ∀ (rows : List (List Bytes)) (t : Table),
    (∀ r ∈ rows, r.length = hs.length ∧ ∀ c ∈ r, OkStr c) → (∀ h ∈ hs, (mapGet t h).isSome = true) →
    Decodes (readRows hs rows.length t) ((rows.map encRow).flatten) (pushRows t hs rows) := by
  intro rows
  induction rows with
  | nil => intro t _ _; exact Decodes.pure _
  | cons r rs ih =>
    intro t hr hkeys
    simp only [List.length_cons, readRows, List.map_cons, List.flatten_cons, pushRows, List.foldl_cons]
    refine Decodes.bind (decodes_readRow hs r t (hr r (by simp)).1 (hr r (by simp)).2 hkeys) ?_
    exact ih _ (fun x hx => hr x (by simp [hx])) (fun k hk => isSome_pushRow hs r t k (hkeys k hk))

theorem mapGet_pushRow_other : ∀ (hs cells : List Bytes) (t : Table) (k : Bytes), k ∉ hs →
    mapGet (pushRow t hs cells) k = mapGet t k := by
  intro hs
  induction hs with
  | nil => intro cells t k _; cases cells <;> rfl
  | cons h hs ih =>
    intro cells t k hk
    cases cells with
    | nil => rfl
    | cons c cs =>
      simp only [List.mem_cons, not_or] at hk
      simp only [pushRow]
      rw [ih cs _ k hk.2, mapGet_pushCell]
      have : ¬ h = k := fun e => hk.1 e.symm
      simp [this]

theorem mapGet_pushRow : ∀ (hs cells : List Bytes) (t : Table) (j : Nat) (hj : j < hs.length), hs.Nodup →
    cells.length = hs.length →
    mapGet (pushRow t hs cells) hs[j] = some ((mapGet t hs[j]).getD [] ++ [cells[j]?.getD []]) := by
  intro hs
  induction hs with
  | nil => intro _ _ j hj; cases hj
  | cons h hs ih =>
    intro cells t j hj hnd hl
    cases cells with
    | nil => simp at hl
    | cons c cs =>
      have hnd' := List.nodup_cons.mp hnd
      simp only [pushRow]
      cases j with
      | zero =>
        rw [List.getElem_cons_zero, mapGet_pushRow_other hs cs _ h hnd'.1, mapGet_pushCell]
        simp
      | succ j =>
        have hj' : j < hs.length := by simpa using hj
        have hne : ¬ h = hs[j] := fun e => hnd'.1 (e ▸ List.getElem_mem hj')
        rw [List.getElem_cons_succ, ih cs _ j hj' hnd'.2 (by simpa using hl), mapGet_pushCell, if_neg hne,
          List.getElem?_cons_succ]

theorem mapGet_pushRows (hs : List Bytes) (hnd : hs.Nodup) (j : Nat) (hj : j < hs.length) :
    ∀ (rows : List (List Bytes)) (t : Table) (col : List Bytes), (∀ r ∈ rows, r.length = hs.length) →
    mapGet t hs[j] = some col →
    mapGet (pushRows t hs rows) hs[j] = some (col ++ rows.map (fun r => r[j]?.getD [])) := by
  intro rows
  induction rows with
  | nil => intro t col _ h; simpa [pushRows] using h
  | cons r rs ih =>
    intro t col hl h
    simp only [pushRows, List.foldl_cons]
    have := ih (pushRow t hs r) (col ++ [r[j]?.getD []]) (fun x hx => hl x (by simp [hx]))
      (by rw [mapGet_pushRow hs r t j hj hnd (hl r (by simp)), h]; rfl)
    simp only [pushRows] at this
    rw [this]
    simp

/-- the empty table `data_as_table` starts from -/
def emptyTable (hs : List Bytes) : Table := hs.foldl (fun t h => mapInsert t h []) []

theorem mapGet_emptyTable_aux : ∀ (hs : List Bytes) (t : Table) (k : Bytes),
    mapGet (hs.foldl (fun t h => mapInsert t h ([] : List Bytes)) t) k = if k ∈ hs then some [] else mapGet t k := by
  intro hs
  induction hs with
  | nil => intro t k; simp
  | cons h hs ih =>
    intro t k
    simp only [List.foldl_cons]
    rw [ih, mapGet_mapInsert']
    by_cases h1 : k ∈ hs
    · simp [h1]
    · by_cases h2 : h = k
      · simp [h2]
      · have : ¬ k = h := fun e => h2 e.symm
        simp [h1, h2, this]

theorem mapGet_emptyTable (hs : List Bytes) (k : Bytes) (hk : k ∈ hs) : mapGet (emptyTable hs) k = some [] := by
  unfold emptyTable
  rw [mapGet_emptyTable_aux]
  simp [hk]

/-- the loop after a non-empty head `cur`: the heads that follow and the empty head that ends them; a round consumes a
byte, so fuel beyond the bytes to read suffices -/
theorem decodes_headsLoop : ∀ (rest : List Bytes) (fuel : Nat) (acc : List Bytes) (cur : Bytes),
    (rest.map cstr).flatten.length + 1 < fuel → cur ≠ [] → (∀ h ∈ rest, OkStr h ∧ h ≠ []) →
    Decodes (headsLoop fuel acc cur) ((rest.map cstr).flatten ++ [0]) (acc ++ cur :: rest) := by
  intro rest
  induction rest with
  | nil =>
    intro fuel acc cur hf hcur _
    obtain ⟨f, rfl⟩ : ∃ f, fuel = f + 2 := ⟨fuel - 2, by simp at hf; omega⟩
    simp only [headsLoop, List.isEmpty_eq_false_iff.mpr hcur, Bool.false_eq_true, ↓reduceIte]
    exact Decodes.bind' (e2 := []) (decodes_cell [] ⟨by simp, by decide⟩) (Decodes.pure _) (by simp [cstr])
  | cons h hs ih =>
    intro fuel acc cur hf hcur hok
    obtain ⟨f, rfl⟩ : ∃ f, fuel = f + 1 := ⟨fuel - 1, by omega⟩
    simp only [headsLoop, List.isEmpty_eq_false_iff.mpr hcur, Bool.false_eq_true, ↓reduceIte, List.map_cons,
      List.flatten_cons, List.append_assoc]
    refine Decodes.bind (decodes_cell h (hok h (by simp)).1) ?_
    have := ih f (acc ++ [cur]) h (by
      simp only [List.map_cons, List.flatten_cons, List.length_append, cstr, List.length_cons, List.length_nil] at hf
      omega) (hok h (by simp)).2 (fun x hx => hok x (by simp [hx]))
    simpa only [List.append_assoc, List.cons_append, List.nil_append] using this

theorem decodes_readHeads (hs : List Bytes) (hok : ∀ h ∈ hs, OkStr h ∧ h ≠ []) :
    Decodes readHeads ((hs.map cstr).flatten ++ [0]) hs := by
  intro b post hr
  unfold readHeads
  cases hs with
  | nil =>
    obtain ⟨b1, h1, hr1, hd1⟩ := decodes_cell [] ⟨by simp, by decide⟩ b post (by simpa [cstr] using hr)
    rw [h1]
    exact ⟨b1, by simp [headsLoop], hr1, hd1⟩
  | cons h rest =>
    have hh := hok h (by simp)
    obtain ⟨b1, h1, hr1, hd1⟩ := decodes_cell h hh.1 b ((rest.map cstr).flatten ++ [0] ++ post)
      (by simpa [List.append_assoc] using hr)
    rw [h1]
    have hfuel : (rest.map cstr).flatten.length + 1 < b.remaining + 1 := by
      simp only [Buf.remaining, hr, List.map_cons, List.flatten_cons, List.length_append, List.length_cons]
      omega
    obtain ⟨b2, h2, hr2, hd2⟩ := decodes_headsLoop rest (b.remaining + 1) [] h hfuel hh.2
      (fun x hx => hok x (by simp [hx])) b1 post (by simpa [List.append_assoc] using hr1)
    exact ⟨b2, by simpa using h2, hr2, by rw [hd2, hd1]⟩

theorem decodes_be1 (n : Nat) (h : n < 256) : Decodes (readUnsigned .big 1) [UInt8.ofNat n] n := by
  have := decodes_readUnsigned .big 1 n (by simpa using h)
  simpa [Endian.encode, natBE, natLE, Nat.mod_eq_of_lt h] using this

def RowsOk (hs : List Bytes) (rows : List (List Bytes)) : Prop := ∀ r ∈ rows, r.length = hs.length ∧ ∀ c ∈ r, OkStr c

theorem decodes_dataAsTable (hs : List Bytes) (rows : List (List Bytes)) (hok : ∀ h ∈ hs, OkStr h ∧ h ≠ [])
    (hrows : RowsOk hs rows) (hn : rows.length < 256) :
    Decodes dataAsTable (encTable hs rows) (pushRows (emptyTable hs) hs rows, rows.length) := by
  unfold dataAsTable encTable
  have e : [0, UInt8.ofNat rows.length] ++ (hs.map cstr).flatten ++ [0] ++ (rows.map fun r => (r.map cstr).flatten).flatten
      = [UInt8.ofNat 0] ++ ([UInt8.ofNat rows.length] ++ (((hs.map cstr).flatten ++ [0]) ++
          ((rows.map fun r => (r.map cstr).flatten).flatten ++ []))) := by
    simp
  rw [e]
  refine Decodes.bind (decodes_be1 0 (by omega)) ?_
  simp only [bne_self_eq_false, Bool.false_eq_true, ↓reduceIte]
  refine Decodes.bind (decodes_be1 rows.length hn) ?_
  refine Decodes.bind (decodes_readHeads hs hok) ?_
  refine Decodes.bind (decodes_readRows hs rows (emptyTable hs) hrows
    (fun h hh => by rw [mapGet_emptyTable hs h hh]; rfl)) ?_
  exact Decodes.pure _

theorem tableExtract_pushRows (hs : List Bytes) (hnd : hs.Nodup) (rows : List (List Bytes))
    (hl : ∀ r ∈ rows, r.length = hs.length) (name : String) (j : Nat) (hj : j < hs.length) (hk : hs[j] = bs name)
    (i : Nat) (r : List Bytes) (hr : rows[i]? = some r) :
    tableExtract (pushRows (emptyTable hs) hs rows) name i = .ok (r[j]?.getD []) := by
  unfold tableExtract
  show (match mapGet (pushRows (emptyTable hs) hs rows) (bs name) with
    | none => Res.err ErrKind.packetBad
    | some col => match col[i]? with
      | none => Res.err ErrKind.packetBad
      | some v => Res.ok v) = _
  rw [← hk, mapGet_pushRows hs hnd j hj rows (emptyTable hs) [] hl (mapGet_emptyTable hs _ (List.getElem_mem hj))]
  simp [hr]

theorem collect_eq {α : Type} (f : Nat → Res α) : ∀ (l : List α) (i : Nat),
    (∀ k x, l[k]? = some x → f (i + k) = .ok x) → collect f i l.length = .ok l := by
  intro l
  induction l with
  | nil => intro i _; rfl
  | cons x r ih =>
    intro i h
    have h0 := h 0 x rfl
    simp only [Nat.add_zero] at h0
    have hr := ih (i + 1) (fun k z hz => by
      have := h (k + 1) z (by simpa using hz)
      rw [show i + 1 + k = i + (k + 1) by omega]; exact this)
    simp only [List.length_cons, collect, h0, hr, Res.bind_ok, Res.pure_eq]

def WfPlayer (p : Player) : Prop := OkStr p.name ∧ p.score < 2 ^ 16 ∧ p.ping < 2 ^ 16 ∧ p.teamIndex < 2 ^ 16
def WfTeam (t : Team) : Prop := OkStr t.name ∧ t.score < 2 ^ 16
def WfCols (std : List Bytes) (cols : List (Bytes × Bytes)) : Prop :=
  (∀ c ∈ cols, OkStr c.1 ∧ c.1 ≠ [] ∧ OkStr c.2 ∧ c.1 ∉ std) ∧ (cols.map (·.1)).Nodup

theorem okStr_dec (n : Nat) : OkStr (dec n) :=
  ⟨dec_not_mem n 0 (by decide), validUtf8_of_ascii _ (plain_ascii (dec_plain n))⟩

/-- the admissibility of a fixed list of heads or keys, in a form that can be evaluated -/
theorem heads_of_eval {l : List Bytes} (h : l.all (fun k => okStr k && !k.isEmpty) = true ∧ l.Nodup) :
    (∀ k ∈ l, OkStr k ∧ k ≠ []) ∧ l.Nodup := by
  refine ⟨fun k hk => ?_, h.2⟩
  have := List.all_eq_true.mp h.1 k hk
  simpa only [Bool.and_eq_true, okStr_iff, Bool.not_eq_true', List.isEmpty_eq_false_iff] using this

theorem playerHeads_ok : (∀ h ∈ ([bs "player_", bs "score_", bs "ping_", bs "team_"] : List Bytes), OkStr h ∧ h ≠ [])
    ∧ ([bs "player_", bs "score_", bs "ping_", bs "team_"] : List Bytes).Nodup :=
  heads_of_eval (by decide +kernel)

theorem teamHeads_ok : (∀ h ∈ ([bs "team_t", bs "score_t"] : List Bytes), OkStr h ∧ h ≠ [])
    ∧ ([bs "team_t", bs "score_t"] : List Bytes).Nodup :=
  heads_of_eval (by decide +kernel)

theorem heads_ok (std : List Bytes) (cols : List (Bytes × Bytes)) (hstd : (∀ h ∈ std, OkStr h ∧ h ≠ []) ∧ std.Nodup)
    (hc : WfCols std cols) :
    (∀ h ∈ std ++ cols.map (·.1), OkStr h ∧ h ≠ []) ∧ (std ++ cols.map (·.1)).Nodup := by
  refine ⟨?_, ?_⟩
  · intro h hh
    rcases List.mem_append.mp hh with h1 | h1
    · exact hstd.1 h h1
    · obtain ⟨c, hcm, rfl⟩ := List.mem_map.mp h1
      exact ⟨(hc.1 c hcm).1, (hc.1 c hcm).2.1⟩
  · rw [List.nodup_append]
    refine ⟨hstd.2, hc.2, ?_⟩
    intro a ha b hb hab
    obtain ⟨c, hcm, rfl⟩ := List.mem_map.mp hb
    exact (hc.1 c hcm).2.2.2 (hab ▸ ha)

/-- a table whose rows each stand for an item: `getPlayers` and `getTeams` -/
theorem decodes_items {α : Type} (f : Table → Nat → Res α) (hs : List Bytes) (hok : ∀ h ∈ hs, OkStr h ∧ h ≠ [])
    (items : List α) (row : α → List Bytes) (hrows : RowsOk hs (items.map row)) (hn : items.length < 256)
    (hf : ∀ k x, items[k]? = some x → f (pushRows (emptyTable hs) hs (items.map row)) k = .ok x) :
    Decodes (dataAsTable >>= fun x => Par.lift (collect (f x.1) 0 x.2)) (encTable hs (items.map row)) items := by
  refine Decodes.bind' (e2 := []) (decodes_dataAsTable _ _ hok hrows (by simpa using hn)) ?_ (by simp)
  simp only
  rw [List.length_map, collect_eq _ items 0 fun k x hk => by rw [Nat.zero_add]; exact hf k x hk]
  exact Decodes.lift_ok _

theorem decodes_getPlayers (y : Style) (ps : List Player) (hp : ∀ p ∈ ps, WfPlayer p)
    (hc : WfCols [bs "player_", bs "score_", bs "ping_", bs "team_"] y.playerCols) (hn : ps.length < 256) :
    Decodes getPlayers (encTable (playerHeads y) (ps.map (playerRow y))) ps := by
  have hh : (∀ h ∈ playerHeads y, OkStr h ∧ h ≠ []) ∧ (playerHeads y).Nodup := heads_ok _ _ playerHeads_ok hc
  have hrows : RowsOk (playerHeads y) (ps.map (playerRow y)) := by
    intro r hr
    obtain ⟨p, hpm, rfl⟩ := List.mem_map.mp hr
    refine ⟨by simp [playerRow, playerHeads], ?_⟩
    intro c hcm
    simp only [playerRow, List.mem_append, List.mem_cons, List.not_mem_nil, or_false, List.mem_map] at hcm
    rcases hcm with (rfl | rfl | rfl | rfl) | ⟨col, hcol, rfl⟩
    · exact (hp p hpm).1
    · exact okStr_dec _
    · exact okStr_dec _
    · exact okStr_dec _
    · exact (hc.1 col hcol).2.2.1
  refine decodes_items playerAt _ hh.1 ps (playerRow y) hrows hn fun k p hk => ?_
  have hrow : (ps.map (playerRow y))[k]? = some (playerRow y p) := by simp [hk]
  have hl : ∀ r ∈ ps.map (playerRow y), r.length = (playerHeads y).length := fun r hr => (hrows r hr).1
  have hpw := hp p (List.mem_of_getElem? hk)
  have hlen : 4 ≤ (playerHeads y).length := by simp [playerHeads]
  simp only [playerAt, tableExtractU16]
  rw [tableExtract_pushRows _ hh.2 _ hl "player_" 0 (by omega) rfl k _ hrow,
    tableExtract_pushRows _ hh.2 _ hl "score_" 1 (by omega) rfl k _ hrow,
    tableExtract_pushRows _ hh.2 _ hl "ping_" 2 (by omega) rfl k _ hrow,
    tableExtract_pushRows _ hh.2 _ hl "team_" 3 (by omega) rfl k _ hrow]
  simp only [playerRow, List.cons_append, List.getElem?_cons_succ, List.getElem?_cons_zero, Option.getD_some,
    Res.bind_ok, okOr, parseUnsigned_dec 16 _ hpw.2.1, parseUnsigned_dec 16 _ hpw.2.2.1,
    parseUnsigned_dec 16 _ hpw.2.2.2, Res.pure_eq]

theorem decodes_getTeams (y : Style) (ts : List Team) (ht : ∀ t ∈ ts, WfTeam t)
    (hc : WfCols [bs "team_t", bs "score_t"] y.teamCols) (hn : ts.length < 256) :
    Decodes getTeams (encTable (teamHeads y) (ts.map (teamRow y))) ts := by
  have hh : (∀ h ∈ teamHeads y, OkStr h ∧ h ≠ []) ∧ (teamHeads y).Nodup := heads_ok _ _ teamHeads_ok hc
  have hrows : RowsOk (teamHeads y) (ts.map (teamRow y)) := by
    intro r hr
    obtain ⟨t, htm, rfl⟩ := List.mem_map.mp hr
    refine ⟨by simp [teamRow, teamHeads], ?_⟩
    intro c hcm
    simp only [teamRow, List.mem_append, List.mem_cons, List.not_mem_nil, or_false, List.mem_map] at hcm
    rcases hcm with (rfl | rfl) | ⟨col, hcol, rfl⟩
    · exact (ht t htm).1
    · exact okStr_dec _
    · exact (hc.1 col hcol).2.2.1
  refine decodes_items teamAt _ hh.1 ts (teamRow y) hrows hn fun k t hk => ?_
  have hrow : (ts.map (teamRow y))[k]? = some (teamRow y t) := by simp [hk]
  have hl : ∀ r ∈ ts.map (teamRow y), r.length = (teamHeads y).length := fun r hr => (hrows r hr).1
  have htw := ht t (List.mem_of_getElem? hk)
  have hlen : 2 ≤ (teamHeads y).length := by simp [teamHeads]
  simp only [teamAt, tableExtractU16]
  rw [tableExtract_pushRows _ hh.2 _ hl "team_t" 0 (by omega) rfl k _ hrow,
    tableExtract_pushRows _ hh.2 _ hl "score_t" 1 (by omega) rfl k _ hrow]
  simp only [teamRow, List.cons_append, List.getElem?_cons_succ, List.getElem?_cons_zero, Option.getD_some,
    Res.bind_ok, okOr, parseUnsigned_dec 16 _ htw.2, Res.pure_eq]

end Gd.Gs2
