import GdVerif.Lemmas.QCost
import GdVerif.Lemmas.ValveSafe
/-
  How many datagrams the Valve query sends: at most one per attempt of each request, plus one per
  datagram received (the challenge echo).
-/
namespace Gd

namespace Valve

theorem cost_recvChunks (s : Sock) (engine : Engine) (protocol : Nat) (n : Nat) :
    Cost 0 0 (recvChunks s engine protocol n) := by
  induction n with
  | zero => exact Cost.pure _
  | succ n ih =>
    unfold recvChunks
    have h := Cost.bind (Cost.recv s (some PACKET_SIZE)) fun data =>
      Cost.bind (Cost.parse (splitPacketNew engine protocol) data) fun p =>
        Cost.bind ih fun ps => Cost.pure (p :: ps)
    exact h.weaken (by omega) (by omega)

theorem cost_afterFirst (ext : Ext) (s : Sock) (engine : Engine) (protocol : Nat) (data : Bytes) :
    Cost 0 0 (afterFirst ext s engine protocol data) := by
  unfold afterFirst
  have h := Cost.bind (Cost.parse readU8 data) fun header =>
    (Cost.ite (c := (header == 0xFE) = true)
      ((Cost.bind (Cost.parse (splitPacketNew engine protocol) data) fun first =>
        Cost.bind (cost_recvChunks s engine protocol (first.total - 1)) fun rest =>
          Cost.bind (Cost.lift (assemble ext (sortChunks (first :: rest)))) fun payload =>
            Cost.parse packetFromBuffer payload).weaken (Int.le_refl 0) (Int.le_refl 0))
      (Cost.parse packetFromBuffer data))
  exact h.weaken (by omega) (by omega)

/-- a successful `receive` earns one send -/
theorem cost_receive (ext : Ext) (s : Sock) (engine : Engine) (protocol : Nat) :
    Cost (-1) 0 (receive ext s engine protocol) := by
  rw [receive_eq]
  exact Cost.bind_free (Cost.recv s (some PACKET_SIZE)) (fun d => cost_afterFirst ext s engine protocol d) (by omega)

/-- a request is sent, a reply awaited, and `next` goes on from the reply (the shape of an attempt and of every
challenge round): the reply pays for the one send `next` may make -/
theorem cost_round (ext : Ext) (s : Sock) (engine : Engine) (protocol : Nat) (data : Bytes) {next : Packet → Q α}
    (hnext : ∀ p, Cost 1 1 (next p)) :
    Cost 1 1 (send s data >>= fun _ => receive ext s engine protocol >>= next) :=
  Cost.bind_free (Cost.send s data)
    (fun _ => (Cost.bind (cost_receive ext s engine protocol) hnext).weaken (by omega) (by omega)) (Int.le_refl 1)

/-- the challenge loop: one send per challenge packet received; the packet it starts from has
already been paid for by the receive that produced it -/
theorem cost_challengeLoop (ext : Ext) (s : Sock) (engine : Engine) (protocol kind : Nat) :
    ∀ (fuel : Nat) (packet : Packet), Cost 1 1 (challengeLoop ext s engine protocol kind fuel packet) := by
  intro fuel
  induction fuel with
  | zero =>
    intro _ w
    exact ⟨[], by simp [challengeLoop], by simp [challengeLoop, nSends, nRecvOk]⟩
  | succ fuel ih =>
    intro packet
    unfold challengeLoop
    split
    · exact cost_round ext s engine protocol _ ih
    · exact (Cost.pure _).weaken (by omega) (by omega)

theorem cost_requestImpl (ext : Ext) (s : Sock) (engine : Engine) (protocol kind : Nat) (payload : Bytes) :
    Cost 1 1 (requestImpl ext s engine protocol kind payload) := by
  unfold requestImpl
  exact cost_round ext s engine protocol _ fun packet w =>
    cost_challengeLoop ext s engine protocol kind (queued s w + 1) packet w

theorem cost_requestData (ext : Ext) (s : Sock) (r : Nat) (engine : Engine) (protocol : Nat) (req : Request) :
    Cost ((r + 1 : Nat) : Int) ((r + 1 : Nat) : Int) (requestData ext s r engine protocol req) := by
  have := Cost.retry (k := 1) (cost_requestImpl ext s engine protocol req.kind req.defaultPayload) r
  simpa [requestData] using this

theorem cost_queryBody (ext : Ext) (s : Sock) (engine : Engine) (g : Gather) (r : Nat) :
    Cost ((3 * (r + 1) : Nat) : Int) ((3 * (r + 1) : Nat) : Int) (queryBody ext s engine g r) := by
  unfold queryBody getServerInfo getServerPlayers getServerRules
  have hk : (0 : Int) ≤ ((r + 1 : Nat) : Int) := Int.natCast_nonneg _
  have hsec : ∀ {α : Type} (protocol : Nat) (req : Request) (p : Par α),
      Cost ((r + 1 : Nat) : Int) ((r + 1 : Nat) : Int)
        (requestData ext s r engine protocol req >>= fun data => parse p data) :=
    fun protocol req p =>
      Cost.bind_free (cost_requestData ext s r engine protocol req) (fun data => Cost.parse p data) (Int.le_refl _)
  have hk1 : (0 : Int) ≤ ((r + 1 : Nat) : Int) + 0 := Int.add_nonneg hk (Int.le_refl 0)
  have hk2 : (0 : Int) ≤ ((r + 1 : Nat) : Int) + (((r + 1 : Nat) : Int) + 0) := Int.add_nonneg hk hk1
  have h := Cost.bind_add (hsec 0 .info (parseInfo engine)) (fun info =>
    Cost.ite (c := (!appIdOk engine g info.appid) = true)
      ((Cost.fail (α := Response) ErrKind.badGame).weaken hk2 hk2)
      (Cost.bind_add (Cost.maybeGather hk (hsec info.protocolVersion .players (parsePlayers engine)) g.players)
        (fun players =>
          Cost.bind_add (Cost.maybeGather hk (hsec info.protocolVersion .rules (parseRules engine)) g.rules)
            (fun rules => Cost.pure (⟨info, players, rules⟩ : Response)) (Int.le_refl 0))
        hk1)) hk2
  exact h.weaken (by omega) (by omega)

end Valve
end Gd
