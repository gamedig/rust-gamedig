import GdVerif.Lemmas.SmallBlock
import GdVerif.Lemmas.Gs3Cost
import GdVerif.Proto.Ffow
import GdVerif.Proto.TheShip
import GdVerif.Proto.Battalion
import GdVerif.Proto.Jc2m
import GdVerif.Proto.Mindustry
import GdVerif.Proto.Savage2
/-
  How many datagrams the small games send: FFOW (one Valve-style request with challenge rounds),
  The Ship and Battalion 1944 (the Valve query), JC2M (the GameSpy 3 exchange in single-packet mode),
  Mindustry (one ping per attempt, each attempt on a fresh socket), Savage 2 (one request, never
  retried).
-/
namespace Gd

theorem Ffow.cost_query (ext : Valve.Ext) (port r : Nat) :
    Cost ((r + 1 : Nat) : Int) ((r + 1 : Nat) : Int) (Ffow.query ext port r) := by
  unfold Ffow.query Ffow.queryBody
  have h := Cost.bind (Cost.openSock false port) fun s =>
    Cost.bind (Cost.retry (k := 1) (Valve.cost_requestImpl ext s (.goldSrc true) 0 Ffow.KIND Ffow.lsq) r) fun d =>
      Cost.parse Ffow.parseResponse d
  refine h.weaken ?_ ?_ <;> simp <;> omega

theorem TheShip.cost_query (ext : Valve.Ext) (port r : Nat) :
    Cost ((3 * (r + 1) : Nat) : Int) ((3 * (r + 1) : Nat) : Int) (TheShip.query ext port r) := by
  unfold TheShip.query
  have h := Cost.bind (Valve.cost_query ext port TheShip.ENGINE Valve.Gather.default r) fun v =>
    Cost.lift (TheShip.convert v)
  exact h.weaken (by omega) (by omega)

theorem Battalion.cost_query (ext : Valve.Ext) (port : Nat) : Cost 3 3 (Battalion.query ext port) := by
  unfold Battalion.query
  have h := Cost.bind (Valve.cost_query ext port Battalion.ENGINE Valve.Gather.default 0) fun v =>
    Cost.bind (Cost.lift (Battalion.applyOverrides v)) fun v' => Cost.pure (Games.gameView v')
  exact h.weaken (by simp) (by simp)

theorem Jc2m.cost_query (port : Option Nat) (r : Nat) :
    Cost ((r + 1 : Nat) : Int) ((r + 1 : Nat) : Int) (Jc2m.query port r) := by
  unfold Jc2m.query
  have h := Cost.bind (Cost.openSock false (port.getD Jc2m.DEFAULT_PORT)) fun s =>
    Cost.bind (Gs3.cost_getServerPackets s r Jc2m.PAYLOAD true) fun p => Cost.lift (Jc2m.buildResponse p)
  exact h.weaken (by omega) (by omega)

theorem Jc2m.sends_query (port : Option Nat) (r : Nat) : Sends (2 * (r + 1)) (Jc2m.query port r) := by
  unfold Jc2m.query
  have h := Sends.bind (Sends.openSock false (port.getD Jc2m.DEFAULT_PORT)) fun s =>
    Sends.bind (k2 := 0) (Gs3.sends_getServerPackets s r Jc2m.PAYLOAD true) fun p => Sends.lift (Jc2m.buildResponse p)
  exact h.weaken (by omega)

theorem sends_openExchange (port : Nat) (req : Bytes) (size : Option Nat) (p : Par α) :
    Sends 1 (openExchange port req size p) :=
  Sends.bind (Sends.openSock false port) fun s => Sends.bind (Sends.send s req) fun _ =>
    Sends.bind (Sends.recv s size) fun d => Sends.parse p d

theorem Mindustry.sends_attempt (port : Nat) : Sends 1 (Mindustry.attempt port) :=
  sends_openExchange port Mindustry.ping (some Mindustry.MAX_BUFFER_SIZE) Mindustry.parseServerData

theorem Mindustry.sends_query (port r : Nat) : Sends (r + 1) (Mindustry.query port r) := by
  have := Sends.retry (Mindustry.sends_attempt port) r
  simpa [Mindustry.query] using this

theorem Savage2.sends_query (port : Nat) : Sends 1 (Savage2.query port) :=
  sends_openExchange port Savage2.request none Savage2.parseResponse

end Gd
