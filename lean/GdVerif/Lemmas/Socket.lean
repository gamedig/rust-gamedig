import GdVerif.Proto.Socket
/-
  Lemmas about the model of socket.rs: each function as equations per answer of the system (result and calls made
  together), the read loop against its specification, a session as the calls of `new` followed by sends and receives,
  the bounds in force along a history, and the absence of panics under std's contract.
-/
namespace Gd.SockRs
open Gd.Settings (Duration Timeout readAndWriteOrDefaults connectOrDefault zeroOpt)

/-- `apply_timeout` panics at the first setter answered `Err`, having made that call; otherwise it made both calls,
read first, each with its own duration -/
theorem applyTimeout_cases (os : Os) (t : Option Timeout) (h : List Call) :
    ((∃ e, os.setRead h (readAndWriteOrDefaults t).1 = .error e)
      ∧ applyTimeout os t h = (.crash, h ++ [.setReadTimeout (readAndWriteOrDefaults t).1]))
    ∨ ((∃ e, os.setWrite (h ++ [.setReadTimeout (readAndWriteOrDefaults t).1]) (readAndWriteOrDefaults t).2 = .error e)
      ∧ applyTimeout os t h
        = (.crash, h ++ [.setReadTimeout (readAndWriteOrDefaults t).1, .setWriteTimeout (readAndWriteOrDefaults t).2]))
    ∨ applyTimeout os t h
        = (.ok (), h ++ [.setReadTimeout (readAndWriteOrDefaults t).1, .setWriteTimeout (readAndWriteOrDefaults t).2]) := by
  cases h1 : os.setRead h (readAndWriteOrDefaults t).1 with
  | error e => exact Or.inl ⟨⟨e, rfl⟩, by simp [applyTimeout, h1]⟩
  | ok u =>
    cases h2 : os.setWrite (h ++ [.setReadTimeout (readAndWriteOrDefaults t).1]) (readAndWriteOrDefaults t).2 with
    | error e => exact Or.inr (Or.inl ⟨⟨e, rfl⟩, by simp [applyTimeout, h1, h2]⟩)
    | ok u => exact Or.inr (Or.inr (by simp [applyTimeout, h1, h2]))

theorem sockNew_eq (k : Kind) (os : Os) (a : Addr) (t : Option Timeout) (h : List Call) :
    (∃ e, sockNew k os a t h = (.err e, h ++ [openCall k a t]))
    ∨ sockNew k os a t h = applyTimeout os t (h ++ [openCall k a t]) := by
  cases k with
  | udp =>
    simp only [sockNew, udpNew, openCall]
    cases os.bind h (localFor a) with
    | error e => exact Or.inl ⟨_, rfl⟩
    | ok u => exact Or.inr rfl
  | tcp =>
    simp only [sockNew, tcpNew, openCall]
    cases os.connect h a (connectOrDefault t) with
    | error e => exact Or.inl ⟨_, rfl⟩
    | ok u => exact Or.inr rfl

theorem sockNew_cases (k : Kind) (os : Os) (a : Addr) (t : Option Timeout) (h : List Call) :
    (∃ e, sockNew k os a t h = (.err e, h ++ [openCall k a t]))
    ∨ ((∃ e, os.setRead (h ++ [openCall k a t]) (readAndWriteOrDefaults t).1 = .error e)
      ∧ sockNew k os a t h = (.crash, h ++ [openCall k a t, .setReadTimeout (readAndWriteOrDefaults t).1]))
    ∨ ((∃ e, os.setWrite (h ++ [openCall k a t, .setReadTimeout (readAndWriteOrDefaults t).1])
          (readAndWriteOrDefaults t).2 = .error e)
      ∧ sockNew k os a t h = (.crash, h ++ [openCall k a t, .setReadTimeout (readAndWriteOrDefaults t).1,
          .setWriteTimeout (readAndWriteOrDefaults t).2]))
    ∨ sockNew k os a t h = (.ok (), h ++ [openCall k a t, .setReadTimeout (readAndWriteOrDefaults t).1,
          .setWriteTimeout (readAndWriteOrDefaults t).2]) := by
  rcases sockNew_eq k os a t h with e | e
  · exact Or.inl e
  · rw [e]
    simpa only [List.append_assoc, List.cons_append, List.nil_append]
      using Or.inr (applyTimeout_cases os t (h ++ [openCall k a t]))

theorem sockNew_ok (k : Kind) (os : Os) (a : Addr) (t : Option Timeout) (h h' : List Call)
    (hok : sockNew k os a t h = (.ok (), h')) :
    h' = h ++ [openCall k a t, .setReadTimeout (readAndWriteOrDefaults t).1, .setWriteTimeout (readAndWriteOrDefaults t).2] := by
  rcases sockNew_cases k os a t h with ⟨e, hn⟩ | ⟨_, hn⟩ | ⟨_, hn⟩ | hn <;> cases hn.symm.trans hok
  rfl

theorem udpReceive_ok (os : Os) (size : Option Nat) (h : List Call) (d : Bytes) (src : Addr)
    (hs : size.getD DEFAULT_PACKET_SIZE < CAPACITY_LIMIT)
    (hos : os.recvFrom h (size.getD DEFAULT_PACKET_SIZE) = .ok (d, src)) :
    udpReceive os size h
      = (.ok (d.take (size.getD DEFAULT_PACKET_SIZE)), h ++ [.recvFrom (size.getD DEFAULT_PACKET_SIZE)]) := by
  unfold udpReceive
  simp only [Nat.not_le.mpr hs, ↓reduceIte, hos]
  -- the count the kernel reports is the length of what it copied, so `buf[..n]` is exactly that
  generalize size.getD DEFAULT_PACKET_SIZE = len
  have hn : min d.length len = (d.take len).length := by rw [List.length_take, Nat.min_comm]
  rw [hn, List.take_left]
  simp only [List.length_append, Nat.le_add_right, ↓reduceIte]

theorem udpReceive_error (os : Os) (size : Option Nat) (h : List Call) (e : IoKind)
    (hs : size.getD DEFAULT_PACKET_SIZE < CAPACITY_LIMIT)
    (hos : os.recvFrom h (size.getD DEFAULT_PACKET_SIZE) = .error e) :
    udpReceive os size h = (.err .packetReceive, h ++ [.recvFrom (size.getD DEFAULT_PACKET_SIZE)]) := by
  unfold udpReceive
  simp only [Nat.not_le.mpr hs, ↓reduceIte, hos]

theorem udpReceive_cases (os : Os) (size : Option Nat) (h : List Call)
    (hs : size.getD DEFAULT_PACKET_SIZE < CAPACITY_LIMIT) :
    ∃ r, r ≠ .crash ∧ udpReceive os size h = (r, h ++ [.recvFrom (size.getD DEFAULT_PACKET_SIZE)]) := by
  cases hos : os.recvFrom h (size.getD DEFAULT_PACKET_SIZE) with
  | error e => exact ⟨_, by simp, udpReceive_error os size h e hs hos⟩
  | ok x => exact ⟨_, by simp, udpReceive_ok os size h x.1 x.2 hs hos⟩

theorem outcome_pushback (d : Bytes) (rest : Stream) (acc : Bytes) (len : Nat) :
    (if d.length ≤ len then rest else Stream.data (d.drop len) rest).outcome (acc ++ d.take len)
      = rest.outcome (acc ++ d) := by
  by_cases hl : d.length ≤ len
  · simp only [hl, ↓reduceIte, List.take_of_length_le hl]
  · simp only [hl, ↓reduceIte, Stream.outcome]
    have : (d.drop len).isEmpty = false := by
      cases hx : d.drop len with
      | nil => have := List.drop_eq_nil_iff.mp hx; omega
      | cons x r => rfl
    simp only [this, Bool.false_eq_true, ↓reduceIte, List.append_assoc, List.take_append_drop]

theorem size_pushback (d : Bytes) (rest : Stream) (len : Nat) (hd : d.isEmpty = false) (hlen : 0 < len) :
    (if d.length ≤ len then rest else Stream.data (d.drop len) rest).size < (Stream.data d rest).size := by
  have hpos : 0 < d.length := by
    cases d with
    | nil => simp at hd
    | cons x r => simp
  by_cases hl : d.length ≤ len
  · simp only [hl, ↓reduceIte, Stream.size]; omega
  · simp only [hl, ↓reduceIte, Stream.size, List.length_drop]; omega

/-- whatever buffers std offers, the loop returns what the specification says, never runs out of fuel, and makes
reads only (`lens`: the buffer lengths offered) -/
theorem readLoop_spec (os : Os) (cap : Nat) : ∀ (fuel : Nat) (acc : Bytes) (s : Stream) (h : List Call),
    s.size < fuel → ∃ lens : List Nat, readLoop os cap fuel acc s h = (s.outcome acc, h ++ lens.map .read) := by
  intro fuel
  induction fuel with
  | zero => intro acc s h hf; omega
  | succ f ih =>
    intro acc s h hf
    -- the loop goes on: this read in front of those of the rest
    have next : ∀ (acc' : Bytes) (s' : Stream), s'.size < f →
        ∃ lens : List Nat, readLoop os cap f acc' s' (h ++ [.read (os.bufPolicy cap acc.length + 1)])
          = (s'.outcome acc', h ++ lens.map .read) := by
      intro acc' s' hf'
      obtain ⟨lens, e⟩ := ih acc' s' _ hf'
      exact ⟨(os.bufPolicy cap acc.length + 1) :: lens, by rw [e, List.append_assoc]; rfl⟩
    cases s with
    | closed => exact ⟨[_], rfl⟩
    | data d rest =>
      simp only [readLoop, Stream.outcome]
      cases hd : d.isEmpty with
      | true => exact ⟨[_], rfl⟩
      | false =>
        simp only [Bool.false_eq_true, ↓reduceIte]
        rw [← outcome_pushback d rest acc (os.bufPolicy cap acc.length + 1)]
        exact next _ _ (by have := size_pushback d rest (os.bufPolicy cap acc.length + 1) hd (by omega); omega)
    | fail k rest =>
      simp only [readLoop, Stream.outcome]
      by_cases hk : k = .interrupted
      · simp only [hk, ↓reduceIte]
        exact next _ _ (by simp only [Stream.size] at hf; omega)
      · simp only [hk, ↓reduceIte]
        exact ⟨[_], rfl⟩

theorem outcome_not_crash : ∀ (s : Stream) (acc : Bytes), s.outcome acc ≠ .crash := by
  intro s
  induction s with
  | closed => intro acc; simp [Stream.outcome]
  | data d rest ih =>
    intro acc
    simp only [Stream.outcome]
    split
    · simp
    · exact ih _
  | fail k rest ih =>
    intro acc
    simp only [Stream.outcome]
    split
    · exact ih _
    · simp

theorem tcpReceive_eq (os : Os) (size : Option Nat) (h : List Call)
    (hs : size.getD DEFAULT_PACKET_SIZE < CAPACITY_LIMIT) :
    ∃ lens : List Nat, tcpReceive os size h = ((os.reads h).outcome [], h ++ lens.map .read) := by
  unfold tcpReceive
  simp only [Nat.not_le.mpr hs, ↓reduceIte]
  exact readLoop_spec os _ _ _ _ _ (Nat.lt_succ_self _)

/-- the socket options after the calls of `h` -/
def boundsAfter : Bound × Bound → List Call → Bound × Bound
  | b, [] => b
  | (r, w), c :: rest =>
    match c with
    | .setReadTimeout d => boundsAfter (.set d, w) rest
    | .setWriteTimeout d => boundsAfter (r, .set d) rest
    | _ => boundsAfter (r, w) rest

theorem timedByAux_append (h1 h2 : List Call) : ∀ (r w : Bound),
    timedByAux r w (h1 ++ h2) = timedByAux r w h1 ++ timedByAux (boundsAfter (r, w) h1).1 (boundsAfter (r, w) h1).2 h2 := by
  induction h1 with
  | nil => intro r w; rfl
  | cons c rest ih =>
    intro r w
    -- a setter changes the bounds the rest is read under, a blocking call is listed, a bind is neither
    cases c with
    | setReadTimeout d => exact ih (.set d) w
    | setWriteTimeout d => exact ih r (.set d)
    | bindUdp _ => exact ih r w
    | _ => exact congrArg (List.cons _) (ih r w)

theorem boundsAfter_append (h1 h2 : List Call) : ∀ (b : Bound × Bound),
    boundsAfter b (h1 ++ h2) = boundsAfter (boundsAfter b h1) h2 := by
  induction h1 with
  | nil => intro b; rfl
  | cons c rest ih =>
    intro b
    cases c with
    | setReadTimeout d => exact ih (.set d, b.2)
    | setWriteTimeout d => exact ih (b.1, .set d)
    | _ => exact ih b

/-- sends and receives: the calls that neither open the socket nor touch its options -/
def Call.isIo : Call → Bool
  | .sendTo _ _ | .recvFrom _ | .write _ | .read _ => true
  | _ => false

theorem boundsAfter_io (l : List Call) (hio : ∀ c ∈ l, c.isIo = true) : ∀ (b : Bound × Bound), boundsAfter b l = b := by
  induction l with
  | nil => intro b; rfl
  | cons c rest ih =>
    intro b
    have hc := hio c (List.mem_cons_self ..)
    have hr := ih (fun c hc => hio c (List.mem_cons_of_mem _ hc)) b
    cases c with
    | sendTo _ _ | recvFrom _ | write _ | read _ => exact hr
    | _ => cases hc

theorem timedByAux_io (l : List Call) (hio : ∀ c ∈ l, c.isIo = true) (r w : Bound) :
    ∀ b ∈ timedByAux r w l, b = .send w ∨ b = .recv r := by
  induction l with
  | nil => intro b hb; cases hb
  | cons c rest ih =>
    intro b hb
    have hc := hio c (List.mem_cons_self ..)
    have hr := ih (fun c hc => hio c (List.mem_cons_of_mem _ hc)) b
    cases c with
    | sendTo _ _ | write _ =>
      rcases List.mem_cons.mp hb with rfl | hb
      · exact Or.inl rfl
      · exact hr hb
    | recvFrom _ | read _ =>
      rcases List.mem_cons.mp hb with rfl | hb
      · exact Or.inr rfl
      · exact hr hb
    | _ => cases hc

theorem reads_io (lens : List Nat) : ∀ c ∈ lens.map Call.read, c.isIo = true :=
  List.forall_mem_map.mpr fun _ _ => rfl

/-- the payloads handed to `send_to` / `write`, in order -/
def dataSent : List Call → List Bytes
  | [] => []
  | .sendTo d _ :: r => d :: dataSent r
  | .write d :: r => d :: dataSent r
  | _ :: r => dataSent r

def Op.payload : Op → Option Bytes
  | .send d => some d
  | .receive _ => none

theorem dataSent_append (h1 h2 : List Call) : dataSent (h1 ++ h2) = dataSent h1 ++ dataSent h2 := by
  induction h1 with
  | nil => rfl
  | cons c r ih =>
    cases c with
    | sendTo d _ | write d => exact congrArg (List.cons d) ih
    | _ => exact ih

theorem dataSent_reads (lens : List Nat) : dataSent (lens.map Call.read) = [] := by
  induction lens with
  | nil => rfl
  | cons n r ih => exact ih

/-- where the calls of a history that name a remote address point -/
def destinations : List Call → List Addr
  | [] => []
  | .connect r :: rest => r :: destinations rest
  | .connectTimeout r _ :: rest => r :: destinations rest
  | .sendTo _ r :: rest => r :: destinations rest
  | _ :: rest => destinations rest

theorem destinations_append (h1 h2 : List Call) : destinations (h1 ++ h2) = destinations h1 ++ destinations h2 := by
  induction h1 with
  | nil => rfl
  | cons c r ih =>
    cases c with
    | connect x | connectTimeout x _ | sendTo _ x => exact congrArg (List.cons x) ih
    | _ => exact ih

theorem destinations_reads (lens : List Nat) : destinations (lens.map Call.read) = [] := by
  induction lens with
  | nil => rfl
  | cons n r ih => exact ih

/-- `vec![0; size]` / `Vec::with_capacity(size)` panic before any call is made -/
theorem step_receive_overflow (k : Kind) (os : Os) (a : Addr) (size : Option Nat) (h : List Call)
    (hs : CAPACITY_LIMIT ≤ size.getD DEFAULT_PACKET_SIZE) : step k os a (.receive size) h = (.crash, h) := by
  cases k <;> simp only [step, udpReceive, tcpReceive, hs, ↓reduceIte]

theorem step_calls (k : Kind) (os : Os) (a : Addr) (op : Op) (h : List Call) :
    ∃ added, (step k os a op h).2 = h ++ added ∧ (∀ c ∈ added, c.isIo = true)
      ∧ dataSent added = op.payload.toList ∧ ∀ r ∈ destinations added, r = a := by
  cases op with
  | send d =>
    cases k with
    | udp =>
      refine ⟨[.sendTo d a], ?_, List.forall_mem_singleton.mpr rfl, rfl, List.forall_mem_singleton.mpr rfl⟩
      simp only [step, udpSend]
      cases os.sendTo h d a <;> rfl
    | tcp =>
      refine ⟨[.write d], ?_, List.forall_mem_singleton.mpr rfl, rfl, fun _ hr => nomatch hr⟩
      simp only [step, tcpSend]
      cases os.write h d <;> rfl
  | receive size =>
    by_cases hs : size.getD DEFAULT_PACKET_SIZE < CAPACITY_LIMIT
    · cases k with
      | udp =>
        obtain ⟨r, _, e⟩ := udpReceive_cases os size h hs
        exact ⟨_, congrArg Prod.snd e, List.forall_mem_singleton.mpr rfl, rfl, fun _ hr => nomatch hr⟩
      | tcp =>
        obtain ⟨lens, e⟩ := tcpReceive_eq os size h hs
        refine ⟨_, congrArg Prod.snd e, reads_io lens, dataSent_reads lens, ?_⟩
        rw [destinations_reads]
        exact fun _ hr => nomatch hr
    · refine ⟨[], ?_, (fun _ hc => nomatch hc), rfl, fun _ hr => nomatch hr⟩
      rw [step_receive_overflow k os a size h (Nat.le_of_not_lt hs), List.append_nil]

def Op.sizeOk : Op → Prop
  | .send _ => True
  | .receive size => size.getD DEFAULT_PACKET_SIZE < CAPACITY_LIMIT

theorem step_not_crash (k : Kind) (os : Os) (a : Addr) (op : Op) (h : List Call) (hs : op.sizeOk) :
    (step k os a op h).1 ≠ .crash := by
  cases op with
  | send d =>
    cases k with
    | udp => simp only [step, udpSend]; cases os.sendTo h d a <;> simp
    | tcp => simp only [step, tcpSend]; cases os.write h d <;> simp
  | receive size =>
    cases k with
    | udp =>
      obtain ⟨r, hr, e⟩ := udpReceive_cases os size h hs
      simp only [step, e]
      exact hr
    | tcp =>
      obtain ⟨lens, e⟩ := tcpReceive_eq os size h hs
      simp only [step, e]
      exact outcome_not_crash _ _

theorem runOps_cons_crash (k : Kind) (os : Os) (a : Addr) (op : Op) (rest : List Op) (h : List Call)
    (hc : (step k os a op h).1 = .crash) : runOps k os a (op :: rest) h = ([.crash], (step k os a op h).2) := by
  simp only [runOps]
  cases hx : step k os a op h with
  | mk r h1 => rw [hx] at hc; simp only at hc; subst hc; rfl

theorem runOps_cons (k : Kind) (os : Os) (a : Addr) (op : Op) (rest : List Op) (h : List Call)
    (hc : (step k os a op h).1 ≠ .crash) :
    runOps k os a (op :: rest) h
      = ((step k os a op h).1 :: (runOps k os a rest (step k os a op h).2).1, (runOps k os a rest (step k os a op h).2).2) := by
  -- the first alternative of the `match` on the result of `step` is ruled out by `hc`
  simp only [runOps]

theorem runOps_inv (k : Kind) (os : Os) (a : Addr) (P : List Call → Prop)
    (hstep : ∀ op h, P h → P (step k os a op h).2) : ∀ (ops : List Op) (h : List Call), P h → P (runOps k os a ops h).2 := by
  intro ops
  induction ops with
  | nil => intro h hh; exact hh
  | cons op rest ih =>
    intro h hh
    by_cases hc : (step k os a op h).1 = .crash
    · rw [runOps_cons_crash k os a op rest h hc]; exact hstep op h hh
    · rw [runOps_cons k os a op rest h hc]; exact ih _ (hstep op h hh)

theorem runOps_hist (k : Kind) (os : Os) (a : Addr) (ops : List Op) (h : List Call) :
    ∃ added, (runOps k os a ops h).2 = h ++ added ∧ ∀ c ∈ added, c.isIo = true := by
  refine runOps_inv k os a (fun h' => ∃ added, h' = h ++ added ∧ ∀ c ∈ added, c.isIo = true) ?_ ops h ⟨[], by simp, by simp⟩
  intro op h1 ⟨ad1, e1, io1⟩
  obtain ⟨ad2, e2, io2, _⟩ := step_calls k os a op h1
  refine ⟨ad1 ++ ad2, by rw [e2, e1, List.append_assoc], ?_⟩
  intro c hc
  rcases List.mem_append.mp hc with hc | hc
  · exact io1 c hc
  · exact io2 c hc

theorem runOps_destinations (k : Kind) (os : Os) (a : Addr) (ops : List Op) (h : List Call)
    (hh : ∀ r ∈ destinations h, r = a) : ∀ r ∈ destinations (runOps k os a ops h).2, r = a := by
  refine runOps_inv k os a (fun h' => ∀ r ∈ destinations h', r = a) ?_ ops h hh
  intro op h1 hh1 r hr
  obtain ⟨added, e, _, _, hd⟩ := step_calls k os a op h1
  rw [e, destinations_append] at hr
  rcases List.mem_append.mp hr with hr | hr
  · exact hh1 r hr
  · exact hd r hr

theorem runOps_sent (k : Kind) (os : Os) (a : Addr) : ∀ (ops : List Op) (h : List Call), (∀ op ∈ ops, op.sizeOk) →
    dataSent (runOps k os a ops h).2 = dataSent h ++ ops.filterMap Op.payload
    ∧ ∀ r ∈ (runOps k os a ops h).1, r ≠ .crash := by
  intro ops
  induction ops with
  | nil => intro h _; simp [runOps]
  | cons op rest ih =>
    intro h hs
    have hnc := step_not_crash k os a op h (hs op (List.mem_cons_self ..))
    obtain ⟨i1, i2⟩ := ih (step k os a op h).2 (fun o ho => hs o (List.mem_cons_of_mem _ ho))
    obtain ⟨added, e, _, hd, _⟩ := step_calls k os a op h
    rw [runOps_cons k os a op rest h hnc]
    refine ⟨?_, ?_⟩
    · rw [i1, e, dataSent_append, hd, List.append_assoc]
      cases op <;> rfl
    · intro r hr
      rcases List.mem_cons.mp hr with rfl | hr
      · exact hnc
      · exact i2 r hr

theorem session_fst (k : Kind) (os : Os) (a : Addr) (t : Option Timeout) (ops : List Op) :
    (session k os a t ops).1 = (sockNew k os a t []).1 := by
  unfold session
  cases sockNew k os a t [] with
  | mk r h => cases r <;> rfl

/-- A session is a failed `new` — no operation is run, and the calls are the opening call and the setters up to the
one that failed — or the operations run after the three calls of a successful `new`. -/
theorem session_cases (k : Kind) (os : Os) (a : Addr) (t : Option Timeout) (ops : List Op) :
    (∃ r h, r ≠ .ok () ∧ session k os a t ops = (r, [], h)
      ∧ (h = [openCall k a t] ∨ h = [openCall k a t, .setReadTimeout (readAndWriteOrDefaults t).1]
        ∨ h = [openCall k a t, .setReadTimeout (readAndWriteOrDefaults t).1, .setWriteTimeout (readAndWriteOrDefaults t).2]))
    ∨ session k os a t ops = (.ok (), runOps k os a ops [openCall k a t, .setReadTimeout (readAndWriteOrDefaults t).1,
        .setWriteTimeout (readAndWriteOrDefaults t).2]) := by
  unfold session
  rcases sockNew_cases k os a t [] with ⟨e, hn⟩ | ⟨_, hn⟩ | ⟨_, hn⟩ | hn <;> rw [hn]
  · exact Or.inl ⟨_, _, by simp, rfl, Or.inl rfl⟩
  · exact Or.inl ⟨_, _, by simp, rfl, Or.inr (Or.inl rfl)⟩
  · exact Or.inl ⟨_, _, by simp, rfl, Or.inr (Or.inr rfl)⟩
  · exact Or.inr rfl

/-- std's contract for the two setters: "An Err is returned if the zero Duration is passed" — and for nothing else on a
socket the caller owns (huge durations are clamped by std). -/
def SettersFailOnlyOnZero (os : Os) : Prop :=
  (∀ h d k, os.setRead h d = .error k → zeroOpt d = true) ∧ (∀ h d k, os.setWrite h d = .error k → zeroOpt d = true)

theorem applyTimeout_not_crash (os : Os) (hos : SettersFailOnlyOnZero os) (t : Option Timeout) (h : List Call)
    (hr : zeroOpt (readAndWriteOrDefaults t).1 = false) (hw : zeroOpt (readAndWriteOrDefaults t).2 = false) :
    (applyTimeout os t h).1 = .ok () := by
  rcases applyTimeout_cases os t h with ⟨⟨e, he⟩, _⟩ | ⟨⟨e, he⟩, _⟩ | e
  · have := hos.1 _ _ _ he; rw [hr] at this; cases this
  · have := hos.2 _ _ _ he; rw [hw] at this; cases this
  · rw [e]

/-- an instance for the non-vacuity examples: a system on which everything succeeds, nothing is ever delivered, and std
refuses a zero duration -/
def quietOs : Os := ⟨fun _ _ => .ok (), fun _ _ _ => .ok (), fun _ d => if zeroOpt d then .error .invalidInput else .ok (),
  fun _ d => if zeroOpt d then .error .invalidInput else .ok (), fun _ d _ => .ok d.length,
  fun _ _ => .error .wouldBlock, fun _ d => .ok d.length, fun _ => .fail .wouldBlock .closed, fun _ _ => 0⟩

theorem quietOs_contract : SettersFailOnlyOnZero quietOs := by
  constructor <;> intro h d k hk <;> simp only [quietOs] at hk <;> split at hk <;> simp_all

end Gd.SockRs
