import GdVerif.Lemmas.QLogic
import GdVerif.Lemmas.Reader
import GdVerif.Lemmas.Text
import GdVerif.Proto.Gs1
import GdVerif.Proto.Gs2
/-
  Crash-freedom and wire-conformance of the GameSpy 1 and GameSpy 2 query models, through `open_then_safe`
  (generic in the protocol): a query that opens one UDP socket and then runs a body that is `QSafe` for that socket.
-/
namespace Gd

/-- what a query that opens one UDP socket to `port` (it becomes socket `id`) may log, given what
its body may log on that socket -/
def OpenEvOk (port id : Nat) (P : Sock → Ev → Prop) : Ev → Prop
  | .opened c tcp p _ => c = id ∧ tcp = false ∧ p = port
  | e => P ⟨id, port, false⟩ e

theorem open_then_safe {α : Type} (port : Nat) (P : Sock → Ev → Prop) (body : Sock → Q α)
    (hP : ∀ s c tcp p r, ¬ P s (.opened c tcp p r))
    (hbody : ∀ s : Sock, s.tcp = false → s.port = port → QSafe s (P s) (body s)) (w : Net) :
    ((openSock false port >>= body) w).1 ≠ .crash
    ∧ ∃ added, ((openSock false port >>= body) w).2.log = w.log ++ added
        ∧ ∀ e ∈ added, OpenEvOk port w.conns.length P e := by
  refine openThen_safe false port (fun id => OpenEvOk port id P) (fun _ _ => ⟨rfl, rfl, rfl⟩) (fun s hp ht => ?_) w
  refine (hbody s ht hp).mono fun e he => ?_
  obtain ⟨id, p, t⟩ := s
  cases hp
  cases ht
  cases e with
  | opened c tcp p r => exact (hP _ _ _ _ _ he).elim
  | send => exact he
  | recv => exact he

end Gd

-- `gamespy/common.rs` (GameSpy 1 and 2)
namespace Gd.Gs

theorem passwordValue_ne (v : Bytes) : passwordValue v ≠ .crash := by
  unfold passwordValue
  split
  · simp
  · split <;> simp

theorem hasPassword_ne (m : Map Bytes) : hasPassword m ≠ .crash := by
  unfold hasPassword
  split
  · simp
  · rename_i v _
    have := passwordValue_ne v
    split
    · simp
    · simp
    · rename_i h; exact absurd h this

end Gd.Gs

namespace Gd.Gs1
open Gd Gd.Gs

theorem parseQueryId_ne (n : Nat) (q : Option Bytes) : parseQueryId n q ≠ .crash := by
  unfold parseQueryId
  cases q with
  | none => simp
  | some qid =>
    simp only
    cases hs : splitOn 46 qid with
    | nil => exact absurd hs (splitOn_ne_nil _ _)
    | cons a rest =>
      simp only
      cases parseUnsigned 64 a with
      | none => simp
      | some id =>
        simp only
        split
        · simp
        · split <;> simp
        · simp

theorem processPacket_ne (st : LoopSt) (data : Bytes) : processPacket st data ≠ .crash := by
  unfold processPacket
  have h1 := Safe.run_ne_crash safe_readCStr data
  generalize readCStr.run data = r at h1 ⊢
  cases r with
  | crash => exact absurd rfl h1
  | err k => nofun
  | ok s =>
    refine Res.ite_ne_crash nofun ?_
    have h2 := parseQueryId_ne st.parts.length (mapGet (mapRemove (insertAll st.vals (textPairs s)) kFinal) kQueryId)
    simp only
    generalize parseQueryId _ _ = q at h2 ⊢
    cases q with
    | crash => exact absurd rfl h2
    | err k => nofun
    | ok x => exact Res.ite_ne_crash nofun (Res.ite_ne_crash nofun nofun)

/-- what the GameSpy 1 client may do with its socket: send the status request, receive into the
2048-byte buffer -/
def EvOk (s : Sock) : Ev → Prop
  | .send c port data _ => c = s.id ∧ port = s.port ∧ data = statusRequest
  | .recv c size _ => c = s.id ∧ size = some 2048
  | .opened _ _ _ _ => False

theorem qsafe_recv (s : Sock) : QSafe s (EvOk s) (recv s (some PACKET_SIZE)) :=
  QSafe.recv s _ _ fun _ => ⟨rfl, rfl⟩

/-- the receive loop never runs out of fuel: every round consumes a queued delivery -/
theorem qsafe_recvLoop (s : Sock) (hudp : s.tcp = false) :
    ∀ (fuel : Nat) (st : LoopSt) (w : Net), IsOpen s w → qlen w s.id < fuel →
      (recvLoop s fuel st w).1 ≠ .crash ∧ Step (EvOk s) w (recvLoop s fuel st w).2 := by
  intro fuel
  induction fuel with
  | zero => intro _ w _ h; omega
  | succ fuel ih =>
    intro st w hopen hq
    unfold recvLoop
    split
    · exact ⟨by simp, Step.refl _ _⟩
    · refine QSafe.bind_at (qsafe_recv s w hopen) fun data w1 hr hs => ?_
      have hcons := recv_ok_consumes s hudp _ w w1 data hopen hr
      refine QSafe.bind_at ⟨processPacket_ne st data, Step.refl _ w1⟩ fun st' w2 hl _ => ?_
      cases (Prod.ext_iff.mp hl).2
      exact ih st' w1 (hopen.step hs) (by omega)

theorem qsafe_getServerValuesImpl (s : Sock) (hudp : s.tcp = false) :
    QSafe s (EvOk s) (getServerValuesImpl s) := by
  unfold getServerValuesImpl
  refine QSafe.bind (QSafe.send s _ _ fun _ => ⟨rfl, rfl, rfl⟩) fun _ => ?_
  intro w hopen
  exact qsafe_recvLoop s hudp (queued s w + 1) LoopSt.init w hopen (by simp [queued, qlen])

theorem optField_ne (o : Option Bytes) (f : Bytes → Res α) (hf : ∀ v, f v ≠ .crash) : optField o f ≠ .crash := by
  unfold optField
  cases o with
  | none => simp
  | some v =>
    simp only
    have := hf v
    cases h : f v with
    | ok a => simp
    | err k => simp
    | crash => exact absurd h this

theorem trimParseU_ne (bits : Nat) (v : Bytes) : trimParseU bits v ≠ .crash := okOr_ne_crash _ _
theorem trimParseI_ne (bits : Nat) (v : Bytes) : trimParseI bits v ≠ .crash := okOr_ne_crash _ _

theorem buildPlayer_ne (d : Map Bytes) : buildPlayer d ≠ .crash := by
  unfold buildPlayer
  refine Res.bind_ne_crash ?_ fun _ => Res.bind_ne_crash (optField_ne _ _ (trimParseU_ne 8)) fun _ =>
    Res.bind_ne_crash (okOr_ne_crash _ _) fun _ => Res.bind_ne_crash (trimParseU_ne _ _) fun _ =>
    Res.bind_ne_crash (okOr_ne_crash _ _) fun _ => Res.bind_ne_crash (trimParseI_ne _ _) fun _ =>
    Res.bind_ne_crash (optField_ne _ _ (trimParseU_ne 32)) fun _ =>
    Res.bind_ne_crash (optField_ne _ _ (trimParseU_ne 32)) fun _ =>
    Res.bind_ne_crash (optField_ne _ _ fun _ => okOr_ne_crash _ _) fun _ => by simp
  split
  · simp
  · exact okOr_ne_crash _ _

theorem buildPlayers_ne (l : List (Map Bytes)) : buildPlayers l ≠ .crash := by
  induction l with
  | nil => simp [buildPlayers]
  | cons d r ih =>
    unfold buildPlayers
    exact Res.bind_ne_crash (buildPlayer_ne d) fun _ => Res.bind_ne_crash ih fun _ => by simp

theorem extractPlayers_ne (vars : Map Bytes) : extractPlayers vars ≠ .crash := by
  unfold extractPlayers
  simp only
  split
  · simp
  · have := buildPlayers_ne (List.foldl (retainStep vars.length) ⟨[], [], false⟩ vars).pd
    split
    · simp
    · simp
    · rename_i h; exact absurd h this

theorem buildResponse_ne (vars : Map Bytes) : buildResponse vars ≠ .crash := by
  unfold buildResponse
  refine Res.bind_ne_crash (okOr_ne_crash _ _) fun _ => Res.bind_ne_crash (okOr_ne_crash _ _) fun _ =>
    Res.bind_ne_crash (optField_ne _ _ fun _ => okOr_ne_crash _ _) fun _ =>
    Res.bind_ne_crash (extractPlayers_ne _) fun x => ?_
  obtain ⟨players, vars1⟩ := x
  refine Res.bind_ne_crash (okOr_ne_crash _ _) fun _ => Res.bind_ne_crash (okOr_ne_crash _ _) fun _ => ?_
  refine Res.bind_ne_crash (hasPassword_ne _) fun y => ?_
  obtain ⟨pw, vars2⟩ := y
  exact Res.bind_ne_crash (okOr_ne_crash _ _) fun _ => Res.bind_ne_crash (okOr_ne_crash _ _) fun _ =>
    Res.bind_ne_crash (okOr_ne_crash _ _) fun _ => by simp

/-- the bodies of `query_vars` and `query` after the socket has been opened -/
def varsBody (retries : Nat) (s : Sock) : Q (Map Bytes) := retryOnTimeout retries (getServerValuesImpl s)

def queryBody (retries : Nat) (s : Sock) : Q Response := do
  let vars ← varsBody retries s
  Q.lift (buildResponse vars)

theorem queryVars_eq (port retries : Nat) : queryVars port retries = (openSock false port >>= varsBody retries) := rfl

theorem query_eq (port retries : Nat) : query port retries = (openSock false port >>= queryBody retries) := by
  unfold query queryVars queryBody varsBody
  exact Q.bind_assoc _ _ _

theorem qsafe_varsBody (retries : Nat) (s : Sock) (hudp : s.tcp = false) : QSafe s (EvOk s) (varsBody retries s) :=
  QSafe.retry (qsafe_getServerValuesImpl s hudp) retries

theorem qsafe_queryBody (retries : Nat) (s : Sock) (hudp : s.tcp = false) : QSafe s (EvOk s) (queryBody retries s) :=
  QSafe.bind (qsafe_varsBody retries s hudp) fun vars => QSafe.lift _ _ _ (buildResponse_ne vars)

/-- what the whole query may log -/
abbrev QueryEvOk (port id : Nat) : Ev → Prop := OpenEvOk port id EvOk

theorem query_safe (port retries : Nat) (w : Net) :
    (query port retries w).1 ≠ .crash
    ∧ ∃ added, (query port retries w).2.log = w.log ++ added ∧ ∀ e ∈ added, QueryEvOk port w.conns.length e := by
  rw [query_eq]
  exact open_then_safe port EvOk (queryBody retries) (fun _ _ _ _ _ h => h)
    (fun s hudp _ => qsafe_queryBody retries s hudp) w

theorem queryVars_safe (port retries : Nat) (w : Net) :
    (queryVars port retries w).1 ≠ .crash
    ∧ ∃ added, (queryVars port retries w).2.log = w.log ++ added ∧ ∀ e ∈ added, QueryEvOk port w.conns.length e := by
  rw [queryVars_eq]
  exact open_then_safe port EvOk (varsBody retries) (fun _ _ _ _ _ h => h)
    (fun s hudp _ => qsafe_varsBody retries s hudp) w

end Gd.Gs1

namespace Gd

theorem readCStr_lt {b b' : Buf} {s : Bytes} (h : readCStr b = .ok (s, b')) (hb : 0 < b.remaining ∨ s ≠ []) :
    b'.remaining < b.remaining := by
  refine readStrUntil_progress 0 b b' s h fun hr => ?_
  rcases hb with hb | hb
  · simp [Buf.remaining, hr] at hb
  · have hv : validUtf8 [] = true := rfl
    simp only [readCStr, readStringWith, utf8Dec, hr, findByte, List.take_nil, hv, Bool.true_eq_false, ↓reduceIte] at h
    cases h
    exact hb rfl

end Gd

namespace Gd.Gs2
open Gd Gd.Gs

theorem safe_currentPosition : Safe currentPosition := fun _ => rfl

theorem safe_checkHeader : Safe checkHeader := by
  unfold checkHeader
  refine Safe.bind (safe_readUnsigned _ _) fun h => ?_
  split
  · exact Safe.fail _
  · refine Safe.bind (safe_readUnsigned _ _) fun id => ?_
    split
    · exact Safe.fail _
    · exact safe_currentPosition

theorem safe_serverVarsStep (m : Map Bytes) : Safe (serverVarsStep m) := by
  unfold serverVarsStep
  refine Safe.bind safe_readCStr fun key => Safe.bind safe_readCStr fun value => ?_
  split
  · split
    · exact Safe.bind (safe_moveCursor _) fun _ => Safe.pure _
    · exact Safe.pure _
  · exact Safe.pure _

theorem serverVarsStep_progress (m m' : Map Bytes) (b b' : Buf) (hpos : 0 < b.remaining)
    (h : serverVarsStep m b = .ok ((m', false), b')) : b'.remaining < b.remaining := by
  unfold serverVarsStep at h
  obtain ⟨key, b1, h1, h⟩ := Par.bind_ok_inv h
  obtain ⟨value, b2, h2, h⟩ := Par.bind_ok_inv h
  have m1 := readCStr_lt h1 (.inl hpos)
  have m2 := noGrow_readCStr _ _ _ h2
  have hb : b' = b2 := by
    split at h
    · split at h
      · -- the branch that steps back returns `true`
        obtain ⟨_, _, _, h⟩ := Par.bind_ok_inv h
        cases h
      · cases h; rfl
    · cases h; rfl
  rw [hb]
  omega

theorem safe_serverVarsLoop : ∀ (fuel : Nat) (m : Map Bytes) (b : Buf), b.remaining < fuel →
    Post b (serverVarsLoop fuel m b) := by
  intro fuel
  induction fuel with
  | zero => intro m b h; omega
  | succ n ih =>
    intro m b h
    simp only [serverVarsLoop]
    split
    · rfl
    · rename_i hrem
      have hs := safe_serverVarsStep m b
      cases hb : serverVarsStep m b with
      | crash => rw [hb] at hs; exact hs.elim
      | err k => trivial
      | ok x =>
        obtain ⟨⟨m', done⟩, b'⟩ := x
        rw [hb] at hs
        simp only [Post] at hs
        simp only
        cases done with
        | true => simp only [↓reduceIte, Post]; exact hs
        | false =>
          simp only [Bool.false_eq_true, ↓reduceIte]
          have hpos : 0 < b.remaining := by
            simp only [beq_iff_eq] at hrem
            omega
          have hp := serverVarsStep_progress m m' b b' hpos hb
          exact (ih m' b' (by omega)).of_data hs

theorem safe_getServerVars : Safe getServerVars := by
  intro b
  unfold getServerVars
  have := safe_serverVarsLoop (b.remaining + 1) [] b (by omega)
  cases h : serverVarsLoop (b.remaining + 1) [] b with
  | ok x => obtain ⟨m, b'⟩ := x; rw [h] at this; simpa [Post] using this
  | err k => trivial
  | crash => rw [h] at this; exact this.elim

theorem safe_headsLoop : ∀ (fuel : Nat) (acc : List Bytes) (cur : Bytes) (b : Buf),
    0 < fuel → (cur ≠ [] → b.remaining + 2 ≤ fuel) → Post b (headsLoop fuel acc cur b) := by
  intro fuel
  induction fuel with
  | zero => intro _ _ _ h; omega
  | succ n ih =>
    intro acc cur b _ hinv
    simp only [headsLoop]
    split
    · rfl
    · rename_i hne
      have hfuel := hinv fun hc => hne (by simp [hc])
      refine Post.bind (safe_readCStr b) fun next b1 hr => ?_
      exact ih (acc ++ [cur]) next b1 (by omega) fun hn => by
        have := readCStr_lt hr (.inr hn)
        omega

theorem safe_readHeads : Safe readHeads := by
  intro b
  unfold readHeads
  have hs := safe_readCStr b
  cases hr : readCStr b with
  | crash => rw [hr] at hs; exact hs.elim
  | err k => trivial
  | ok x =>
    obtain ⟨first, b1⟩ := x
    rw [hr] at hs
    exact (safe_headsLoop (b.remaining + 1) [] first b1 (by omega) fun hn => by
      have := readCStr_lt hr (.inr hn)
      omega).of_data hs

theorem tablePush_ne (t : Table) (c v : Bytes) : tablePush t c v ≠ .crash := by
  unfold tablePush; split <;> simp

theorem safe_readRow : ∀ (heads : List Bytes) (t : Table), Safe (readRow heads t) := by
  intro heads
  induction heads with
  | nil => intro t; exact Safe.pure _
  | cons c r ih =>
    intro t
    simp only [readRow]
    exact Safe.bind safe_readCStr fun v => Safe.bind (Safe.lift _ (by
      have := tablePush_ne t c v
      cases h : tablePush t c v <;> simp_all [Res.isCrash])) fun t' => ih t'

theorem safe_readRows (heads : List Bytes) : ∀ (n : Nat) (t : Table), Safe (readRows heads n t) := by
  intro n
  induction n with
  | zero => intro t; exact Safe.pure _
  | succ n ih =>
    intro t
    simp only [readRows]
    exact Safe.bind (safe_readRow heads t) fun t' => ih t'

theorem safe_dataAsTable : Safe dataAsTable := by
  unfold dataAsTable
  refine Safe.bind (safe_readUnsigned _ _) fun z => ?_
  split
  · exact Safe.fail _
  · exact Safe.bind (safe_readUnsigned _ _) fun rows => Safe.bind safe_readHeads fun heads =>
      Safe.bind (safe_readRows heads rows _) fun _ => Safe.pure _

theorem tableExtract_ne (t : Table) (name : String) (i : Nat) : tableExtract t name i ≠ .crash := by
  unfold tableExtract
  split
  · simp
  · split <;> simp

theorem tableExtractU16_ne (t : Table) (name : String) (i : Nat) : tableExtractU16 t name i ≠ .crash := by
  unfold tableExtractU16
  have := tableExtract_ne t name i
  split
  · exact okOr_ne_crash _ _
  · simp
  · rename_i h; exact absurd h this

theorem teamAt_ne (t : Table) (i : Nat) : teamAt t i ≠ .crash :=
  Res.bind_ne_crash (tableExtract_ne _ _ _) fun _ => Res.bind_ne_crash (tableExtractU16_ne _ _ _) fun _ => by simp

theorem playerAt_ne (t : Table) (i : Nat) : playerAt t i ≠ .crash :=
  Res.bind_ne_crash (tableExtract_ne _ _ _) fun _ => Res.bind_ne_crash (tableExtractU16_ne _ _ _) fun _ =>
    Res.bind_ne_crash (tableExtractU16_ne _ _ _) fun _ => Res.bind_ne_crash (tableExtractU16_ne _ _ _) fun _ => by simp

theorem collect_ne {f : Nat → Res α} (hf : ∀ i, f i ≠ .crash) : ∀ (n i : Nat), collect f i n ≠ .crash := by
  intro n
  induction n with
  | zero => intro i; simp [collect]
  | succ n ih =>
    intro i
    simp only [collect]
    exact Res.bind_ne_crash (hf i) fun _ => Res.bind_ne_crash (ih (i + 1)) fun _ => by simp

theorem safe_getTeams : Safe getTeams := by
  unfold getTeams
  refine Safe.bind safe_dataAsTable fun x => ?_
  obtain ⟨t, n⟩ := x
  exact Safe.lift_ne _ (collect_ne (teamAt_ne t) n 0)

theorem safe_getPlayers : Safe getPlayers := by
  unfold getPlayers
  refine Safe.bind safe_dataAsTable fun x => ?_
  obtain ⟨t, n⟩ := x
  exact Safe.lift_ne _ (collect_ne (playerAt_ne t) n 0)

theorem optParse_ne (o : Option Bytes) (bits : Nat) : optParse o bits ≠ .crash := by
  unfold optParse
  split
  · simp
  · split <;> simp

theorem safe_parseBody : Safe parseBody := by
  unfold parseBody
  refine Safe.bind safe_getServerVars fun vars => Safe.bind safe_getPlayers fun players => ?_
  refine Safe.bind (Safe.lift_ne _ (optParse_ne _ _)) fun _ => Safe.bind (Safe.lift_ne _ (optParse_ne _ _)) fun _ => ?_
  refine Safe.bind (Safe.lift_ne _ (okOr_ne_crash _ _)) fun _ => Safe.bind (Safe.lift_ne _ (okOr_ne_crash _ _)) fun _ => ?_
  refine Safe.bind (Safe.lift_ne _ (okOr_ne_crash _ _)) fun _ => Safe.bind safe_getTeams fun _ => ?_
  exact Safe.bind (Safe.lift_ne _ (okOr_ne_crash _ _)) fun _ => Safe.bind (Safe.lift_ne _ (okOr_ne_crash _ _)) fun _ => Safe.pure _

/-- what the GameSpy 2 client may do with its socket -/
def EvOk (s : Sock) : Ev → Prop
  | .send c port data _ => c = s.id ∧ port = s.port ∧ data = request
  | .recv c size _ => c = s.id ∧ size = some 2048
  | .opened _ _ _ _ => False

theorem qsafe_requestDataImpl (s : Sock) : QSafe s (EvOk s) (requestDataImpl s) := by
  unfold requestDataImpl
  exact QSafe.bind (QSafe.send s _ _ fun _ => ⟨rfl, rfl, rfl⟩) fun _ =>
    QSafe.bind (QSafe.recv s _ _ fun _ => ⟨rfl, rfl⟩) fun received =>
    QSafe.bind (QSafe.parse _ _ safe_checkHeader _) fun _ => QSafe.pure _ _ _

def queryBody (retries : Nat) (s : Sock) : Q Response := do
  let (data, idx) ← requestData s retries
  parse (do moveCursor (idx : Int); parseBody) data

theorem query_eq (port retries : Nat) : query port retries = (openSock false port >>= queryBody retries) := rfl

theorem qsafe_queryBody (retries : Nat) (s : Sock) : QSafe s (EvOk s) (queryBody retries s) := by
  unfold queryBody requestData
  refine QSafe.bind (QSafe.retry (qsafe_requestDataImpl s) retries) fun x => ?_
  obtain ⟨data, idx⟩ := x
  exact QSafe.parse _ _ (Safe.bind (safe_moveCursor _) fun _ => safe_parseBody) _

abbrev QueryEvOk (port id : Nat) : Ev → Prop := OpenEvOk port id EvOk

theorem query_safe (port retries : Nat) (w : Net) :
    (query port retries w).1 ≠ .crash
    ∧ ∃ added, (query port retries w).2.log = w.log ++ added ∧ ∀ e ∈ added, QueryEvOk port w.conns.length e := by
  rw [query_eq]
  exact open_then_safe port EvOk (queryBody retries) (fun _ _ _ _ _ h => h)
    (fun s _ _ => qsafe_queryBody retries s) w

end Gd.Gs2
