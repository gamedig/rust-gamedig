import GdVerif.Lemmas.Gs3
/-
  GameSpy 3: what the tables hold after all slices of a well-formed reply have been applied,
  and that the rows built from them are the SPEC's players and teams.
-/
namespace Gd.Gs3
open Gd Gd.Gs3.Spec

def cell (data : List Vars) (i : Nat) (f : Bytes) : Option Bytes := mapGet (data.getD i []) f

/-- this model's own copy of `mapGet` -/
theorem mapGet_eq (m : Vars) (k : Bytes) : mapGet m k = Gs.mapGet m k := by
  induction m with
  | nil => rfl
  | cons p r ih => simp only [mapGet, Gs.mapGet, ih]

theorem mapGet_mapInsert (m : Vars) (k v f : Bytes) :
    mapGet (Valve.mapInsert m k v) f = if f = k then some v else mapGet m f := by
  rw [mapGet_eq, Valve.mapInsert_eq, Gs.mapGet_mapInsert', mapGet_eq]
  simp only [eq_comm]

theorem put_length (data : List Vars) (off : Nat) (name v : Bytes) :
    (put data off name v).length = max data.length (off + 1) := by
  simp [put]; omega

theorem put_cell (data : List Vars) (off : Nat) (name v : Bytes) (i : Nat) (f : Bytes) :
    cell (put data off name v) i f = if i = off ∧ f = name then some v else cell data i f := by
  unfold cell put
  simp only
  rw [List.getD_eq_getElem?_getD, List.getElem?_set]
  have hlen : off < (data ++ List.replicate (off + 1 - data.length) ([] : Vars)).length := by simp; omega
  by_cases hi : off = i
  · subst hi
    simp only [hlen, ↓reduceIte, Option.getD_some, mapGet_mapInsert, getD_append_replicate, true_and]
  · have hi' : ¬ i = off := fun e => hi e.symm
    simp only [hi, ↓reduceIte, hi', false_and]
    rw [← List.getD_eq_getElem?_getD, getD_append_replicate]

theorem putAll_length (name : Bytes) (vals : List Bytes) : ∀ (data : List Vars) (off : Nat),
    (putAll name data off vals).length = max data.length (if vals = [] then 0 else off + vals.length) := by
  induction vals with
  | nil => intro data off; simp [putAll]
  | cons v r ih =>
    intro data off
    simp only [putAll, ih, put_length, List.length_cons]
    cases r <;> simp <;> omega

theorem putAll_cell (name : Bytes) (vals : List Bytes) : ∀ (data : List Vars) (off i : Nat) (f : Bytes),
    cell (putAll name data off vals) i f
      = if f = name ∧ off ≤ i ∧ i < off + vals.length then some (vals.getD (i - off) []) else cell data i f := by
  induction vals with
  | nil => intro data off i f; simp only [putAll, List.length_nil, Nat.add_zero]; split <;> first | omega | rfl
  | cons v r ih =>
    intro data off i f
    simp only [putAll, ih, put_cell, List.length_cons]
    by_cases hf : f = name
    · subst hf
      by_cases h1 : off + 1 ≤ i ∧ i < off + 1 + r.length
      · have h2 : off ≤ i ∧ i < off + (r.length + 1) := by omega
        have h3 : i - off = (i - (off + 1)) + 1 := by omega
        simp [h1, h2, h3]
      · by_cases h4 : i = off
        · subst h4
          have h5 : ¬ (i + 1 ≤ i ∧ i < i + 1 + r.length) := by omega
          simp [h5]
        · have h2 : ¬ (off ≤ i ∧ i < off + (r.length + 1)) := by omega
          simp [h1, h2, h4]
    · simp [hf]

def tbl (t : Tables) (team : Bool) : List Vars := if team then t.teams else t.players

theorem tbl_applyValues (t : Tables) (team' team : Bool) (name : Bytes) (off : Nat) (vals : List Bytes) :
    tbl (applyValues t team' name off vals) team
      = if team = team' then putAll name (tbl t team) off vals else tbl t team := by
  cases team <;> cases team' <;> simp [tbl, applyValues]

/-- everything stored in a table is a value of the state's column of that name at that row, and the
table has no rows beyond the state's -/
def Sound (st : State) (team : Bool) (n : Nat) (data : List Vars) : Prop :=
  (∀ i f v, cell data i f = some v → ∃ col, column st team f = some col ∧ i < n ∧ col.getD i [] = v)
  ∧ data.length ≤ max 1 n

def ColumnsOf (st : State) (team : Bool) (n : Nat) : Prop :=
  ∀ f col, column st team f = some col → col.length = n

theorem sliceValues_getD (st : State) (sl : Slice) (col : List Bytes) (hc : column st sl.team sl.field = some col)
    (j : Nat) (hj : j < sl.count) : (sliceValues st sl).getD j [] = col.getD (sl.offset + j) [] := by
  simp only [sliceValues, hc, Option.getD_some, List.getD_eq_getElem?_getD, List.getElem?_take, hj, ↓reduceIte,
    List.getElem?_drop]

theorem sliceValues_length (st : State) (sl : Slice) (col : List Bytes) (hc : column st sl.team sl.field = some col)
    (hle : sl.offset + sl.count ≤ col.length) : (sliceValues st sl).length = sl.count := by
  simp only [sliceValues, hc, Option.getD_some, List.length_take, List.length_drop]
  omega

theorem slice_column (st : State) (sl : Slice) (h : wfSlice st sl = true) :
    ∃ col, column st sl.team sl.field = some col ∧ sl.offset + sl.count ≤ col.length := by
  simp only [wfSlice, Bool.and_eq_true] at h
  cases hc : column st sl.team sl.field with
  | none => rw [hc] at h; cases h.2
  | some col => rw [hc] at h; exact ⟨col, rfl, by simpa using h.2⟩

theorem Sound.applySlice {st : State} {team : Bool} {n : Nat} {t : Tables} (hs : Sound st team n (tbl t team))
    (hcols : ColumnsOf st team n) (sl : Slice) (hwf : wfSlice st sl = true) :
    Sound st team n (tbl (applySlice st t sl) team) := by
  unfold Gd.Gs3.applySlice
  rw [tbl_applyValues]
  by_cases hteam : team = sl.team
  · subst hteam
    simp only [↓reduceIte]
    obtain ⟨col, hc, hle⟩ := slice_column st sl hwf
    have hn := hcols _ _ hc
    have hlen := sliceValues_length st sl col hc hle
    constructor
    · intro i f v hcell
      rw [putAll_cell] at hcell
      split at hcell
      · rename_i hcond
        obtain ⟨hf, h1, h2⟩ := hcond
        subst hf
        rw [hlen] at h2
        refine ⟨col, hc, by omega, ?_⟩
        cases hcell
        rw [sliceValues_getD st sl col hc _ (by omega)]
        congr 1
        omega
      · exact hs.1 i f v hcell
    · rw [putAll_length, hlen]
      have := hs.2
      split <;> omega
  · simp only [hteam, ↓reduceIte]
    exact hs

theorem Sound.foldl {st : State} {team : Bool} {n : Nat} (hcols : ColumnsOf st team n) :
    ∀ (ss : List Slice) (t : Tables), (∀ sl ∈ ss, wfSlice st sl = true) → Sound st team n (tbl t team) →
      Sound st team n (tbl (ss.foldl (Gd.Gs3.applySlice st) t) team) := by
  intro ss
  induction ss with
  | nil => intro t _ h; exact h
  | cons sl r ih =>
    intro t hwf h
    exact ih _ (fun s hs => hwf s (by simp [hs])) (h.applySlice hcols sl (hwf sl (by simp)))

theorem cell_some_applySlice (st : State) (t : Tables) (sl : Slice) (team : Bool) (i : Nat) (f : Bytes)
    (h : (cell (tbl t team) i f).isSome = true) : (cell (tbl (Gd.Gs3.applySlice st t sl) team) i f).isSome = true := by
  unfold Gd.Gs3.applySlice
  rw [tbl_applyValues]
  split
  · rw [putAll_cell]; split
    · rfl
    · exact h
  · exact h

theorem cell_some_foldl (st : State) (team : Bool) (i : Nat) (f : Bytes) : ∀ (ss : List Slice) (t : Tables),
    (cell (tbl t team) i f).isSome = true → (cell (tbl (ss.foldl (Gd.Gs3.applySlice st) t) team) i f).isSome = true := by
  intro ss
  induction ss with
  | nil => intro t h; exact h
  | cons sl r ih => intro t h; exact ih _ (cell_some_applySlice st t sl team i f h)

theorem covered_cell (st : State) (team : Bool) (f : Bytes) (i : Nat) : ∀ (ss : List Slice) (t : Tables),
    (∀ sl ∈ ss, wfSlice st sl = true) → ss.any (covers team f i) = true →
    (cell (tbl (ss.foldl (Gd.Gs3.applySlice st) t) team) i f).isSome = true := by
  intro ss
  induction ss with
  | nil => intro t _ h; simp at h
  | cons sl r ih =>
    intro t hwf h
    simp only [List.any_cons, Bool.or_eq_true] at h
    simp only [List.foldl_cons]
    by_cases hc : covers team f i sl = true
    · apply cell_some_foldl
      simp only [covers, Bool.and_eq_true, beq_iff_eq, decide_eq_true_eq] at hc
      obtain ⟨⟨⟨ht, hf⟩, h1⟩, h2⟩ := hc
      obtain ⟨col, hcol, hle⟩ := slice_column st sl (hwf sl (by simp))
      unfold Gd.Gs3.applySlice
      rw [tbl_applyValues, ht, hf]
      simp only [↓reduceIte, putAll_cell, sliceValues_length st sl col hcol hle]
      simp [h1, h2]
    · rcases h with h | h
      · exact absurd h hc
      · exact ih _ (fun s hs => hwf s (by simp [hs])) h

theorem mkRows_eq {mk : Vars → Res α} : ∀ (data : List Vars) (xs : List α), data.length = xs.length →
    (∀ i x, xs[i]? = some x → data.getD i [] ≠ [] ∧ mk (data.getD i []) = .ok x) → mkRows mk data = .ok xs := by
  intro data
  induction data with
  | nil => intro xs hl _; cases xs with
    | nil => rfl
    | cons => simp at hl
  | cons m r ih =>
    intro xs hl h
    cases xs with
    | nil => simp at hl
    | cons x xr =>
      obtain ⟨hne, hmk⟩ := h 0 x rfl
      simp only [List.getD_cons_zero] at hne hmk
      have hm : m.isEmpty = false := List.isEmpty_eq_false_iff.mpr hne
      simp only [mkRows, hm, Bool.false_eq_true, ↓reduceIte, hmk, Res.bind_ok]
      rw [ih xr (by simpa using hl) (fun i y hy => by
        have := h (i + 1) y (by simpa using hy)
        simpa using this)]
      rfl

theorem mapGet_ne_nil {m : Vars} {k v : Bytes} (h : mapGet m k = some v) : m ≠ [] := by
  intro e; subst e; simp [mapGet] at h

theorem exists_cell_of_ne_nil {m : Vars} (h : m ≠ []) : ∃ k v, mapGet m k = some v := by
  cases m with
  | nil => exact absurd rfl h
  | cons p r => exact ⟨p.1, p.2, by simp [mapGet]⟩

/-- The rows built from a sound table in which every row below `n` holds some value (`hcov`) are `xs`, when
`mk` gives `xs[i]` from row `i`.  `hlen1`: the table starts as the one empty row `[{}]`, which `mkRows` skips;
this is the whole table when `n = 0`. -/
theorem rows_of_table (st : State) (team : Bool) (n : Nat) (data : List Vars) (hs : Sound st team n data)
    (hlen1 : 1 ≤ data.length)
    (hcov : ∀ i, i < n → ∃ f, (cell data i f).isSome = true)
    {α : Type} (mk : Vars → Res α) (xs : List α) (hxs : xs.length = n)
    (hmk : ∀ i x, xs[i]? = some x → mk (data.getD i []) = .ok x) :
    mkRows mk data = .ok xs := by
  by_cases hn : n = 0
  · -- no rows: the table is the initial `[{}]`
    subst hn
    have hx : xs = [] := List.length_eq_zero_iff.mp hxs
    subst hx
    have hl : data.length = 1 := by have := hs.2; omega
    match data, hl with
    | [m], _ =>
      have hm : m = [] := by
        apply Classical.byContradiction
        intro hne
        obtain ⟨k, v, hkv⟩ := exists_cell_of_ne_nil hne
        obtain ⟨_, _, hi, _⟩ := hs.1 0 k v (by simpa [cell] using hkv)
        omega
      subst hm
      rfl
  · have hl : data.length = n := by
      have h1 := hs.2
      obtain ⟨f, hf⟩ := hcov (n - 1) (by omega)
      have : n - 1 < data.length := by
        apply Classical.byContradiction
        intro hge
        simp [cell, List.getD_eq_getElem?_getD, List.getElem?_eq_none (Nat.le_of_not_lt hge), mapGet] at hf
      omega
    apply mkRows_eq data xs (by omega)
    intro i x hx
    have hi : i < n := by
      have := (List.getElem?_eq_some_iff.mp hx).1
      omega
    obtain ⟨f, hf⟩ := hcov i hi
    refine ⟨?_, hmk i x hx⟩
    cases hc : cell data i f with
    | none => rw [hc] at hf; cases hf
    | some v => exact mapGet_ne_nil hc

end Gd.Gs3
