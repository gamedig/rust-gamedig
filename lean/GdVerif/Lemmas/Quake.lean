import GdVerif.Lemmas.Valve
import GdVerif.Lemmas.QuakeText
import GdVerif.Lemmas.Decodes
/-
  Decoding lemmas for C05: the MODEL of the Quake status reader against the SPEC encoders.
-/
namespace Gd.Quake
open Gd Gd.Quake.Spec

theorem okVarText_iff (s : Bytes) : okVarText s = true ↔ validUtf8 s = true ∧ (0x5C : UInt8) ∉ s ∧ (0x0A : UInt8) ∉ s := by
  simp [okVarText, and_assoc]

def kvList (vs : Vars) : List Bytes := vs.flatMap fun p => [p.1, p.2]

theorem kvList_cons (p : Bytes × Bytes) (r : Vars) : kvList (p :: r) = p.1 :: p.2 :: kvList r := by
  simp [kvList]

theorem varsLine_eq (vs : Vars) : (vs.map encVar).flatten = ((kvList vs).map (0x5C :: ·)).flatten := by
  induction vs with
  | nil => rfl
  | cons p r ih => simp [kvList_cons, encVar, ih]

theorem pairs_kvList (vs : Vars) : pairs (kvList vs) = vs := by
  induction vs with
  | nil => rfl
  | cons p r ih => rw [kvList_cons, pairs, ih]

theorem distinctKeys_eq (vs : Vars) : Spec.distinctKeys vs = Valve.Spec.distinctKeys vs := by
  induction vs with
  | nil => rfl
  | cons p r ih => obtain ⟨k, v⟩ := p; simp [Spec.distinctKeys, Valve.Spec.distinctKeys, ih]

theorem insertAll_distinct (vs : Vars) (hd : Spec.distinctKeys vs = true) : insertAll vs = vs := by
  unfold insertAll
  have := Valve.foldl_mapInsert_distinct vs [] (by simpa [distinctKeys_eq] using hd)
  simpa using this

theorem decodes_getServerValues (vs : Vars) (h : ∀ p ∈ vs, okVarText p.1 = true ∧ okVarText p.2 = true)
    (hd : Spec.distinctKeys vs = true) : Decodes getServerValues (encVars vs) vs := by
  have hk : ∀ t ∈ kvList vs, validUtf8 t = true ∧ (0x5C : UInt8) ∉ t ∧ (0x0A : UInt8) ∉ t := by
    intro t ht
    obtain ⟨p, hp, hm⟩ := List.mem_flatMap.mp ht
    simp only [List.mem_cons, List.not_mem_nil, or_false] at hm
    rcases hm with rfl | rfl
    · exact (okVarText_iff _).mp (h p hp).1
    · exact (okVarText_iff _).mp (h p hp).2
  unfold getServerValues encVars lf
  rw [varsLine_eq]
  refine Decodes.bind_last (decodes_readStrUntil 0x0A _
    (not_mem_seps 0x0A 0x5C (by decide) _ fun t ht => (hk t ht).2.2)
    (validUtf8_seps 0x5C (by decide) _ fun t ht => (hk t ht).1)) ?_
  have hsplit := splitOn_tokens 0x5C [] (kvList vs) (by simp) fun t ht => (hk t ht).2.1
  rw [List.nil_append] at hsplit
  rw [hsplit]
  simp only [dropEmptyFirst]
  rw [pairs_kvList, insertAll_distinct vs hd]
  exact Decodes.pure _

theorem splitFields_quote (q : Bool) (r : Bytes) : splitFields q (0x22 :: r) = consHead 0x22 (splitFields (!q) r) := by
  rw [splitFields]; rfl

theorem splitFields_space (r : Bytes) : splitFields false (0x20 :: r) = [] :: splitFields false r := by
  rw [splitFields]; rfl

theorem foldr_consHead (t f : Bytes) (fs : List Bytes) : t.foldr consHead (f :: fs) = (t ++ f) :: fs := by
  induction t with
  | nil => rfl
  | cons b r ih => simp only [List.foldr_cons, ih, consHead, List.cons_append]

/-- bytes that neither open or close a quotation nor end a field go in front of the first field of what follows -/
theorem splitFields_plain (q : Bool) (t s : Bytes) (hq : (0x22 : UInt8) ∉ t) (hs : q = true ∨ (0x20 : UInt8) ∉ t) :
    splitFields q (t ++ s) = t.foldr consHead (splitFields q s) := by
  induction t with
  | nil => rfl
  | cons b r ih =>
    simp only [List.mem_cons, not_or] at hq hs
    have hbq : (b == 0x22) = false := beq_eq_false_iff_ne.mpr fun e => hq.1 e.symm
    have hbs : (b == 0x20 && !q) = false := by
      rcases hs with rfl | hs
      · simp
      · simp [beq_eq_false_iff_ne.mpr fun e => hs.1 e.symm]
    simp only [List.cons_append, splitFields, hbq, hbs, Bool.false_eq_true, ↓reduceIte, List.foldr_cons,
      ih hq.2 (hs.imp id And.right)]

/-- a byte string that `split_player_fields` returns as one field, whatever follows it in the line -/
def Tok (t : Bytes) : Prop := ∀ s, splitFields false (t ++ s) = t.foldr consHead (splitFields false s)

theorem Tok.fin {t : Bytes} (h : Tok t) : splitFields false t = [t] := by
  have := h []
  rwa [List.append_nil, splitFields, foldr_consHead, List.append_nil] at this

theorem Tok.sp {t : Bytes} (h : Tok t) (rest : Bytes) :
    splitFields false (t ++ 0x20 :: rest) = t :: splitFields false rest := by
  rw [h, splitFields_space, foldr_consHead, List.append_nil]

theorem tok_bare (t : Bytes) (hq : (0x22 : UInt8) ∉ t) (hs : (0x20 : UInt8) ∉ t) : Tok t :=
  fun s => splitFields_plain false t s hq (Or.inr hs)

theorem tok_quoted (s : Bytes) (hq : (0x22 : UInt8) ∉ s) : Tok (0x22 :: (s ++ [0x22])) := by
  intro a
  rw [List.cons_append, List.append_assoc, splitFields_quote]
  show consHead 0x22 (splitFields true (s ++ 0x22 :: a)) = _
  rw [splitFields_plain true s _ hq (Or.inl rfl), splitFields_quote, List.foldr_cons, List.foldr_append]
  rfl

def joinSp : List Bytes → Bytes
  | [] => []
  | t :: r => t ++ (r.map (0x20 :: ·)).flatten

theorem splitFields_joinSp (ts : List Bytes) (hne : ts ≠ []) (h : ∀ t ∈ ts, Tok t) :
    splitFields false (joinSp ts) = ts := by
  cases ts with
  | nil => exact absurd rfl hne
  | cons t r =>
    simp only [joinSp]
    induction r generalizing t with
    | nil => simpa using (h t (by simp)).fin
    | cons t' r' ih =>
      simp only [List.map_cons, List.flatten_cons, List.cons_append]
      rw [(h t (by simp)).sp, ih t' (by simp) fun x hx => h x (List.mem_cons_of_mem _ hx)]

theorem okField_iff (q : Bool) (s : Bytes) : okField q s = true ↔
    validUtf8 s = true ∧ (0x22 : UInt8) ∉ s ∧ (0x0A : UInt8) ∉ s ∧ (q = true ∨ (0x20 : UInt8) ∉ s) := by
  simp [okField, and_assoc]

theorem tok_dec (n : Nat) : Tok (dec n) :=
  tok_bare _ (not_mem_dec _ (by decide) n) (not_mem_dec _ (by decide) n)

theorem tok_decInt (i : Int) : Tok (decInt i) :=
  tok_bare _ (not_mem_decInt _ (by decide) (by decide) i) (not_mem_decInt _ (by decide) (by decide) i)

theorem tok_text (q : Bool) (s : Bytes) (h : okField q s = true) : Tok (text q s) := by
  obtain ⟨_, hq, _, hs⟩ := (okField_iff q s).mp h
  cases q with
  | true => simpa [text, quote] using tok_quoted s hq
  | false =>
    simp only [text, Bool.false_eq_true, ↓reduceIte]
    exact tok_bare s hq (by simpa using hs)

theorem fieldUnsigned_dec (bits n : Nat) (h : n < 2 ^ bits) : fieldUnsigned bits (some (dec n)) = .ok n := by
  simp [fieldUnsigned, parseUnsigned_dec bits n h, okOr]

theorem fieldSigned_decInt (i : Int) (hlo : -(2 ^ 31 : Int) ≤ i) (hhi : i < 2 ^ 31) :
    fieldSigned 32 (some (decInt i)) = .ok i := by
  simp [fieldSigned, parseSigned_decInt 32 i hlo hhi, okOr]

theorem removeWrappingQuotes_quoted (s : Bytes) : removeWrappingQuotes (0x22 :: (s ++ [0x22])) = .ok s := by
  have hg : (0x22 :: (s ++ [0x22])).getLast? = some 0x22 := List.getLast?_concat (l := 0x22 :: s)
  have hl : ¬ (s.length + 1 + 1 < 2) := by omega
  simp only [removeWrappingQuotes, sliceInner, hg, List.length_cons, List.length_append, List.length_nil, List.head?_cons,
    Nat.le_add_left, decide_true, BEq.rfl, Bool.and_self, ↓reduceIte, hl, List.drop_succ_cons, List.drop_zero,
    List.dropLast_concat]

theorem removeWrappingQuotes_bare (s : Bytes) (h : (0x22 : UInt8) ∉ s) : removeWrappingQuotes s = .ok s := by
  have : (s.head? == some 0x22) = false := by
    cases s with
    | nil => rfl
    | cons b r => exact beq_eq_false_iff_ne.mpr fun e => h (by cases e; simp)
  simp only [removeWrappingQuotes, this, Bool.and_false, Bool.false_and, Bool.false_eq_true, ↓reduceIte]

theorem removeWrappingQuotes_text (q : Bool) (s : Bytes) (h : okField q s = true) :
    removeWrappingQuotes (text q s) = .ok s := by
  cases q with
  | true => exact removeWrappingQuotes_quoted s
  | false => exact removeWrappingQuotes_bare s ((okField_iff false s).mp h).2.1

theorem fieldText_text (q : Bool) (s : Bytes) (h : okField q s = true) : fieldText (some (text q s)) = .ok s := by
  simp [fieldText, removeWrappingQuotes_text q s h]

end Gd.Quake
