import GdVerif.Lemmas.Text
import GdVerif.Proto.Master
import GdVerif.Spec.Master
/-
  The master-server request encoder against the reference grammar reader.
-/
namespace Gd.Master
open Gd Gd.Master.Spec

/-- The key/value pair a filter denotes (none for `HasTags` without tags, which encodes to nothing).  This repeats
the key table of `Filter.toBytes` on the specification's side; the two are tied only by `toBytes_eq`.  A new filter
means a new constructor of `Filter` with its lines in `Filter.kind` and `Filter.toBytes` (`Proto/Master.lean`), here
and in `Filter.WF`, and its place among the kinds of value in `kv_spec`. -/
def Filter.kv : Filter → Option KV
  | .isSecured b => some (asciiBytes "secure", boolChar b)
  | .runsMap s => some (asciiBytes "map", s)
  | .canHavePassword b => some (asciiBytes "password", boolChar b)
  | .canBeEmpty b => some (asciiBytes "empty", boolChar b)
  | .canBeFull b => some (asciiBytes "full", boolChar b)
  | .runsAppID n => some (asciiBytes "appid", natDec n)
  | .hasTags tags => if tags.isEmpty then none else some (asciiBytes "gametype", joinTags tags)
  | .notAppID n => some (asciiBytes "napp", natDec n)
  | .isEmpty b => some (asciiBytes "noplayers", boolChar b)
  | .matchName s => some (asciiBytes "name_match", s)
  | .matchVersion s => some (asciiBytes "version_match", s)
  | .restrictUniqueIP b => some (asciiBytes "collapse_addr_hash", boolChar b)
  | .onAddress s => some (asciiBytes "gameaddr", s)
  | .whitelisted b => some (asciiBytes "white", boolChar b)
  | .spectatorProxy b => some (asciiBytes "proxy", boolChar b)
  | .isDedicated b => some (asciiBytes "dedicated", boolChar b)
  | .runsLinux b => some (asciiBytes "linux", boolChar b)
  | .hasGameDir s => some (asciiBytes "gamedir", s)

def clean (s : Bytes) : Prop := (0x5c : UInt8) ∉ s ∧ (0 : UInt8) ∉ s

/-- the grammar's domain: free-text values contain neither backslash nor NUL -/
def Filter.WF : Filter → Prop
  | .runsMap s | .matchName s | .matchVersion s | .onAddress s | .hasGameDir s => clean s
  | .hasTags tags => ∀ t ∈ tags, clean t
  | _ => True

def encKV (kv : KV) : Bytes := [0x5c] ++ kv.1 ++ [0x5c] ++ kv.2

theorem keyOf_append (name : String) (v : Bytes) : keyOf name ++ v = encKV (asciiBytes name, v) := rfl

theorem toBytes_eq (f : Filter) : f.toBytes = match f.kv with
    | some kv => encKV kv
    | none => [] := by
  cases f with
  | hasTags tags => simp only [Filter.toBytes, Filter.kv]; split <;> rfl
  | _ => exact keyOf_append _ _

theorem clean_digits (s : Bytes) (h : s.all isDigit = true) : clean s := by
  constructor <;> intro hm <;> have := List.all_eq_true.mp h _ hm <;> simp [isDigit, inRange] at this

theorem clean_natDec (n : Nat) : clean (natDec n) := clean_digits _ (natDec_spec n).1

theorem clean_boolChar (b : Bool) : clean (boolChar b) := by
  cases b <;> simp [clean, boolChar]

theorem clean_append {a b : Bytes} (ha : clean a) (hb : clean b) : clean (a ++ b) :=
  ⟨by simp [ha.1, hb.1], by simp [ha.2, hb.2]⟩

theorem clean_joinTags (tags : List Bytes) (h : ∀ t ∈ tags, clean t) : clean (joinTags tags) := by
  induction tags with
  | nil => exact ⟨by simp [joinTags], by simp [joinTags]⟩
  | cons t r ih =>
    cases r with
    | nil => exact h t (by simp)
    | cons t2 r2 =>
      have comma : clean [44] := ⟨by decide, by decide⟩
      exact clean_append (clean_append (h t (by simp)) comma) (ih fun x hx => h x (by simp [hx]))

instance (s : Bytes) : Decidable (clean s) := inferInstanceAs (Decidable (_ ∧ _))

/-- The key of a filter is one of 18 fixed names, whatever the filter's argument: none holds a backslash or a NUL,
none is a group marker.  A finite fact about the key table, checked constructor by constructor. -/
theorem key_ok (f : Filter) (kv : KV) (h : f.kv = some kv) :
    clean kv.1 ∧ (kv.1 == nandKey || kv.1 == norKey) = false := by
  cases f with
  | hasTags tags =>
    simp only [Filter.kv] at h
    split at h <;> cases h
    dsimp only
    rw [asciiBytes_ofList, nandKey, asciiBytes_ofList, norKey, asciiBytes_ofList]
    decide +kernel
  | _ =>
    simp only [Filter.kv, Option.some.injEq] at h
    subst h
    dsimp only
    rw [asciiBytes_ofList, nandKey, asciiBytes_ofList, norKey, asciiBytes_ofList]
    decide +kernel

/-- the value is a flag character, free text (clean on the grammar's domain) or a decimal number -/
theorem kv_spec (f : Filter) (hw : f.WF) (kv : KV) (h : f.kv = some kv) :
    (clean kv.1 ∧ clean kv.2) ∧ (kv.1 == nandKey || kv.1 == norKey) = false := by
  have hk := key_ok f kv h
  refine ⟨⟨hk.1, ?_⟩, hk.2⟩
  cases f with
  | isSecured b | canHavePassword b | canBeEmpty b | canBeFull b | isEmpty b | restrictUniqueIP b | whitelisted b
  | spectatorProxy b | isDedicated b | runsLinux b =>
    simp only [Filter.kv, Option.some.injEq] at h
    subst h
    exact clean_boolChar b
  | runsMap s | matchName s | matchVersion s | onAddress s | hasGameDir s =>
    simp only [Filter.kv, Option.some.injEq] at h
    subst h
    exact hw
  | runsAppID n | notAppID n =>
    simp only [Filter.kv, Option.some.injEq] at h
    subst h
    exact clean_natDec n
  | hasTags tags =>
    simp only [Filter.kv] at h
    split at h <;> cases h
    exact clean_joinTags tags hw

def toksOf (kvs : List KV) : List Bytes := kvs.flatMap fun kv => [kv.1, kv.2]

/-- the tokens of a `\nand\N…` / `\nor\N…` group: the marker, the number of pairs, the pairs; nothing for an empty
group -/
def grpToks (name : Bytes) (kvs : List KV) : List Bytes :=
  if kvs.isEmpty then [] else [name, natDec kvs.length] ++ toksOf kvs

/-- every token preceded by a backslash, concatenated: the filter string of a token list -/
def prefixed (toks : List Bytes) : Bytes := (toks.map ((0x5c : UInt8) :: ·)).flatten

theorem prefixed_append (a b : List Bytes) : prefixed (a ++ b) = prefixed a ++ prefixed b := by simp [prefixed]

theorem encoded_eq (fs : FMap) :
    (fs.map Filter.toBytes).filter (fun b => !b.isEmpty) = (fs.filterMap Filter.kv).map encKV := by
  induction fs with
  | nil => rfl
  | cons f r ih =>
    simp only [List.map_cons, List.filter_cons, toBytes_eq]
    cases hk : f.kv with
    | none => simp [List.filterMap_cons, hk, ih]
    | some kv => simp [List.filterMap_cons, hk, ih, encKV]

theorem flatten_encKV (kvs : List KV) : (kvs.map encKV).flatten = prefixed (toksOf kvs) := by
  induction kvs with
  | nil => rfl
  | cons kv r ih => simp [toksOf, prefixed, encKV] at *; simp [ih]

theorem plain_bytes (fs : FMap) :
    (fs.map Filter.toBytes).flatten = prefixed (toksOf (fs.filterMap Filter.kv)) := by
  rw [← List.flatten_filter_not_isEmpty, encoded_eq, flatten_encKV]

theorem special_bytes (name : String) (fs : FMap) :
    specialToBytes name fs = prefixed (grpToks (asciiBytes name) (fs.filterMap Filter.kv)) := by
  unfold specialToBytes grpToks
  simp only [encoded_eq]
  cases hk : fs.filterMap Filter.kv with
  | nil => simp [prefixed]
  | cons kv r =>
    simp only [List.map_cons, List.isEmpty_cons, Bool.false_eq_true, ↓reduceIte, List.length_cons, List.length_map]
    rw [prefixed_append, ← flatten_encKV]
    simp [prefixed, keyOf, bs, List.append_assoc]

theorem takePairs_toks (kvs : List KV) (rest : List Bytes) :
    takePairs kvs.length (toksOf kvs ++ rest) = some (kvs, rest) := by
  induction kvs with
  | nil => rfl
  | cons kv r ih =>
    simp only [toksOf, List.flatMap_cons, List.length_cons, List.cons_append, List.nil_append, takePairs]
    have := ih
    simp only [toksOf] at this
    simp [this]

theorem takePlain_toks (kvs : List KV) (rest : List Bytes)
    (hk : ∀ kv ∈ kvs, (kv.1 == nandKey || kv.1 == norKey) = false)
    (hr : rest = [] ∨ ∃ k v r, rest = k :: v :: r ∧ (k == nandKey || k == norKey) = true) :
    takePlain (toksOf kvs ++ rest) = some (kvs, rest) := by
  induction kvs with
  | nil =>
    simp only [toksOf, List.flatMap_nil, List.nil_append]
    rcases hr with rfl | ⟨k, v, r, rfl, hm⟩
    · rfl
    · simp [takePlain, hm]
  | cons kv r ih =>
    have h1 := hk kv (by simp)
    have h2 := ih (fun x hx => hk x (by simp [hx]))
    simp only [toksOf, List.flatMap_cons, List.cons_append, List.nil_append, takePlain] at *
    simp [h1, h2]

theorem takeGroup_toks (name : Bytes) (kvs : List KV) (rest : List Bytes) (hl : kvs.length < 2 ^ 64)
    (hr : rest = [] ∨ ∃ k r, rest = k :: r ∧ (k == name) = false) :
    takeGroup name (grpToks name kvs ++ rest) = some (kvs, rest) := by
  unfold grpToks
  cases kvs with
  | nil =>
    simp only [List.isEmpty_nil, ↓reduceIte, List.nil_append]
    rcases hr with rfl | ⟨k, r, rfl, hne⟩
    · rfl
    · cases r with
      | nil => rfl
      | cons n r2 => simp [takeGroup, hne]
  | cons kv r =>
    simp only [List.isEmpty_cons, Bool.false_eq_true, ↓reduceIte, List.cons_append, List.nil_append, takeGroup,
      beq_self_eq_true]
    rw [parseUnsigned_natDec 64 _ hl]
    simp only [List.length_cons, Nat.add_one_ne_zero, beq_iff_eq, ↓reduceIte]
    have := takePairs_toks (kv :: r) rest
    simpa using this

theorem untilNul_append (s rest : Bytes) (h : (0 : UInt8) ∉ s) : untilNul (s ++ 0 :: rest) = some (s, rest) := by
  induction s with
  | nil => simp [untilNul]
  | cons b r ih =>
    simp only [List.mem_cons, not_or] at h
    have hb : (b == 0) = false := by rw [beq_eq_false_iff_ne]; exact fun e => h.1 e.symm
    simp [untilNul, hb, ih h.2]

theorem prefixed_no_nul (toks : List Bytes) (h : ∀ t ∈ toks, (0 : UInt8) ∉ t) : (0 : UInt8) ∉ prefixed toks := by
  intro hm
  simp only [prefixed, List.mem_flatten, List.mem_map] at hm
  obtain ⟨_, ⟨t, ht, rfl⟩, h0⟩ := hm
  rcases List.mem_cons.mp h0 with e | h0
  · exact absurd e (by decide)
  · exact h t ht h0

theorem natDec_no_nul (n : Nat) : (0 : UInt8) ∉ natDec n := (clean_natDec n).2

theorem ipText_no_nul (ip : Nat × Nat × Nat × Nat) : (0 : UInt8) ∉ ipText ip := by
  simp [ipText, natDec_no_nul]

theorem kvs_spec (fs : FMap) (h : ∀ f ∈ fs, f.WF) :
    ∀ kv ∈ fs.filterMap Filter.kv, (clean kv.1 ∧ clean kv.2) ∧ (kv.1 == nandKey || kv.1 == norKey) = false := by
  intro kv hkv
  obtain ⟨f, hf, hk⟩ := List.mem_filterMap.mp hkv
  exact kv_spec f (h f hf) kv hk

theorem toksOf_clean (kvs : List KV) (h : ∀ kv ∈ kvs, clean kv.1 ∧ clean kv.2) : ∀ t ∈ toksOf kvs, clean t := by
  intro t ht
  simp only [toksOf, List.mem_flatMap, List.mem_cons, List.not_mem_nil, or_false] at ht
  obtain ⟨kv, hkv, rfl | rfl⟩ := ht
  · exact (h kv hkv).1
  · exact (h kv hkv).2

theorem grpToks_clean (name : Bytes) (hn : clean name) (kvs : List KV) (h : ∀ kv ∈ kvs, clean kv.1 ∧ clean kv.2) :
    ∀ t ∈ grpToks name kvs, clean t := by
  intro t ht
  unfold grpToks at ht
  split at ht
  · cases ht
  · simp only [List.cons_append, List.nil_append, List.mem_cons] at ht
    rcases ht with rfl | rfl | ht
    · exact hn
    · exact clean_natDec _
    · exact toksOf_clean kvs h t ht

theorem grpToks_head (name : Bytes) (kvs : List KV) :
    grpToks name kvs = [] ∨ ∃ v r, grpToks name kvs = name :: v :: r := by
  unfold grpToks
  split
  · exact Or.inl rfl
  · exact Or.inr ⟨_, _, rfl⟩

theorem parseFilter_toBytes (P A O : FMap) (hP : ∀ f ∈ P, f.WF) (hA : ∀ f ∈ A, f.WF) (hO : ∀ f ∈ O, f.WF)
    (hAl : A.length < 2 ^ 64) (hOl : O.length < 2 ^ 64) :
    ∃ fstr, toBytesOrdered P A O = fstr ++ [0] ∧ (0 : UInt8) ∉ fstr
      ∧ parseFilter fstr = some (P.filterMap Filter.kv, A.filterMap Filter.kv, O.filterMap Filter.kv) := by
  let Pk := P.filterMap Filter.kv
  let Ak := A.filterMap Filter.kv
  let Ok := O.filterMap Filter.kv
  have hPk := kvs_spec P hP
  have hAk := kvs_spec A hA
  have hOk := kvs_spec O hO
  let toks := toksOf Pk ++ (grpToks nandKey Ak ++ grpToks norKey Ok)
  have hclean : ∀ t ∈ toks, clean t := by
    intro t ht
    simp only [toks, List.mem_append] at ht
    rcases ht with ht | ht | ht
    · exact toksOf_clean Pk (fun kv h => (hPk kv h).1) t ht
    · exact grpToks_clean nandKey (by decide +kernel) Ak (fun kv h => (hAk kv h).1) t ht
    · exact grpToks_clean norKey (by decide +kernel) Ok (fun kv h => (hOk kv h).1) t ht
  refine ⟨prefixed toks, ?_, prefixed_no_nul toks fun t ht => (hclean t ht).2, ?_⟩
  · unfold toBytesOrdered
    rw [plain_bytes, special_bytes, special_bytes]
    simp only [toks, prefixed_append, List.append_assoc]
    rfl
  · have hsplit : splitOn 0x5c (prefixed toks) = [] :: toks := by
      have := splitOn_tokens 0x5c [] toks (by simp) fun t ht => (hclean t ht).1
      simpa [prefixed] using this
    -- what follows a group is nothing, or the marker of a later group
    have hnor : grpToks norKey Ok = [] ∨ ∃ v r, grpToks norKey Ok = norKey :: v :: r := grpToks_head norKey Ok
    have hrestA : grpToks norKey Ok = [] ∨ ∃ k r, grpToks norKey Ok = k :: r ∧ (k == nandKey) = false :=
      hnor.imp id fun ⟨v, r, h⟩ => ⟨norKey, v :: r, h, by decide +kernel⟩
    have hrestP : grpToks nandKey Ak ++ grpToks norKey Ok = [] ∨
        ∃ k v r, grpToks nandKey Ak ++ grpToks norKey Ok = k :: v :: r ∧ (k == nandKey || k == norKey) = true := by
      rcases grpToks_head nandKey Ak with h1 | ⟨v, r, h1⟩
      · rw [h1, List.nil_append]
        exact hnor.imp id fun ⟨v, r, h⟩ => ⟨norKey, v, r, h, by decide +kernel⟩
      · rw [h1]
        exact Or.inr ⟨nandKey, v, r ++ grpToks norKey Ok, rfl, by decide +kernel⟩
    have hAl' : Ak.length < 2 ^ 64 := Nat.lt_of_le_of_lt (List.length_filterMap_le _ _) hAl
    have hOl' : Ok.length < 2 ^ 64 := Nat.lt_of_le_of_lt (List.length_filterMap_le _ _) hOl
    have hO' := takeGroup_toks norKey Ok [] hOl' (Or.inl rfl)
    rw [List.append_nil] at hO'
    unfold parseFilter
    rw [hsplit]
    simp only [List.isEmpty_nil, Bool.not_true, Bool.false_eq_true, ↓reduceIte]
    rw [show toks = toksOf Pk ++ (grpToks nandKey Ak ++ grpToks norKey Ok) from rfl,
      takePlain_toks Pk _ (fun kv h => (hPk kv h).2) hrestP]
    simp only
    rw [takeGroup_toks nandKey Ak _ hAl' hrestA]
    simp only
    rw [hO']
    rfl

theorem kinds_fmapInsert (m : FMap) (f : Filter) :
    (fmapInsert m f).map Filter.kind
      = if f.kind ∈ m.map Filter.kind then m.map Filter.kind else m.map Filter.kind ++ [f.kind] := by
  induction m with
  | nil => rfl
  | cons g r ih =>
    unfold fmapInsert
    by_cases hk : g.kind = f.kind
    · simp [hk]
    · have hk' : ¬f.kind = g.kind := fun e => hk e.symm
      simp only [beq_iff_eq, hk, ↓reduceIte, List.map_cons, ih, List.mem_cons, hk', false_or]
      split <;> rfl

theorem mem_fmapInsert (m : FMap) (f g : Filter) (h : (m.map Filter.kind).Nodup) :
    g ∈ fmapInsert m f ↔ (g = f ∨ (g ∈ m ∧ g.kind ≠ f.kind)) := by
  induction m with
  | nil => simp [fmapInsert]
  | cons x r ih =>
    simp only [List.map_cons, List.nodup_cons] at h
    unfold fmapInsert
    split
    · rename_i hk
      simp only [beq_iff_eq] at hk
      simp only [List.mem_cons]
      constructor
      · rintro (rfl | hg)
        · exact Or.inl rfl
        · refine Or.inr ⟨Or.inr hg, ?_⟩
          intro hgk
          exact h.1 (List.mem_map.mpr ⟨g, hg, by rw [hgk, hk]⟩)
      · rintro (rfl | ⟨rfl | hg, hne⟩)
        · exact Or.inl rfl
        · exact absurd hk hne
        · exact Or.inr hg
    · rename_i hk
      simp only [beq_iff_eq] at hk
      simp only [List.mem_cons, ih h.2]
      constructor
      · rintro (rfl | rfl | ⟨hg, hne⟩)
        · exact Or.inr ⟨Or.inl rfl, hk⟩
        · exact Or.inl rfl
        · exact Or.inr ⟨Or.inr hg, hne⟩
      · rintro (rfl | ⟨rfl | hg, hne⟩)
        · exact Or.inr (Or.inl rfl)
        · exact Or.inl rfl
        · exact Or.inr (Or.inr ⟨hg, hne⟩)

end Gd.Master
