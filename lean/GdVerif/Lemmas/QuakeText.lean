import GdVerif.Lemmas.Decimal
import GdVerif.Lemmas.Utf
import GdVerif.Spec.Quake
/-
  Text lemmas for the Quake family: UTF-8 validity of concatenations; the servers' `%i` is Rust's `to_string()`
  (`natDec` / `intDec`), so what `Lemmas/Text.lean` and `Lemmas/Decimal.lean` say of those holds of it.
-/
namespace Gd.Quake
open Gd Gd.Quake.Spec

theorem validUtf8_ascii_byte (c : UInt8) (h : c.toNat < 128) : validUtf8 [c] = true :=
  validUtf8_cons_ascii c [] h rfl

theorem decAux_eq_natDecAux (f n : Nat) : decAux f n = natDecAux f n := by
  induction f generalizing n with
  | zero => rfl
  | succ f ih => simp only [decAux, natDecAux, digit, ih]

theorem dec_eq_natDec (n : Nat) : dec n = natDec n := decAux_eq_natDecAux (n + 1) n

theorem decInt_eq_intDec (i : Int) : decInt i = intDec i := by
  simp only [decInt, intDec, dec_eq_natDec]

theorem dec_all (n : Nat) : (dec n).all isDigit = true := dec_eq_natDec n ▸ natDec_all_digits n
theorem dec_ne_nil (n : Nat) : dec n ≠ [] := dec_eq_natDec n ▸ natDec_ne_nil n

theorem dec_length_pos (n : Nat) : 0 < (dec n).length := List.length_pos_iff.mpr (dec_ne_nil n)

theorem validUtf8_dec (n : Nat) : validUtf8 (dec n) = true := dec_eq_natDec n ▸ (natDec_text n).2.1
theorem validUtf8_decInt (i : Int) : validUtf8 (decInt i) = true := decInt_eq_intDec i ▸ (intDec_text i).2.1

theorem not_mem_dec (c : UInt8) (hc : isDigit c = false) (n : Nat) : c ∉ dec n := by
  intro h
  rw [List.all_eq_true.mp (dec_all n) c h] at hc
  cases hc

theorem not_mem_decInt (c : UInt8) (hc : isDigit c = false) (hm : c ≠ 0x2D) (i : Int) : c ∉ decInt i := by
  unfold decInt
  split
  · simp only [List.mem_cons, not_or]
    exact ⟨hm, not_mem_dec c hc _⟩
  · exact not_mem_dec c hc _

/-- Rust's `uN::from_str` -/
theorem parseUnsigned_dec (bits n : Nat) (h : n < 2 ^ bits) : parseUnsigned bits (dec n) = some n :=
  dec_eq_natDec n ▸ parseUnsigned_natDec bits n h

/-- Rust's `iN::from_str` -/
theorem parseSigned_decInt (bits : Nat) (i : Int) (hlo : -(2 ^ (bits - 1) : Int) ≤ i) (hhi : i < 2 ^ (bits - 1)) :
    parseSigned bits (decInt i) = some i :=
  decInt_eq_intDec i ▸ parseSigned_intDec bits i hlo hhi

end Gd.Quake
