import GdVerif.Lemmas.Utf
import GdVerif.Lemmas.VarInt
import GdVerif.Spec.Minecraft
/-
  Decoding lemmas of the Minecraft parsers against the SPEC encoders.
-/
namespace Gd.Mc
open Gd Gd.Mc.Spec

theorem decodes_bedrockLength (n : Nat) (h : n < 65536) : Decodes bedrockLength (natBE 2 n) n := by
  unfold bedrockLength
  have h1 := decodes_switchEndianChunk (natBE 2 n)
  have hl : (natBE 2 n).length = 2 := by simp [natBE, natLE_length]
  rw [hl] at h1
  refine Decodes.bind_last h1 ?_
  have : (readUnsigned .big 2).run (natBE 2 n) = .ok n := (decodes_be 2 n (by omega)).run
  rw [this]
  exact Decodes.lift_ok n

theorem splitOn_joinFields (fs : List Bytes) (hne : fs ≠ []) (h : ∀ f ∈ fs, (59 : UInt8) ∉ f) :
    splitOn 59 (joinFields fs) = fs := by
  induction fs with
  | nil => exact absurd rfl hne
  | cons f r ih =>
    cases r with
    | nil => simp only [joinFields]; exact splitOn_not_mem 59 f (h f (by simp))
    | cons g r' =>
      simp only [joinFields, List.append_assoc, List.singleton_append]
      rw [splitOn_append_delim 59 f _ (h f (by simp)), ih (by simp) fun x hx => h x (by simp [hx])]

theorem joinFields_valid (fs : List Bytes) (h : ∀ f ∈ fs, validUtf8 f = true) : validUtf8 (joinFields fs) = true := by
  induction fs with
  | nil => rfl
  | cons f r ih =>
    cases r with
    | nil => simp only [joinFields]; exact h f (by simp)
    | cons g r' =>
      simp only [joinFields, List.append_assoc]
      exact validUtf8_append _ _ (h f (by simp))
        (validUtf8_append _ _ (by decide) (ih fun x hx => h x (by simp [hx])))

theorem joinFields_no_nul (fs : List Bytes) (h : ∀ f ∈ fs, (0 : UInt8) ∉ f) : (0 : UInt8) ∉ joinFields fs := by
  induction fs with
  | nil => simp [joinFields]
  | cons f r ih =>
    cases r with
    | nil => simp only [joinFields]; exact h f (by simp)
    | cons g r' =>
      simp only [joinFields, List.append_assoc, List.mem_append, List.mem_singleton, not_or]
      exact ⟨h f (by simp), by decide, ih fun x hx => h x (by simp [hx])⟩

theorem okField_iff (s : Bytes) : okField s = true ↔ validUtf8 s = true ∧ (59 : UInt8) ∉ s ∧ (0 : UInt8) ∉ s := by
  simp [okField, and_assoc]

theorem natDec_okField (n : Nat) : okField (natDec n) = true := by
  rw [okField_iff]
  have hd := natDec_digits n
  refine ⟨validUtf8_ascii _ hd.ascii, ?_, ?_⟩
  · intro hm; have := hd 59 hm; revert this; decide
  · intro hm; have := hd 0 hm; revert this; decide

theorem gameModeName_spec (g : GameMode) :
    okField (gameModeName g) = true ∧ GameMode.fromBedrock (gameModeName g) = .ok g := by
  have all : ∀ g ∈ [GameMode.survival, .creative, .hardcore, .spectator, .adventure],
      okField (gameModeName g) = true ∧ GameMode.fromBedrock (gameModeName g) = .ok g := by decide +kernel
  exact all g (by cases g <;> decide)

theorem wfBedrock_parts (st : BedrockStatus) (h : wfBedrock st = true) :
    (okField st.edition = true ∧ okField st.name = true ∧ okField st.protocol = true ∧ okField st.version = true)
    ∧ (st.online < 2 ^ 32 ∧ st.max < 2 ^ 32)
    ∧ (st.serverId.all okField = true ∧ st.levelName.all okField = true ∧ st.more.all okField = true)
    ∧ ((st.levelName.isSome = true → st.serverId.isSome = true) ∧ (st.gameMode.isSome = true → st.levelName.isSome = true))
    ∧ st.guid.length = 8 ∧ (unconnectedPong clientTime st).length ≤ 1024 := by
  simp only [wfBedrock, Bool.and_eq_true, decide_eq_true_eq] at h
  obtain ⟨⟨⟨⟨⟨⟨⟨⟨⟨⟨⟨⟨⟨h1, h2⟩, h3⟩, h4⟩, ho⟩, hm⟩, h7⟩, h8⟩, h9⟩, hc1⟩, hc2⟩, _⟩, hguid⟩, hlen⟩ := h
  exact ⟨⟨h1, h2, h3, h4⟩, ⟨ho, hm⟩, ⟨h7, h8, h9⟩, ⟨hc1, hc2⟩, by simpa using hguid, hlen⟩

theorem bedrockFields_ok (st : BedrockStatus) (h : wfBedrock st = true) : ∀ f ∈ bedrockFields st, okField f = true := by
  obtain ⟨⟨h1, h2, h3, h4⟩, _, ⟨h7, h8, h9⟩, _⟩ := wfBedrock_parts st h
  intro f hf
  simp only [bedrockFields, List.mem_append, List.mem_cons, List.not_mem_nil, or_false] at hf
  rcases hf with (rfl | rfl | rfl | rfl | rfl | rfl) | ht
  · exact h1
  · exact h2
  · exact h3
  · exact h4
  · exact natDec_okField _
  · exact natDec_okField _
  · unfold bedrockTail at ht
    cases hi : st.serverId with
    | none => simp [hi] at ht
    | some i =>
      simp only [hi, List.mem_cons] at ht
      rcases ht with rfl | ht
      · simpa [hi] using h7
      cases hlv : st.levelName with
      | none => simp [hlv] at ht
      | some l =>
        simp only [hlv, List.mem_cons] at ht
        rcases ht with rfl | ht
        · simpa [hlv] using h8
        cases hg : st.gameMode with
        | none => simp [hg] at ht
        | some g =>
          simp only [hg, List.mem_cons] at ht
          rcases ht with rfl | ht
          · exact (gameModeName_spec g).1
          · exact (List.all_eq_true.mp h9) f ht

theorem bedrockStatus_string (st : BedrockStatus) (h : wfBedrock st = true) :
    bedrockStatus (bedrockString st) = .ok (expectedBedrock st) := by
  have hok := bedrockFields_ok st h
  have hsplit : splitOn 59 (bedrockString st) = bedrockFields st :=
    splitOn_joinFields _ (by simp [bedrockFields]) fun f hf => ((okField_iff f).mp (hok f hf)).2.1
  obtain ⟨_, ⟨ho, hm⟩, _, ⟨hc1, hc2⟩, _⟩ := wfBedrock_parts st h
  unfold bedrockStatus
  rw [hsplit]
  simp only [bedrockFields, List.cons_append, List.nil_append]
  rw [parseUnsigned_natDec 32 _ hm, parseUnsigned_natDec 32 _ ho]
  simp only [okOr, Res.bind_ok, expectedBedrock]
  unfold bedrockTail
  cases hi : st.serverId with
  | none =>
    have hl : st.levelName = none := by
      cases hlv : st.levelName with
      | none => rfl
      | some l => simp [hlv, hi] at hc1
    have hg : st.gameMode = none := by
      cases hgm : st.gameMode with
      | none => rfl
      | some g => simp [hgm, hl] at hc2
    simp [hl, hg, bedrockGameMode]
  | some i =>
    cases hlv : st.levelName with
    | none =>
      have hg : st.gameMode = none := by
        cases hgm : st.gameMode with
        | none => rfl
        | some g => simp [hgm, hlv] at hc2
      simp [hg, bedrockGameMode]
    | some l =>
      cases hgm : st.gameMode with
      | none => simp [bedrockGameMode]
      | some g => simp [bedrockGameMode, (gameModeName_spec g).2]

theorem readCStr_all (b : Buf) (hd : (0 : UInt8) ∉ b.rest) (hv : validUtf8 b.rest = true) :
    ∃ b', readCStr b = .ok (b.rest, b') ∧ b'.data = b.data := by
  refine ⟨b.advance b.rest.length, ?_, by simp⟩
  unfold readCStr readStringWith utf8Dec
  simp only [findByte_none 0 b.rest hd, List.take_length, hv]
  have : min (b.rest.length + 1) b.rest.length = b.rest.length := by omega
  simp [this]

theorem decodesEnd_bedrockBody (st : BedrockStatus) (h : wfBedrock st = true) :
    DecodesEnd (bedrockBody (bedrockString st).length) (bedrockString st) (expectedBedrock st) := by
  intro b hr
  have hok := bedrockFields_ok st h
  have hv : validUtf8 b.rest = true := by
    rw [hr]; exact joinFields_valid _ fun f hf => ((okField_iff f).mp (hok f hf)).1
  have h0 : (0 : UInt8) ∉ b.rest := by
    rw [hr]; exact joinFields_no_nul _ fun f hf => ((okField_iff f).mp (hok f hf)).2.2
  obtain ⟨b', hread, hd'⟩ := readCStr_all b h0 hv
  refine ⟨b', ?_, hd'⟩
  unfold bedrockBody
  have hrem : remainingLength b = .ok (b.remaining, b) := rfl
  rw [Par.bind_ok hrem]
  have hsz : errorByExpectedSize (bedrockString st).length b.remaining = .ok () := by
    simp [errorByExpectedSize, Buf.remaining, hr]
  rw [hsz]
  show (readCStr >>= fun binding => Par.lift (bedrockStatus binding)) b = _
  rw [Par.bind_ok hread, hr, bedrockStatus_string st h]
  rfl

theorem decodesEnd_bedrockParse (st : BedrockStatus) (h : wfBedrock st = true) :
    DecodesEnd bedrockParse (unconnectedPong clientTime st) (expectedBedrock st) := by
  obtain ⟨_, _, _, _, hguid', hlen⟩ := wfBedrock_parts st h
  have hL : (bedrockString st).length < 65536 := by
    simp only [unconnectedPong, List.length_append] at hlen
    omega
  unfold bedrockParse unconnectedPong
  refine DecodesEnd.bind (decodes_u8 0x1c (by decide)) ?_ (by simp only [List.append_assoc]; rfl)
  simp only [show ((0x1c : Nat) != 0x1c) = false by decide, Bool.false_eq_true, ↓reduceIte]
  refine DecodesEnd.bind (e1 := clientTime) (decodes_le 8 9833440827789222417 (by decide)) ?_ rfl
  simp only [show ((9833440827789222417 : Nat) != 9833440827789222417) = false by decide, Bool.false_eq_true, ↓reduceIte]
  have hskip := decodes_skip st.guid
  rw [hguid'] at hskip
  refine DecodesEnd.bind hskip ?_ rfl
  refine DecodesEnd.bind (e1 := raknetMagic.take 8) (decodes_le 8 18374403896610127616 (by decide)) ?_
    (e2 := raknetMagic.drop 8 ++ (natBE 2 (bedrockString st).length ++ bedrockString st)) (by
      rw [← List.append_assoc (raknetMagic.take 8), List.take_append_drop])
  simp only [show ((18374403896610127616 : Nat) != 18374403896610127616) = false by decide, Bool.false_eq_true, ↓reduceIte]
  refine DecodesEnd.bind (e1 := raknetMagic.drop 8) (decodes_le 8 8671175388723805693 (by decide)) ?_ rfl
  simp only [show ((8671175388723805693 : Nat) != 8671175388723805693) = false by decide, Bool.false_eq_true, ↓reduceIte]
  exact DecodesEnd.bind (decodes_bedrockLength _ hL) (decodesEnd_bedrockBody st h) rfl

def IsAsciiText (s : Bytes) : Prop := ∀ b ∈ s, 0 < b.toNat ∧ b.toNat < 0x80

theorem natDec_ascii (n : Nat) : IsAsciiText (natDec n) := fun b hb => by have := natDec_digits n b hb; omega

theorem intDec_ascii (i : Int) : IsAsciiText (intDec i) := by
  cases i with
  | ofNat n => rw [show Int.ofNat n = (n : Int) from rfl, intDec_ofNat]; exact natDec_ascii n
  | negSucc m =>
    rw [intDec_negSucc]
    intro b hb
    rcases List.mem_cons.mp hb with rfl | hb
    · decide
    · exact natDec_ascii _ b hb

theorem IsAsciiText.scalars {s : Bytes} (h : IsAsciiText s) : Scalars (scalarsOf s) :=
  scalars_ascii s fun b hb => (h b hb).2

theorem IsAsciiText.no_nul {s : Bytes} (h : IsAsciiText s) : 0 ∉ scalarsOf s := by
  intro hm
  obtain ⟨b, hb, hz⟩ := List.mem_map.mp hm
  have := h b hb
  omega

theorem IsAsciiText.utf8 {s : Bytes} (h : IsAsciiText s) : utf8Encode (scalarsOf s) = s :=
  utf8Encode_ascii s fun b hb => (h b hb).2

theorem natDec_no_section (n : Nat) : 0xA7 ∉ scalarsOf (natDec n) :=
  (natDec_digits n).not_mem 0xA7 (by omega)

theorem okScalars_iff (avoid cs : List Nat) :
    okScalars avoid cs = true ↔ Scalars cs ∧ ∀ a ∈ avoid, a ∉ cs := by
  unfold okScalars Scalars
  rw [List.all_eq_true]
  constructor
  · intro h
    refine ⟨fun c hc => by have := h c hc; simp at this; exact this.1, fun a ha hm => ?_⟩
    have := h a hm
    simp at this
    exact this.2 ha
  · intro ⟨h1, h2⟩ c hc
    simp only [Bool.and_eq_true, Bool.not_eq_true', h1 c hc, true_and]
    cases hcon : avoid.contains c with
    | false => rfl
    | true => exact absurd hc (h2 c (by simpa using hcon))

theorem kick_eq (cs : List Nat) : kick cs = [0xFF] ++ natBE 2 (utf16Encode cs).length ++ utf16Bytes .big cs := rfl

theorem kick_length (cs : List Nat) : (kick cs).length = (utf16Encode cs).length * 2 + 3 := by
  simp [kick, bytesOfUnits_length, natBE, natLE_length]; omega

theorem decodes_legacyHeader (L : Nat) (h : L < 65536) :
    Decodes (legacyHeader (L * 2 + 3)) ([0xFF] ++ natBE 2 L) () := by
  unfold legacyHeader
  refine Decodes.bind (decodes_u8 0xFF (by decide)) ?_
  simp only [show ((0xFF : Nat) != 0xFF) = false by decide, Bool.false_eq_true, ↓reduceIte]
  refine Decodes.bind_last (decodes_be 2 L (by omega)) ?_
  have : errorByExpectedSize (L * 2 + 3) (L * 2 + 3) = .ok () := by simp [errorByExpectedSize]
  simp only [this]
  exact Decodes.lift_ok ()

theorem decodes_isProtocol16_true : Decodes isProtocol16 marker16 true := by
  intro b post hr
  obtain ⟨b', hm, hr', hd'⟩ := decodes_skip marker16 b post hr
  refine ⟨b', ?_, hr', hd'⟩
  unfold isProtocol16
  have h1 : remainingBytes b = .ok (b.rest, b) := rfl
  rw [Par.bind_ok h1]
  have hp : marker16.isPrefixOf b.rest = true := by rw [hr]; simp [marker16]
  simp only [hp, ↓reduceIte]
  have h6 : ((marker16.length : Nat) : Int) = 6 := rfl
  rw [h6] at hm
  rw [Par.bind_ok hm]
  rfl

/-- a text without NUL never starts with the 1.6 marker `§1\0`: its third unit would be NUL -/
theorem isProtocol16_false (us : List Nat) (h : ∀ u ∈ us, u < 65536 ∧ u ≠ 0) (b : Buf)
    (hr : b.rest = bytesOfUnits .big us) : isProtocol16 b = .ok (false, b) := by
  have hp : marker16.isPrefixOf b.rest = false := by
    cases hpre : marker16.isPrefixOf b.rest with
    | false => rfl
    | true =>
      obtain ⟨t, ht⟩ := List.isPrefixOf_iff_prefix.mp hpre
      have hu := unitsOf_bytesOfUnits .big us fun u hu => (h u hu).1
      rw [← hr, ← ht] at hu
      exact absurd rfl (h 0 (hu ▸ .tail _ (.tail _ (.head _)))).2
  unfold isProtocol16
  rw [Par.bind_ok (rfl : remainingBytes b = .ok (b.rest, b))]
  simp [hp]

theorem utf16Bytes_marker : utf16Bytes .big [0xA7, 0x31, 0] = marker16 := by decide
theorem utf16Bytes_nul : utf16Bytes .big [0] = [0, 0] := by decide

theorem decodesEnd_legacy16Response (st : Legacy16Status) (h : wf16 st = true) :
    DecodesEnd legacy16Response
      ((utf16Bytes .big (scalarsOf (intDec st.protocol)) ++ [0, 0]) ++ ((utf16Bytes .big st.version ++ [0, 0]) ++
        ((utf16Bytes .big st.motd ++ [0, 0]) ++ ((utf16Bytes .big (scalarsOf (natDec st.online)) ++ [0, 0]) ++
        utf16Bytes .big (scalarsOf (natDec st.max))))))
      (expected16 st) := by
  simp only [wf16, Bool.and_eq_true, decide_eq_true_eq] at h
  obtain ⟨⟨⟨⟨⟨⟨hlo, hhi⟩, hon⟩, hmx⟩, hv⟩, hm⟩, _⟩ := h
  obtain ⟨hvs, hv0⟩ := (okScalars_iff _ _).mp hv
  obtain ⟨hms, hm0⟩ := (okScalars_iff _ _).mp hm
  have hpa := intDec_ascii st.protocol
  have hoa := natDec_ascii st.online
  have hxa := natDec_ascii st.max
  unfold legacy16Response
  refine DecodesEnd.bind (decodes_readUtf16 .big _ hpa.scalars hpa.no_nul) ?_ rfl
  rw [hpa.utf8, parseSigned_intDec 32 _ (by simpa using hlo) (by simpa using hhi)]
  refine DecodesEnd.bind (Decodes.lift_ok _) ?_ (List.nil_append _).symm
  refine DecodesEnd.bind (decodes_readUtf16 .big _ hvs (hv0 0 (by simp))) ?_ rfl
  refine DecodesEnd.bind (decodes_readUtf16 .big _ hms (hm0 0 (by simp))) ?_ rfl
  refine DecodesEnd.bind (decodes_readUtf16 .big _ hoa.scalars hoa.no_nul) ?_ rfl
  rw [hoa.utf8, parseUnsigned_natDec 32 _ hon]
  refine DecodesEnd.bind (Decodes.lift_ok _) ?_ (List.nil_append _).symm
  refine DecodesEnd.bind_pure (decodesEnd_readUtf16 .big _ hxa.scalars hxa.no_nul) ?_
  intro b
  rw [hxa.utf8, parseUnsigned_natDec 32 _ hmx]
  rfl

theorem utf16Bytes_text16 (st : Legacy16Status) :
    utf16Bytes .big (text16 st) = marker16 ++ ((utf16Bytes .big (scalarsOf (intDec st.protocol)) ++ [0, 0]) ++
        ((utf16Bytes .big st.version ++ [0, 0]) ++ ((utf16Bytes .big st.motd ++ [0, 0]) ++
        ((utf16Bytes .big (scalarsOf (natDec st.online)) ++ [0, 0]) ++ utf16Bytes .big (scalarsOf (natDec st.max)))))) := by
  unfold text16
  simp only [utf16Bytes_append, utf16Bytes_marker, utf16Bytes_nul, List.append_assoc]

theorem decodesEnd_legacy16 (st : Legacy16Status) (h : wf16 st = true) (g : LegacyGroup) (hg : g = .v1_6 ∨ g = .v1_4) :
    DecodesEnd (legacyParse g (kick16 st).length) (kick16 st) (expected16 st) := by
  have hL : (utf16Encode (text16 st)).length < 65536 := by
    simp only [wf16, Bool.and_eq_true, decide_eq_true_eq] at h; exact h.2
  rw [kick16, kick_length, kick_eq, utf16Bytes_text16]
  have body := decodesEnd_legacy16Response st h
  rcases hg with rfl | rfl
  · simp only [legacyParse, legacy16Parse]
    refine DecodesEnd.bind (decodes_legacyHeader _ hL) ?_ rfl
    refine DecodesEnd.bind decodes_isProtocol16_true ?_ rfl
    simpa using body
  · simp only [legacyParse, legacy14Parse]
    refine DecodesEnd.bind (decodes_legacyHeader _ hL) ?_ rfl
    refine DecodesEnd.bind decodes_isProtocol16_true ?_ rfl
    simpa using body

theorem splitScalars_none (d : Nat) (a : List Nat) (h : d ∉ a) : splitScalars d a = [a] := by
  induction a with
  | nil => rfl
  | cons c r ih =>
    simp only [List.mem_cons, not_or] at h
    have hc : (c == d) = false := by simp; exact fun e => h.1 e.symm
    simp [splitScalars, hc, ih h.2]

theorem splitScalars_sep (d : Nat) (a rest : List Nat) (h : d ∉ a) :
    splitScalars d (a ++ d :: rest) = a :: splitScalars d rest := by
  induction a with
  | nil => simp [splitScalars]
  | cons c r ih =>
    simp only [List.mem_cons, not_or] at h
    have hc : (c == d) = false := by simp; exact fun e => h.1 e.symm
    simp [splitScalars, hc, ih h.2]

theorem splitScalars_textOld (st : LegacyOldStatus) (hm : 0xA7 ∉ st.motd) :
    splitScalars 0xA7 (textOld st) = [st.motd, scalarsOf (natDec st.online), scalarsOf (natDec st.max)] := by
  have ht : textOld st = st.motd ++ 0xA7 :: (scalarsOf (natDec st.online) ++ 0xA7 :: scalarsOf (natDec st.max)) := by
    simp [textOld]
  rw [ht, splitScalars_sep _ _ _ hm, splitScalars_sep _ _ _ (natDec_no_section _), splitScalars_none _ _ (natDec_no_section _)]

theorem wfOld_parts (st : LegacyOldStatus) (h : wfOld st = true) :
    st.online < 2 ^ 32 ∧ st.max < 2 ^ 32 ∧ Scalars st.motd ∧ 0 ∉ st.motd ∧ 0xA7 ∉ st.motd ∧ (utf16Encode (textOld st)).length < 65536 := by
  simp only [wfOld, Bool.and_eq_true, decide_eq_true_eq] at h
  obtain ⟨⟨⟨hon, hmx⟩, hm⟩, hl⟩ := h
  obtain ⟨hms, hma⟩ := (okScalars_iff _ _).mp hm
  exact ⟨hon, hmx, hms, hma 0 (by simp), hma 0xA7 (by simp), hl⟩

theorem textOld_scalars (st : LegacyOldStatus) (h : wfOld st = true) : Scalars (textOld st) ∧ 0 ∉ textOld st := by
  obtain ⟨_, _, hms, hm0, _, _⟩ := wfOld_parts st h
  have hoa := natDec_ascii st.online
  have hxa := natDec_ascii st.max
  have hsec : Scalars [0xA7] := by intro c hc; simp at hc; subst hc; decide
  refine ⟨((((hms.append hsec).append hoa.scalars).append hsec).append hxa.scalars), ?_⟩
  unfold textOld
  simp only [List.mem_append, List.mem_singleton, not_or]
  exact ⟨⟨⟨⟨hm0, by decide⟩, hoa.no_nul⟩, by decide⟩, hxa.no_nul⟩

theorem decodesEnd_legacySplitResponse (st : LegacyOldStatus) (h : wfOld st = true) (g : LegacyGroup) (v : Bytes) :
    DecodesEnd (legacySplitResponse g v) (utf16Bytes .big (textOld st))
      { gameVersion := v, protocolVersion := -1, playersMaximum := st.max, playersOnline := st.online, players := none,
        description := utf8Encode st.motd, favicon := none, previewsChat := none, enforcesSecureChat := none,
        serverType := .legacy g } := by
  obtain ⟨hon, hmx, _, _, hsec, _⟩ := wfOld_parts st h
  obtain ⟨hsc, h0⟩ := textOld_scalars st h
  unfold legacySplitResponse
  refine DecodesEnd.bind_pure (decodesEnd_readUtf16 .big _ hsc h0) ?_
  intro b
  have hsplit : splitChar 0xA7 (utf8Encode (textOld st)) = [utf8Encode st.motd, natDec st.online, natDec st.max] := by
    unfold splitChar
    rw [utf8Decode_encode _ hsc, splitScalars_textOld st hsec]
    simp [(natDec_ascii st.online).utf8, (natDec_ascii st.max).utf8]
  simp only [hsplit, List.length_cons, List.length_nil]
  have hsz : errorByExpectedSize 3 (0 + 1 + 1 + 1) = .ok () := by decide
  rw [hsz, parseUnsigned_natDec 32 _ hon, parseUnsigned_natDec 32 _ hmx]
  rfl

theorem decodesEnd_legacy14 (st : LegacyOldStatus) (h : wfOld st = true) :
    DecodesEnd (legacyParse .v1_4 (kickOld st).length) (kickOld st) (expectedOld .v1_4 st) := by
  obtain ⟨_, _, _, _, _, hL⟩ := wfOld_parts st h
  obtain ⟨hsc, h0⟩ := textOld_scalars st h
  rw [kickOld, kick_length, kick_eq]
  simp only [legacyParse, legacy14Parse]
  refine DecodesEnd.bind (decodes_legacyHeader _ hL) ?_ rfl
  intro b hr
  have hfalse := isProtocol16_false (utf16Encode (textOld st)) (utf16Encode_units _ hsc h0) b hr
  rw [Par.bind_ok hfalse]
  simp only [Bool.false_eq_true, ↓reduceIte]
  exact decodesEnd_legacySplitResponse st h .v1_4 _ b hr

theorem decodesEnd_legacyB18 (st : LegacyOldStatus) (h : wfOld st = true) :
    DecodesEnd (legacyParse .vb1_8 (kickOld st).length) (kickOld st) (expectedOld .vb1_8 st) := by
  obtain ⟨_, _, _, _, _, hL⟩ := wfOld_parts st h
  rw [kickOld, kick_length, kick_eq]
  simp only [legacyParse, legacyB18Parse]
  refine DecodesEnd.bind (decodes_legacyHeader _ hL) ?_ rfl
  exact decodesEnd_legacySplitResponse st h .vb1_8 _

theorem castI32_id (i : Int) (hlo : -(2 ^ 31 : Int) ≤ i) (hhi : i < 2 ^ 31) : castI32 i = i :=
  toSigned_ofSigned 32 (by decide) i hlo hhi

theorem extractPlayers_represents {js : List Json} {ps : List Player} (h : RepresentsPlayers js ps) :
    extractPlayers js = .ok ps := by
  induction h with
  | nil => rfl
  | cons hp _ ih =>
    obtain ⟨hn, hi⟩ := hp
    simp [extractPlayers, extractPlayer, hn, hi, Json.asStr, okOr, ih]

theorem javaExtract_represents (ext : Ext) (j : Json) (st : JavaStatus) (text : Bytes) (hrep : Represents j st)
    (hwf : wfJava st text = true) : javaExtract ext j = .ok (expectedJava ext st) := by
  simp only [wfJava, Bool.and_eq_true, decide_eq_true_eq] at hwf
  obtain ⟨⟨⟨⟨⟨hlo, hhi⟩, hmax⟩, hon⟩, _⟩, _⟩ := hwf
  have hpI : (Json.num (.int st.protocol)).asI64 = some st.protocol := if_pos (by omega)
  have hu : ∀ n : Nat, n < 2 ^ 32 → (Json.num (.int (n : Int))).asU64 = some n := fun n hn => by
    rw [Json.asU64, if_pos (by omega), Int.toNat_natCast]
  have hsample : extractSample ((j.get (key "players")).get (key "sample")) = .ok st.sample := by
    have hs := hrep.sample
    cases hsm : st.sample with
    | none => rw [hsm] at hs; simp at hs; simp [extractSample, hs, Json.isNull]
    | some ps =>
      rw [hsm] at hs
      obtain ⟨js, hjs, hps⟩ := hs
      simp [extractSample, hjs, Json.isNull, Json.asArray, okOr, extractPlayers_represents hps]
  unfold javaExtract
  rw [hrep.name, hrep.protocol, hrep.max, hrep.online, hsample, hpI, hu _ hmax, hu _ hon, hrep.description, hrep.favicon,
    hrep.previewsChat, hrep.enforcesSecureChat]
  simp only [Json.asStr, okOr, Res.bind_ok, expectedJava, castI32_id _ hlo hhi, castU32,
    Nat.mod_eq_of_lt hmax, Nat.mod_eq_of_lt hon]
  cases st.favicon <;> cases st.previewsChat <;> cases st.enforcesSecureChat <;> rfl

theorem asVarint_zero : asVarint 0 = [0x00] := by decide

theorem decodes_javaStatusText (text : Bytes) (hv : validUtf8 text = true) (hl : text.length < 2 ^ 31) :
    Decodes javaStatusText ([0x00] ++ mcString text) text := by
  unfold javaStatusText
  have h0 := decodes_getVarint 0 (by decide)
  rw [asVarint_zero] at h0
  refine Decodes.bind h0 ?_
  simp only [show ((0 : Nat) != 0) = false by decide, Bool.false_eq_true, ↓reduceIte]
  intro b post hr
  exact getString_asString text hv hl post b (mcString text) (by simp [asString, hl, mcString, varint]) hr

theorem decodes_javaParse (ext : Ext) (text : Bytes) (j : Json) (st : JavaStatus)
    (hparse : ext.parseJson text = some j) (hrep : Represents j st) (hwf : wfJava st text = true) :
    Decodes (javaParse ext) ([0x00] ++ mcString text) (expectedJava ext st) := by
  have hwf' := hwf
  simp only [wfJava, Bool.and_eq_true, decide_eq_true_eq] at hwf'
  obtain ⟨⟨_, hv⟩, hl⟩ := hwf'
  unfold javaParse
  refine Decodes.bind_last (decodes_javaStatusText text hv (by omega)) ?_
  have : javaDecode ext text = .ok (expectedJava ext st) := by
    simp [javaDecode, hparse, javaExtract_represents ext j st text hrep hwf]
  rw [this]
  exact Decodes.lift_ok _

theorem mcString_length_le (text : Bytes) (hl : text.length < 2 ^ 31) : (mcString text).length ≤ text.length + 5 := by
  have := asVarint_length text.length (by omega)
  simp only [mcString, varint, List.length_append]
  omega

theorem javaUnframe_response (text trailing : Bytes) (hl : text.length < 2 ^ 31 - 8) :
    javaUnframe.run (statusResponse text trailing) = .ok ([0x00] ++ mcString text ++ trailing) := by
  have hlen : ([0x00] ++ mcString text).length < 2 ^ 32 := by
    have := mcString_length_le text (by omega)
    simp only [List.length_append, List.length_cons, List.length_nil]
    omega
  obtain ⟨b', h1, hr1, _⟩ := decodes_getVarint _ hlen (Buf.new (statusResponse text trailing)) ([0x00] ++ mcString text ++ trailing)
    (by simp [statusResponse, frame, varint, List.append_assoc])
  unfold Par.run javaUnframe
  rw [Par.bind_ok h1]
  simp [remainingBytes, hr1]

/-- An object written as the list of members it may have, in order, each there or not: the members that are there. -/
def present : List (Bytes × Option Json) → List (Bytes × Json)
  | [] => []
  | (k, some v) :: doc => (k, v) :: present doc
  | (_, none) :: doc => present doc

theorem lookup_present_of_not_mem {doc : List (Bytes × Option Json)} {k : Bytes} (h : k ∉ doc.map Prod.fst) :
    (present doc).lookup k = none := by
  induction doc with
  | nil => rfl
  | cons m r ih =>
    obtain ⟨k', o'⟩ := m
    simp only [List.map_cons, List.mem_cons, not_or] at h
    have hne : (k == k') = false := by simpa using h.1
    cases o' with
    | none => exact ih h.2
    | some v => simp only [present, List.lookup_cons, hne]; exact ih h.2

theorem lookup_present {doc : List (Bytes × Option Json)} (hd : (doc.map Prod.fst).Pairwise (· ≠ ·))
    {k : Bytes} {o : Option Json} (hm : (k, o) ∈ doc) : (present doc).lookup k = o := by
  induction doc with
  | nil => cases hm
  | cons m r ih =>
    obtain ⟨k', o'⟩ := m
    simp only [List.map_cons, List.pairwise_cons] at hd
    rcases List.mem_cons.mp hm with he | hr
    · cases he
      cases o with
      | none => exact lookup_present_of_not_mem (doc := r) fun hk => hd.1 k hk rfl
      | some v => simp [present]
    · have hne : (k == k') = false := by
        simpa using fun e : k = k' => hd.1 k (List.mem_map.mpr ⟨_, hr, rfl⟩) e.symm
      cases o' with
      | none => exact ih hd.2 hr
      | some v => simp only [present, List.lookup_cons, hne]; exact ih hd.2 hr

theorem get_present {doc : List (Bytes × Option Json)} (i : Nat) {k : Bytes} {o : Option Json}
    (hm : doc[i]? = some (k, o)) (hd : (doc.map Prod.fst).Pairwise (· ≠ ·)) :
    (Json.obj (present doc)).get k = o.getD .null := by
  simp only [Json.get, lookup_present hd (List.mem_of_getElem? hm)]
  cases o <;> rfl

theorem cons_present (k : Bytes) (v : Json) (doc : List (Bytes × Option Json)) :
    (k, v) :: present doc = present ((k, some v) :: doc) := rfl

theorem present_optMember {α : Type} (k : String) (f : α → Json) (o : Option α) (doc : List (Bytes × Option Json)) :
    optMember k f o ++ present doc = present ((key k, o.map f) :: doc) := by
  cases o <;> rfl

theorem optJson_eq {α : Type} (f : α → Json) (o : Option α) : optJson f o = (o.map f).getD .null := by
  cases o <;> rfl

/-! The objects of the status document, member by member.  That the names within one object are pairwise different
is a finite fact about string literals. -/

def playerDoc (p : Player) : List (Bytes × Option Json) := [(key "id", some (.str p.id)), (key "name", some (.str p.name))]

def versionDoc (st : JavaStatus) : List (Bytes × Option Json) :=
  [(key "name", some (.str st.versionName)), (key "protocol", some (.num (.int st.protocol)))]

def playersDoc (st : JavaStatus) : List (Bytes × Option Json) :=
  [(key "max", some (.num (.int st.max))), (key "online", some (.num (.int st.online))),
   (key "sample", st.sample.map fun ps => .arr (ps.map playerJson))]

def statusDoc (st : JavaStatus) : List (Bytes × Option Json) :=
  [(key "description", some st.description), (key "enforcesSecureChat", st.enforcesSecureChat.map .bool),
   (key "favicon", st.favicon.map .str), (key "players", some (.obj (present (playersDoc st)))),
   (key "previewsChat", st.previewsChat.map .bool), (key "version", some (.obj (present (versionDoc st))))]

theorem playerDoc_distinct (p : Player) : ((playerDoc p).map Prod.fst).Pairwise (· ≠ ·) := by
  simp only [playerDoc, List.map_cons, List.map_nil]
  decide +kernel

theorem versionDoc_distinct (st : JavaStatus) : ((versionDoc st).map Prod.fst).Pairwise (· ≠ ·) := by
  simp only [versionDoc, List.map_cons, List.map_nil]
  decide +kernel

theorem playersDoc_distinct (st : JavaStatus) : ((playersDoc st).map Prod.fst).Pairwise (· ≠ ·) := by
  simp only [playersDoc, List.map_cons, List.map_nil]
  decide +kernel

theorem statusDoc_distinct (st : JavaStatus) : ((statusDoc st).map Prod.fst).Pairwise (· ≠ ·) := by
  simp only [statusDoc, List.map_cons, List.map_nil]
  decide +kernel

theorem statusJson_eq (st : JavaStatus) : statusJson st = .obj (present (statusDoc st)) := by
  have players : [(key "max", Json.num (.int st.max)), (key "online", .num (.int st.online))]
      ++ optMember "sample" (fun ps => .arr (ps.map playerJson)) st.sample = present (playersDoc st) := by
    rw [← List.append_nil (optMember _ _ _)]
    exact congrArg (_ :: _ :: ·) (present_optMember _ _ _ [])
  have version : [(key "version", Json.obj [(key "name", .str st.versionName), (key "protocol", .num (.int st.protocol))])]
      = present [(key "version", some (.obj (present (versionDoc st))))] := rfl
  simp only [statusJson, players, version, List.append_assoc, List.cons_append, List.nil_append, present_optMember,
    cons_present, statusDoc]

end Gd.Mc
