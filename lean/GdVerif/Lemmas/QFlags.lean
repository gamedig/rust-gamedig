import GdVerif.Lemmas.QLogic
/-
  Flags that are all `false` are as good as no flags.  The theorems about a whole query on a fault-free script are
  stated on `Net.init script []`; a fault plan scripts one flag per send, and the plan without faults scripts `false`
  for each.  `FlagBlind` (one rule per combinator) says that a computation cannot tell the two apart, so the fault-free
  theorem of a family is its theorem about fault plans at the plan without faults (`FlagBlind.init`).
-/
namespace Gd

def Net.noFlags (w : Net) : Net := { w with faults := [] }

/-- `f` does not tell flags that are all `false` from no flags at all: `send` treats an exhausted flag list as
`false`.  What a query does on a script without flags it therefore does on the plan without faults. -/
def FlagBlind (f : Q α) : Prop :=
  ∀ w : Net, (∀ b ∈ w.faults, b = false) →
    f w.noFlags = ((f w).1, (f w).2.noFlags) ∧ ∀ b ∈ (f w).2.faults, b = false

namespace FlagBlind

theorem pure (a : α) : FlagBlind (Pure.pure a : Q α) := fun _ h => ⟨rfl, h⟩

theorem lift (r : Res α) : FlagBlind (Q.lift r) := fun _ h => ⟨rfl, h⟩

theorem parse (p : Par α) (d : Bytes) : FlagBlind (Gd.parse p d) := lift _

theorem bind {f : Q α} {g : α → Q β} (hf : FlagBlind f) (hg : ∀ a, FlagBlind (g a)) : FlagBlind (f >>= g) := by
  intro w hw
  obtain ⟨e, h1⟩ := hf w hw
  rw [Q.bind_apply, Q.bind_apply, e]
  cases hfw : f w with
  | mk r w1 =>
    rw [hfw] at h1
    cases r with
    | ok a => exact hg a w1 h1
    | err k => exact ⟨rfl, h1⟩
    | crash => exact ⟨rfl, h1⟩

theorem ite {c : Prop} [Decidable c] {f g : Q α} (hf : FlagBlind f) (hg : FlagBlind g) :
    FlagBlind (if c then f else g) := by
  split <;> assumption

theorem send (s : Sock) (d : Bytes) : FlagBlind (Gd.send s d) := by
  intro w hw
  unfold Gd.send Net.noFlags
  cases hf : w.faults with
  | nil => exact ⟨rfl, fun b hb => nomatch hb⟩
  | cons b r =>
    have hb : b = false := hw b (by rw [hf]; exact List.mem_cons_self)
    subst hb
    exact ⟨rfl, fun b hb => hw b (by rw [hf]; exact List.mem_cons_of_mem _ hb)⟩

theorem recv (s : Sock) (size : Option Nat) : FlagBlind (Gd.recv s size) := by
  intro w hw
  have e : (w.noFlags).conns = w.conns := rfl
  unfold Gd.recv
  rw [e]
  cases w.conns.getD s.id [] with
  | nil => cases s.tcp <;> exact ⟨rfl, hw⟩
  | cons d rest => cases d <;> exact ⟨rfl, hw⟩

theorem openSock (tcp : Bool) (port : Nat) : FlagBlind (Gd.openSock tcp port) := by
  intro w hw
  have e : (w.noFlags).pending = w.pending := rfl
  unfold Gd.openSock
  rw [e]
  cases w.pending with
  | nil => exact ⟨rfl, hw⟩
  | cons c rest => cases c <;> exact ⟨rfl, hw⟩

theorem retry {f : Q α} (hf : FlagBlind f) (r : Nat) : FlagBlind (retryOnTimeout r f) := by
  induction r with
  | zero => exact hf
  | succ r ih =>
    intro w hw
    obtain ⟨e, h1⟩ := hf w hw
    simp only [retryOnTimeout, e]
    cases hfw : f w with
    | mk res w1 =>
      rw [hfw] at h1
      cases res with
      | ok a => exact ⟨rfl, h1⟩
      | crash => exact ⟨rfl, h1⟩
      | err k =>
        simp only
        split
        · exact ih w1 h1
        · exact ⟨rfl, h1⟩

theorem maybeGather {f : Q α} (hf : FlagBlind f) (t : Toggle) : FlagBlind (Gd.maybeGather t f) := by
  cases t with
  | skip => exact pure none
  | enforce => exact bind hf fun a => pure (some a)
  | try_ =>
    intro w hw
    obtain ⟨e, h1⟩ := hf w hw
    simp only [Gd.maybeGather, e]
    cases hfw : f w with
    | mk res w1 =>
      rw [hfw] at h1
      cases res <;> exact ⟨rfl, h1⟩

/-- a fuel read off the socket's queue (the models' `queued s w + 1`): the flags do not touch the queue -/
theorem fuelled {s : Sock} {g : Nat → Q α} (hg : ∀ n, FlagBlind (g n)) :
    FlagBlind (fun w => g ((w.conns.getD s.id []).length + 1) w) :=
  fun w hw => hg _ w hw

theorem init {f : Q α} (hf : FlagBlind f) (script : List ConnScript) (fs : List Bool) (hfs : ∀ b ∈ fs, b = false) :
    (f (Net.init script [])).1 = (f (Net.init script fs)).1
      ∧ (f (Net.init script [])).2.log = (f (Net.init script fs)).2.log := by
  have := (hf (Net.init script fs) hfs).1
  have e : (Net.init script fs).noFlags = Net.init script [] := rfl
  rw [e] at this
  rw [this]
  exact ⟨rfl, rfl⟩

end FlagBlind
end Gd
