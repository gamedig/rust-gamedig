import GdVerif.Lemmas.Reader
import GdVerif.Proto.Unreal2
/-
  The Unreal 2 string decoder case by case, and as an operation of the packet reader (C17): what one
  `read_string::<Unreal2StringDecoder>` does to the reader, for every packet and position.
-/
namespace Gd.Unreal2
open Gd

/-- the bytes the length byte announces after itself (and after the stray byte of a UCS-2 string):
`l` Latin-1 bytes below 0x80, `l - 0x80` UCS-2 units of two bytes from 0x80 on -/
def announced (l : UInt8) : Nat := if l.toNat < 0x80 then l.toNat else (l.toNat - 0x80) * 2

theorem announced_latin1 {l : UInt8} (h : l.toNat < 0x80) : announced l = l.toNat := if_pos h

theorem mod_announced {l : UInt8} (h : 0x80 ≤ l.toNat) : (l.toNat % 0x80) * 2 = announced l := by
  have hlt : l.toNat - 0x80 < 0x80 := by have := l.toNat_lt; omega
  rw [Nat.mod_eq_sub_mod h, Nat.mod_eq_of_lt hlt, announced, if_neg (Nat.not_lt.mpr h)]

theorem u2Dec_nil : u2Dec [] = .err .packetBad := rfl

theorem u2Dec_latin1_ok {l : UInt8} {body : Bytes} (hl : l.toNat < 0x80) (hb : l.toNat ≤ body.length) :
    u2Dec (l :: body) = .ok (cleanText (cp1252Decode (body.take l.toNat)), 1 + l.toNat) := by
  rw [u2Dec, if_neg (Nat.not_le.mpr hl), latin1Part, if_neg (Nat.not_lt.mpr hb)]

theorem u2Dec_latin1_short {l : UInt8} {body : Bytes} (hl : l.toNat < 0x80) (hb : body.length < l.toNat) :
    u2Dec (l :: body) = .err .packetBad := by
  rw [u2Dec, if_neg (Nat.not_le.mpr hl), latin1Part, if_pos hb]

theorem strayOf_le_one (body : Bytes) : strayOf body ≤ 1 := by
  unfold strayOf; split <;> omega

theorem strayOf_le_length (body : Bytes) : strayOf body ≤ body.length := by
  unfold strayOf
  cases body with
  | nil => simp
  | cons x r => split <;> simp

theorem u2Dec_ucs2_eq {l : UInt8} (body : Bytes) (hl : 0x80 ≤ l.toNat) :
    u2Dec (l :: body) = ucs2Part (announced l) (strayOf body) (body.drop (strayOf body)) := by
  rw [u2Dec, if_pos hl, mod_announced hl]

theorem u2Dec_ucs2_ok {l : UInt8} {body : Bytes} {cs : List Nat} (hl : 0x80 ≤ l.toNat)
    (hb : strayOf body + announced l ≤ body.length)
    (hu : utf16Decode (unitsOf .little ((body.drop (strayOf body)).take (announced l))) = some cs) :
    u2Dec (l :: body) = .ok (cleanText cs, 1 + strayOf body + announced l) := by
  have h2 : ¬ (body.drop (strayOf body)).length < announced l := by
    rw [List.length_drop]; exact Nat.not_lt.mpr (Nat.le_sub_of_add_le' hb)
  rw [u2Dec_ucs2_eq body hl, ucs2Part, if_neg h2, hu]

theorem u2Dec_ucs2_bad {l : UInt8} {body : Bytes} (hl : 0x80 ≤ l.toNat)
    (hb : strayOf body + announced l ≤ body.length)
    (hu : utf16Decode (unitsOf .little ((body.drop (strayOf body)).take (announced l))) = none) :
    u2Dec (l :: body) = .err .packetBad := by
  have h2 : ¬ (body.drop (strayOf body)).length < announced l := by
    rw [List.length_drop]; exact Nat.not_lt.mpr (Nat.le_sub_of_add_le' hb)
  rw [u2Dec_ucs2_eq body hl, ucs2Part, if_neg h2, hu]

theorem u2Dec_ucs2_short {l : UInt8} {body : Bytes} (hl : 0x80 ≤ l.toNat)
    (hb : body.length < strayOf body + announced l) :
    u2Dec (l :: body) = .err .packetBad := by
  have h2 : (body.drop (strayOf body)).length < announced l := by
    rw [List.length_drop]; exact Nat.sub_lt_left_of_lt_add (strayOf_le_length body) hb
  rw [u2Dec_ucs2_eq body hl, ucs2Part, if_pos h2]

/-- on a non-empty slice the decoder reports `PacketBad`, or a text and a count: the length byte,
the stray byte if there is one and is counted, and exactly the announced bytes — all of them inside
the slice -/
theorem u2Dec_cons_outcome (l : UInt8) (body : Bytes) :
    u2Dec (l :: body) = .err .packetBad
    ∨ ∃ s, u2Dec (l :: body) = .ok (s, 1 + (if 0x80 ≤ l.toNat then strayOf body else 0) + announced l)
        ∧ (if 0x80 ≤ l.toNat then strayOf body else 0) + announced l ≤ body.length := by
  by_cases hl : 0x80 ≤ l.toNat
  · rw [if_pos hl]
    by_cases hb : strayOf body + announced l ≤ body.length
    · cases hu : utf16Decode (unitsOf .little ((body.drop (strayOf body)).take (announced l))) with
      | none => exact .inl (u2Dec_ucs2_bad hl hb hu)
      | some cs => exact .inr ⟨_, u2Dec_ucs2_ok hl hb hu, hb⟩
    · exact .inl (u2Dec_ucs2_short hl (Nat.lt_of_not_le hb))
  · have hl' : l.toNat < 0x80 := Nat.lt_of_not_le hl
    rw [if_neg hl, announced_latin1 hl', Nat.add_zero, Nat.zero_add]
    by_cases hb : l.toNat ≤ body.length
    · exact .inr ⟨_, u2Dec_latin1_ok hl' hb, hb⟩
    · exact .inl (u2Dec_latin1_short hl' (Nat.lt_of_not_le hb))

theorem u2Dec_noCrash (sl : Bytes) : (u2Dec sl).isCrash = false := by
  cases sl with
  | nil => rfl
  | cons l body => rcases u2Dec_cons_outcome l body with h | ⟨s, h, _⟩ <;> rw [h] <;> rfl

theorem u2Dec_err {sl : Bytes} {k : ErrKind} (h : u2Dec sl = .err k) : k = .packetBad := by
  cases sl with
  | nil => cases h; rfl
  | cons l body =>
    rcases u2Dec_cons_outcome l body with h' | ⟨s, h', _⟩ <;> rw [h'] at h <;> cases h
    rfl

theorem u2Dec_ok_consumed {sl s : Bytes} {n : Nat} (h : u2Dec sl = .ok (s, n)) :
    ∃ l body, sl = l :: body ∧ n ≤ sl.length ∧
      n = 1 + (if 0x80 ≤ l.toNat then strayOf body else 0) + announced l := by
  cases sl with
  | nil => cases h
  | cons l body =>
    rcases u2Dec_cons_outcome l body with h' | ⟨s', h', hb⟩ <;> rw [h'] at h <;> cases h
    exact ⟨l, body, rfl, by rw [List.length_cons, Nat.add_assoc, Nat.add_comm 1]; exact Nat.succ_le_succ hb, rfl⟩

theorem readU2Str_of_dec_ok {b : Buf} {s : Bytes} {n : Nat} (h : u2Dec b.rest = .ok (s, n)) :
    readU2Str b = .ok (s, b.advance n) := by
  simp only [readU2Str, readStringWith, h]

theorem readU2Str_of_dec_err {b : Buf} {k : ErrKind} (h : u2Dec b.rest = .err k) :
    readU2Str b = .err k := by
  simp only [readU2Str, readStringWith, h]

theorem readU2Str_ok_inv {b b' : Buf} {s : Bytes} (h : readU2Str b = .ok (s, b')) :
    ∃ n, u2Dec b.rest = .ok (s, n) ∧ b' = b.advance n := by
  unfold readU2Str readStringWith at h
  cases hd : u2Dec b.rest with
  | ok x =>
    obtain ⟨s', n⟩ := x
    rw [hd] at h
    cases h
    exact ⟨n, rfl, rfl⟩
  | err k => rw [hd] at h; cases h
  | crash => rw [hd] at h; cases h

theorem readU2Str_err_inv {b : Buf} {k : ErrKind} (h : readU2Str b = .err k) : k = .packetBad := by
  unfold readU2Str readStringWith at h
  cases hd : u2Dec b.rest with
  | ok x => obtain ⟨s', n⟩ := x; rw [hd] at h; cases h
  | err k' => rw [hd] at h; cases h; exact u2Dec_err hd
  | crash => rw [hd] at h; cases h

theorem safe_readU2Str : Safe readU2Str := safe_readStringWith _ u2Dec_noCrash

theorem progress_readU2Str : Progress readU2Str := by
  intro b a b' h
  obtain ⟨n, hd, rfl⟩ := readU2Str_ok_inv h
  obtain ⟨l, body, hr, hn, hnn⟩ := u2Dec_ok_consumed hd
  have hpos : 0 < n := by rw [hnn, Nat.add_assoc, Nat.add_comm]; exact Nat.succ_pos _
  simp only [Buf.remaining, Buf.rest_advance, List.length_drop]
  exact Nat.sub_lt (by rw [hr]; exact Nat.succ_pos _) hpos

theorem take_drop_take_append {α : Type} (body post : List α) {k a : Nat} (h : k + a ≤ body.length) :
    ((body.take (k + a) ++ post).drop k).take a = (body.drop k).take a := by
  have h1 : k ≤ (body.take (k + a)).length := by
    rw [List.length_take, Nat.min_eq_left h]; exact Nat.le_add_right k a
  have h2 : a ≤ ((body.take (k + a)).drop k).length := by
    rw [List.length_drop, List.length_take, Nat.min_eq_left h, Nat.add_sub_cancel_left]; exact Nat.le_refl a
  rw [List.drop_append_of_le_length h1, List.take_append_of_le_length h2, List.drop_take, List.take_take,
    Nat.add_sub_cancel_left, Nat.min_self]

/-- the outcome of the decoder depends only on the bytes it consumes and — for a UCS-2 string —
on whether a stray `0x01` follows the length byte (the one byte the decoder looks at without
necessarily consuming it) -/
theorem u2Dec_consumed_only {l : UInt8} {body s : Bytes} {n : Nat} (h : u2Dec (l :: body) = .ok (s, n))
    (post : Bytes) (hst : 0x80 ≤ l.toNat → strayOf (body.take (n - 1) ++ post) = strayOf body) :
    u2Dec (l :: (body.take (n - 1) ++ post)) = .ok (s, n) := by
  by_cases hl : 0x80 ≤ l.toNat
  · have hst := hst hl
    by_cases hb : strayOf body + announced l ≤ body.length
    · cases hu : utf16Decode (unitsOf .little ((body.drop (strayOf body)).take (announced l))) with
      | none => rw [u2Dec_ucs2_bad hl hb hu] at h; cases h
      | some cs =>
        rw [u2Dec_ucs2_ok hl hb hu] at h
        obtain ⟨rfl, rfl⟩ := Prod.mk.inj (Res.ok.inj h)
        rw [Nat.add_assoc, Nat.add_sub_cancel_left] at hst ⊢
        have hlen : strayOf (body.take (strayOf body + announced l) ++ post) + announced l
            ≤ (body.take (strayOf body + announced l) ++ post).length := by
          rw [hst, List.length_append, List.length_take, Nat.min_eq_left hb]; exact Nat.le_add_right _ _
        have hu' : utf16Decode (unitsOf .little (((body.take (strayOf body + announced l) ++ post).drop
            (strayOf (body.take (strayOf body + announced l) ++ post))).take (announced l))) = some cs := by
          rw [hst, take_drop_take_append body post hb]; exact hu
        rw [u2Dec_ucs2_ok hl hlen hu', hst, Nat.add_assoc]
    · rw [u2Dec_ucs2_short hl (Nat.lt_of_not_le hb)] at h; cases h
  · have hl' : l.toNat < 0x80 := Nat.lt_of_not_le hl
    by_cases hb : l.toNat ≤ body.length
    · rw [u2Dec_latin1_ok hl' hb] at h
      obtain ⟨rfl, rfl⟩ := Prod.mk.inj (Res.ok.inj h)
      rw [Nat.add_sub_cancel_left]
      have hlen : (body.take l.toNat).length = l.toNat := by rw [List.length_take, Nat.min_eq_left hb]
      have hb' : l.toNat ≤ (body.take l.toNat ++ post).length := by
        rw [List.length_append, hlen]; exact Nat.le_add_right _ _
      rw [u2Dec_latin1_ok hl' hb', List.take_append_of_le_length (Nat.le_of_eq hlen.symm), List.take_take,
        Nat.min_self]
    · rw [u2Dec_latin1_short hl' (Nat.lt_of_not_le hb)] at h; cases h

end Gd.Unreal2
