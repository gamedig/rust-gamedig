import GdVerif.Lemmas.Gs1Query
/-
  GameSpy 1: the variables a well-formed state sends as tables (`skeleton` for the server's, `kskeleton` for one
  player's: key ↦ the text sent, if any), and `extract_players` on a map that holds them: the players sent, and the
  entries that are no player fields.
-/
namespace Gd.Gs1
open Gd Gd.Gs Gd.Gs1.Spec

/-- every key the server may use with the text it sends for it, if any -/
def skeleton (y : Style) (st : State) : List (Bytes × Option Bytes) :=
  [(bs "hostname", some st.name), (bs "mapname", some st.map), (bs "gametype", some st.gameMode),
   (bs "gamever", some st.gameVersion), (bs "maxplayers", some (dec st.playersMaximum)),
   (bs "password", some (pwText y.pwStyle st.hasPassword)), (bs "maptitle", st.mapTitle),
   (bs "AdminEMail", st.adminContact), (bs "AdminName", if y.adminShort then none else st.adminName),
   (bs "admin", if y.adminShort then st.adminName else none), (bs "minplayers", st.playersMinimum.map dec),
   (bs "tournament", st.tournament.map (boolText y.boolUpper))]

theorem optPair_eq {α : Type} (k : Bytes) (f : α → Bytes) (o : Option α) :
    optPair k f o = present [(k, o.map f)] := by
  cases o <;> rfl

theorem serverPairs_eq (y : Style) (st : State) : serverPairs y st = present (skeleton y st) := by
  unfold serverPairs
  have hadmin : optPair (bs (if y.adminShort then "admin" else "AdminName")) id st.adminName
      = present [(bs "AdminName", if y.adminShort then none else st.adminName),
          (bs "admin", if y.adminShort then st.adminName else none)] := by
    cases y.adminShort <;> cases st.adminName <;> rfl
  rw [hadmin, optPair_eq, optPair_eq, optPair_eq, optPair_eq]
  have h6 : [(bs "hostname", st.name), (bs "mapname", st.map), (bs "gametype", st.gameMode), (bs "gamever", st.gameVersion),
      (bs "maxplayers", dec st.playersMaximum), (bs "password", pwText y.pwStyle st.hasPassword)]
      = present [(bs "hostname", some st.name), (bs "mapname", some st.map), (bs "gametype", some st.gameMode),
        (bs "gamever", some st.gameVersion), (bs "maxplayers", some (dec st.playersMaximum)),
        (bs "password", some (pwText y.pwStyle st.hasPassword))] := rfl
  rw [h6, ← present_append, ← present_append, ← present_append, ← present_append, ← present_append]
  simp [skeleton]

theorem skeleton_keys (y : Style) (st : State) : (skeleton y st).map (·.1) = serverKeyList := by
  simp [skeleton, serverKeyList]

theorem skeleton_nodup (y : Style) (st : State) : ((skeleton y st).map (·.1)).Nodup := by
  rw [skeleton_keys]
  exact serverKeyList_facts.1

theorem mapGet_serverPairs (y : Style) (st : State) (k : Bytes) :
    mapGet (serverPairs y st) k = tableGet (skeleton y st) k := by
  rw [serverPairs_eq]
  exact mapGet_present _ (skeleton_nodup y st) k

theorem mapGet_allPairs_skeleton {y : Style} {st : State} (h : Wf y st) {e : Bytes × Option Bytes}
    (he : e ∈ skeleton y st) : playerField e.1 = none ∧ mapGet (allPairs y st) e.1 = e.2 := by
  obtain ⟨_, hk, hpf⟩ := serverKeyList_facts.2 e.1 (skeleton_keys y st ▸ List.mem_map.mpr ⟨e, he, rfl⟩)
  have hne : ¬ HasKey st.extras e.1 := by
    rintro ⟨p, hp, hpk⟩
    exact (h.extrasKeys p hp).1 (hpk ▸ hk)
  have hnp : ¬ HasKey (playersPairsFrom y 0 st.players) e.1 := by
    rintro ⟨p, hp, hpk⟩
    obtain ⟨kd, _, n, _, _, this⟩ := playerField_player h hp
    rw [hpk, hpf] at this
    cases this
  refine ⟨hpf, ?_⟩
  unfold allPairs
  rw [List.append_assoc, mapGet_append, mapGet_serverPairs, tableGet_of_mem (skeleton_nodup y st) he]
  cases e.2 with
  | some v => rfl
  | none =>
    simp only
    rw [mapGet_append_right hne, mapGet_none_of_not_hasKey hnp]

theorem getD_modifyAt {α : Type} (l : List α) (i j : Nat) (f : α → α) (d : α) :
    (modifyAt l i f).getD j d = if j = i ∧ i < l.length then f (l.getD i d) else l.getD j d := by
  induction l generalizing i j with
  | nil => simp [modifyAt]
  | cons x r ih =>
    cases i with
    | zero => cases j <;> simp [modifyAt]
    | succ i =>
      cases j with
      | zero => simp [modifyAt]
      | succ j =>
        have := ih i j
        simp only [List.getD_eq_getElem?_getD] at this
        simp [modifyAt, this]

theorem modifyAt_length {α : Type} (l : List α) (i : Nat) (f : α → α) : (modifyAt l i f).length = l.length := by
  induction l generalizing i with
  | nil => rfl
  | cons x r ih => cases i <;> simp [modifyAt, ih]

theorem addField_length (pd : List (Map Bytes)) (id : Nat) (kind v : Bytes) :
    (addField pd id kind v).length = max pd.length (id + 1) := by
  unfold addField
  simp only [modifyAt_length]
  split
  · simp only [List.length_append, List.length_replicate]; omega
  · omega

/-- what `players_data[id].insert(kind, value)` (with the growth before it) does to lookups -/
theorem mapGet_addField (pd : List (Map Bytes)) (id : Nat) (kind v : Bytes) (i : Nat) (kind' : Bytes) :
    mapGet ((addField pd id kind v).getD i []) kind'
      = if i = id ∧ kind = kind' then some v else mapGet (pd.getD i []) kind' := by
  unfold addField
  simp only
  rw [getD_modifyAt]
  split
  · rename_i hge
    have hlen : id < (pd ++ List.replicate (id - pd.length + 1) ([] : Map Bytes)).length := by
      simp only [List.length_append, List.length_replicate]; omega
    by_cases hi : i = id
    · subst hi
      simp only [hlen, and_self, ↓reduceIte, true_and, getD_append_replicate, mapGet_mapInsert']
    · simp only [hi, false_and, ↓reduceIte, getD_append_replicate]
  · rename_i hlt
    have hlen : id < pd.length := by omega
    by_cases hi : i = id
    · subst hi
      simp only [hlen, and_self, ↓reduceIte, true_and, mapGet_mapInsert']
    · simp only [hi, false_and, ↓reduceIte]

/-- the table built from the player fields of a list of entries -/
def pdStep (pd : List (Map Bytes)) (e : Bytes × Bytes) : List (Map Bytes) :=
  match playerField e.1 with
  | some (kind, id) => addField pd id kind e.2
  | none => pd

theorem retain_fold (N : Nat) : ∀ (E : Map Bytes) (st : Retain),
    (∀ e ∈ E, ∀ k id, playerField e.1 = some (k, id) → id < N) →
    E.foldl (retainStep N) st
      = ⟨st.kept ++ E.filter (fun e => (playerField e.1).isNone), E.foldl pdStep st.pd, st.outOfRange⟩ := by
  intro E
  induction E with
  | nil => intro st _; simp
  | cons e r ih =>
    intro st h
    simp only [List.foldl_cons]
    rw [ih _ (fun x hx => h x (by simp [hx]))]
    cases hpf : playerField e.1 with
    | none => simp [retainStep, pdStep, hpf, List.filter_cons]
    | some t =>
      obtain ⟨k, id⟩ := t
      have hlt := h e (by simp) k id hpf
      have hge : ¬ id ≥ N := by omega
      simp [retainStep, pdStep, hpf, hge, List.filter_cons]

theorem pdFold_other (kind : Bytes) (i : Nat) : ∀ (E : Map Bytes) (pd : List (Map Bytes)),
    (∀ e ∈ E, playerField e.1 ≠ some (kind, i)) →
    mapGet ((E.foldl pdStep pd).getD i []) kind = mapGet (pd.getD i []) kind := by
  intro E
  induction E with
  | nil => intro pd _; rfl
  | cons e r ih =>
    intro pd h
    simp only [List.foldl_cons]
    rw [ih _ (fun x hx => h x (by simp [hx]))]
    have he := h e (by simp)
    unfold pdStep
    cases hpf : playerField e.1 with
    | none => rfl
    | some t =>
      obtain ⟨k, id⟩ := t
      simp only
      rw [mapGet_addField]
      have : ¬ (i = id ∧ k = kind) := by
        rintro ⟨rfl, rfl⟩
        exact he hpf
      simp [this]

def TagUnique (E : Map Bytes) : Prop :=
  E.Pairwise (fun a b => ∀ t, playerField a.1 = some t → playerField b.1 ≠ some t)

theorem pdFold_tagged (kind : Bytes) (i : Nat) : ∀ (E : Map Bytes) (pd : List (Map Bytes)), TagUnique E →
    ∀ e ∈ E, playerField e.1 = some (kind, i) → mapGet ((E.foldl pdStep pd).getD i []) kind = some e.2 := by
  intro E
  induction E with
  | nil => intro _ _ e he; cases he
  | cons x r ih =>
    intro pd hu e he hpf
    have hu' := List.pairwise_cons.mp hu
    simp only [List.foldl_cons]
    rcases List.mem_cons.mp he with rfl | her
    · rw [pdFold_other kind i r _ (fun z hz => hu'.1 z hz _ hpf)]
      simp only [pdStep, hpf, mapGet_addField, and_self, ↓reduceIte]
    · exact ih _ hu'.2 e her hpf

theorem pdStep_length_le (pd : List (Map Bytes)) (e : Bytes × Bytes) : pd.length ≤ (pdStep pd e).length := by
  unfold pdStep
  split
  · rw [addField_length]; omega
  · exact Nat.le_refl _

theorem pdFold_length_mono : ∀ (E : Map Bytes) (pd : List (Map Bytes)), pd.length ≤ (E.foldl pdStep pd).length := by
  intro E
  induction E with
  | nil => intro pd; exact Nat.le_refl _
  | cons e r ih => intro pd; exact Nat.le_trans (pdStep_length_le pd e) (ih _)

theorem pdFold_length_gt : ∀ (E : Map Bytes) (pd : List (Map Bytes)) (e : Bytes × Bytes), e ∈ E →
    ∀ k id, playerField e.1 = some (k, id) → id < (E.foldl pdStep pd).length := by
  intro E
  induction E with
  | nil => intro _ e he; cases he
  | cons x r ih =>
    intro pd e he k id hpf
    simp only [List.foldl_cons]
    rcases List.mem_cons.mp he with rfl | her
    · have : id < (pdStep pd e).length := by
        simp only [pdStep, hpf, addField_length]; omega
      exact Nat.lt_of_lt_of_le this (pdFold_length_mono r _)
    · exact ih _ e her k id hpf

theorem pdFold_length_le (N : Nat) : ∀ (E : Map Bytes) (pd : List (Map Bytes)), pd.length ≤ N →
    (∀ e ∈ E, ∀ k id, playerField e.1 = some (k, id) → id < N) → (E.foldl pdStep pd).length ≤ N := by
  intro E
  induction E with
  | nil => intro pd h _; exact h
  | cons x r ih =>
    intro pd h hall
    simp only [List.foldl_cons]
    apply ih
    · unfold pdStep
      cases hpf : playerField x.1 with
      | none => exact h
      | some t =>
        obtain ⟨k, id⟩ := t
        have := hall x (by simp) k id hpf
        simp only [addField_length]; omega
    · exact fun e he => hall e (by simp [he])

/-- the kinds of field with the text sent for them -/
def kskeleton (y : Style) (p : Player) : List (Bytes × Option Bytes) :=
  [(bs "player", if y.nameLong then none else some p.name),
   (bs "playername", if y.nameLong then some p.name else none),
   (bs "frags", some (padding y ++ decInt p.score)),
   (bs "ping", some (padding y ++ dec p.ping)),
   (bs "team", p.team.map fun t => padding y ++ dec t),
   (bs "mesh", p.mesh), (bs "skin", p.skin), (bs "face", p.face),
   (bs "ngsecret", p.secret.map (boolText y.boolUpper)),
   (bs "deaths", p.deaths.map fun t => padding y ++ dec t),
   (bs "health", p.health.map fun t => padding y ++ dec t)]

/-- `kind ↦ kind_i` on the keys -/
def rekey (i : Nat) (m : List (Bytes × Bytes)) : List (Bytes × Bytes) := m.map fun e => (fieldKeyB e.1 i, e.2)

theorem rekey_append (i : Nat) (a b : List (Bytes × Bytes)) : rekey i (a ++ b) = rekey i a ++ rekey i b := by
  simp [rekey]

theorem optPair_rekey {α : Type} (kind : String) (i : Nat) (f : α → Bytes) (o : Option α) :
    optPair (fieldKey kind i) f o = rekey i (present [(bs kind, o.map f)]) := by
  cases o <;> rfl

theorem playerPairs_eq (y : Style) (i : Nat) (p : Player) : playerPairs y i p = rekey i (present (kskeleton y p)) := by
  unfold playerPairs
  rw [optPair_rekey, optPair_rekey, optPair_rekey, optPair_rekey, optPair_rekey, optPair_rekey, optPair_rekey]
  have h3 : [(fieldKey (if y.nameLong then "playername" else "player") i, p.name),
      (fieldKey "frags" i, padding y ++ decInt p.score), (fieldKey "ping" i, padding y ++ dec p.ping)]
      = rekey i (present [(bs "player", if y.nameLong then none else some p.name),
          (bs "playername", if y.nameLong then some p.name else none),
          (bs "frags", some (padding y ++ decInt p.score)), (bs "ping", some (padding y ++ dec p.ping))]) := by
    cases y.nameLong <;> rfl
  rw [h3, ← rekey_append, ← rekey_append, ← rekey_append, ← rekey_append, ← rekey_append, ← rekey_append, ← rekey_append,
    ← present_append, ← present_append, ← present_append, ← present_append, ← present_append, ← present_append,
    ← present_append]
  simp [kskeleton]

theorem mapGet_rekey (i : Nat) (m : List (Bytes × Bytes)) (k : Bytes) :
    mapGet (rekey i m) (fieldKeyB k i) = mapGet m k := by
  induction m with
  | nil => rfl
  | cons e r ih =>
    simp only [rekey, List.map_cons, mapGet_cons] at ih ⊢
    by_cases h : e.1 = k
    · simp [h]
    · have h1 : (e.1 == k) = false := by simpa using h
      have h2 : (fieldKeyB e.1 i == fieldKeyB k i) = false := by
        simp only [beq_eq_false_iff_ne, ne_eq]
        exact fun e' => h (fieldKeyB_inj_kind e')
      simp only [h1, h2, Bool.false_eq_true, ↓reduceIte]
      exact ih

theorem kskeleton_nodup (y : Style) (p : Player) : ((kskeleton y p).map (·.1)).Nodup := by
  have : (kskeleton y p).map (·.1) = kindList := by simp [kskeleton, kindList]
  rw [this]
  exact kindList_facts.1

theorem mapGet_playerPairs (y : Style) (i : Nat) (p : Player) (k : Bytes) :
    mapGet (playerPairs y i p) (fieldKeyB k i) = tableGet (kskeleton y p) k := by
  rw [playerPairs_eq, mapGet_rekey]
  exact mapGet_present _ (kskeleton_nodup y p) k

theorem mem_playersPairsFrom (y : Style) : ∀ (ps : List Player) (j : Nat) (q : Bytes × Bytes),
    q ∈ playersPairsFrom y j ps ↔ ∃ m p, ps[m]? = some p ∧ q ∈ playerPairs y (j + m) p := by
  intro ps
  induction ps with
  | nil => intro j q; simp [playersPairsFrom]
  | cons p r ih =>
    intro j q
    simp only [playersPairsFrom, List.mem_append, ih]
    constructor
    · rintro (h | ⟨m, p', hm, hq⟩)
      · exact ⟨0, p, rfl, by simpa using h⟩
      · exact ⟨m + 1, p', by simpa using hm, by rw [show j + (m + 1) = j + 1 + m by omega]; exact hq⟩
    · rintro ⟨m, p', hm, hq⟩
      cases m with
      | zero =>
        simp only [List.getElem?_cons_zero, Option.some.injEq] at hm
        subst hm
        exact Or.inl (by simpa using hq)
      | succ m =>
        exact Or.inr ⟨m, p', by simpa using hm, by rw [show j + 1 + m = j + (m + 1) by omega]; exact hq⟩

/-- the cells of the table `extract_players` builds from any list `E` that holds the variables of a
well-formed state (at least the players' ones, at most all) with distinct keys: player `i`'s cell
answers like the table of what was sent for player `i` -/
theorem cell_lookup {y : Style} {st : State} (h : Wf y st) (E : Map Bytes)
    (hsub : ∀ e ∈ E, e ∈ allPairs y st) (hsup : ∀ q ∈ playersPairsFrom y 0 st.players, q ∈ E) (hd : Distinct E)
    (i : Nat) (p : Player) (hp : st.players[i]? = some p) (k : Bytes) :
    mapGet ((E.foldl pdStep []).getD i []) k = tableGet (kskeleton y p) k := by
  have hnp := h.nplayers
  have hilt : i < st.players.length := by
    have := List.getElem?_eq_some_iff.mp hp
    exact this.1
  -- tags determine keys inside `allPairs`
  have htag : ∀ e ∈ E, ∀ t, playerField e.1 = some t → e.1 = fieldKeyB t.1 t.2 ∧ t.1 ∈ kindList
      ∧ e ∈ playersPairsFrom y 0 st.players := by
    intro e he t ht
    obtain ⟨h1, h2, _, h4⟩ := tagged_allPairs h (hsub e he) ht
    exact ⟨h4, h2, h1⟩
  have hu : TagUnique E := by
    refine List.Pairwise.imp_of_mem ?_ hd
    intro a b ha hb hab t hta htb
    exact hab ((htag a ha t hta).1.trans (htag b hb t htb).1.symm)
  by_cases hex : ∃ e ∈ E, playerField e.1 = some (k, i)
  · obtain ⟨e, he, hpf⟩ := hex
    rw [pdFold_tagged k i E [] hu e he hpf]
    obtain ⟨hkey, hkind, hmem⟩ := htag e he (k, i) hpf
    obtain ⟨m, p', hm, hq⟩ := (mem_playersPairsFrom y st.players 0 e).mp hmem
    obtain ⟨k2, hk2, e2⟩ := playerPairs_key y (0 + m) p' hq
    have hmlt : m < st.players.length := (List.getElem?_eq_some_iff.mp hm).1
    have := fieldKeyB_inj hkind hk2 (by omega) (by omega) (hkey.symm.trans e2)
    simp only at this
    have hmi : m = i := by omega
    subst hmi
    rw [hp] at hm
    cases hm
    rw [← mapGet_playerPairs y m p k]
    have hq' : (fieldKeyB k m, e.2) ∈ playerPairs y m p := by
      have : e = (fieldKeyB k m, e.2) := by rw [← hkey]
      rw [← this]; simpa using hq
    exact (mapGet_of_mem (distinct_playerPairs y m p) hq').symm
  · have hno : ∀ e ∈ E, playerField e.1 ≠ some (k, i) := fun e he hpf => hex ⟨e, he, hpf⟩
    rw [pdFold_other k i E [] hno]
    simp only [List.getD_eq_getElem?_getD, List.getElem?_nil, Option.getD_none, mapGet_nil]
    rw [← mapGet_playerPairs y i p k]
    cases hv : mapGet (playerPairs y i p) (fieldKeyB k i) with
    | none => rfl
    | some v =>
      exfalso
      have hmem := hasKey_of_mapGet hv
      have hin : (fieldKeyB k i, v) ∈ playersPairsFrom y 0 st.players :=
        (mem_playersPairsFrom y st.players 0 _).mpr ⟨i, p, hp, by simpa using hmem⟩
      obtain ⟨k2, hk2, e2⟩ := playerPairs_key y i p hmem
      simp only at e2
      have hkk : k = k2 := fieldKeyB_inj_kind e2
      apply hno _ (hsup _ hin)
      simp only
      rw [hkk]
      exact playerField_kind hk2 (by omega)

theorem trimParseU_padded (y : Style) (bits n : Nat) (h : n < 2 ^ bits) : trimParseU bits (padding y ++ dec n) = .ok n := by
  unfold trimParseU padding
  rw [trimUtf8_padded _ _ (dec_plain n), parseUnsigned_dec bits n h]
  rfl

theorem trimParseI_padded (y : Style) (i : Int) (hlo : -(2 ^ 31 : Int) ≤ i) (hhi : i < 2 ^ 31) :
    trimParseI 32 (padding y ++ decInt i) = .ok i := by
  unfold trimParseI padding
  rw [trimUtf8_padded _ _ (decInt_plain i), parseSigned_decInt 32 (by omega) i (by simpa using hlo) (by simpa using hhi)]
  rfl

theorem optField_map {α β : Type} (o : Option α) (f : α → Bytes) (g : Bytes → Res β) (r : α → β)
    (h : ∀ v, o = some v → g (f v) = .ok (r v)) : optField (o.map f) g = .ok (o.map r) := by
  cases o with
  | none => rfl
  | some v => simp [optField, h v rfl]

theorem parseBoolLower_boolText (u b : Bool) : parseBoolLower (boolText u b) = some b := by
  cases u <;> cases b <;> decide +kernel

theorem buildPlayer_cell (y : Style) (p : Player) (d : Map Bytes)
    (hcell : ∀ e ∈ kskeleton y p, mapGet d e.1 = e.2)
    (hnum : (∀ v, p.team = some v → v < 2 ^ 8) ∧ p.ping < 2 ^ 16 ∧ (-(2 ^ 31 : Int) ≤ p.score)
      ∧ (p.score < 2 ^ 31) ∧ (∀ v, p.deaths = some v → v < 2 ^ 32) ∧ (∀ v, p.health = some v → v < 2 ^ 32)) :
    buildPlayer d = .ok p := by
  obtain ⟨hteam, hping, hlo, hhi, hdeaths, hhealth⟩ := hnum
  simp only [kskeleton, List.forall_mem_cons] at hcell
  obtain ⟨eplayer, eplayername, efrags, eping, eteam, emesh, eskin, eface, esecret, edeaths, ehealth, -⟩ := hcell
  have ab : ∀ s : String, asciiBytes s = bs s := fun _ => rfl
  unfold buildPlayer
  simp only [ab]
  rw [eplayer, eplayername, eteam, eping, efrags, edeaths, ehealth, esecret, eface, eskin, emesh]
  rw [optField_map p.team _ (trimParseU 8) id (fun v hv => trimParseU_padded y 8 v (hteam v hv)),
    optField_map p.deaths _ (trimParseU 32) id (fun v hv => trimParseU_padded y 32 v (hdeaths v hv)),
    optField_map p.health _ (trimParseU 32) id (fun v hv => trimParseU_padded y 32 v (hhealth v hv)),
    optField_map p.secret _ _ id (fun v _ => by rw [parseBoolLower_boolText]; rfl)]
  cases hl : y.nameLong <;>
    simp only [okOr, Res.bind_ok, trimParseU_padded y 16 p.ping hping, trimParseI_padded y p.score hlo hhi,
      Option.map_id_fun, id_eq, Res.pure_eq, Bool.false_eq_true, ↓reduceIte]

theorem buildPlayers_eq : ∀ (pd : List (Map Bytes)) (ps : List Player), pd.length = ps.length →
    (∀ i p, ps[i]? = some p → buildPlayer (pd.getD i []) = .ok p) → buildPlayers pd = .ok ps := by
  intro pd
  induction pd with
  | nil =>
    intro ps hl _
    cases ps with
    | nil => rfl
    | cons _ _ => simp at hl
  | cons d r ih =>
    intro ps hl h
    cases ps with
    | nil => simp at hl
    | cons p ps' =>
      have h0 := h 0 p rfl
      simp only [List.getD_eq_getElem?_getD, List.getElem?_cons_zero, Option.getD_some] at h0
      have hr := ih ps' (by simpa using hl) (fun i q hq => by
        have := h (i + 1) q (by simpa using hq)
        simpa using this)
      simp only [buildPlayers, h0, hr, Res.bind_ok, Res.pure_eq]

theorem playerPairs_name_mem (y : Style) (i : Nat) (p : Player) :
    (fieldKeyB (bs (if y.nameLong then "playername" else "player")) i, p.name) ∈ playerPairs y i p := by
  simp [playerPairs, fieldKey_eq]

theorem extractPlayers_eq {y : Style} {st : State} (h : Wf y st) (E : Map Bytes)
    (hsub : ∀ e ∈ E, e ∈ allPairs y st) (hsup : ∀ q ∈ playersPairsFrom y 0 st.players, q ∈ E) (hd : Distinct E) :
    extractPlayers E = .ok (st.players, E.filter (fun e => (playerField e.1).isNone)) := by
  have hnp := h.nplayers
  have hname : ∀ i p, st.players[i]? = some p →
      ∃ e ∈ E, playerField e.1 = some (bs (if y.nameLong then "playername" else "player"), i) := by
    intro i p hp
    have hi : i < st.players.length := (List.getElem?_eq_some_iff.mp hp).1
    refine ⟨_, hsup _ ((mem_playersPairsFrom y st.players 0 _).mpr ⟨i, p, hp, by simpa using playerPairs_name_mem y i p⟩), ?_⟩
    exact playerField_kind (by cases y.nameLong <;> simp [kindList]) (by omega)
  have htag : ∀ e ∈ E, ∀ k id, playerField e.1 = some (k, id) → id < st.players.length :=
    fun e he k id hpf => (tagged_allPairs h (hsub e he) hpf).2.2.1
  -- there are at least as many entries as players: `i + 1` is the tag of an entry for every index `i` of a player
  have hlen : st.players.length ≤ E.length := by
    let tagOf : Bytes × Bytes → Nat := fun e => match playerField e.1 with
      | some (_, id) => id + 1
      | none => 0
    have hsubset : List.range' 1 st.players.length ⊆ E.map tagOf := by
      intro t ht
      rw [List.mem_range'_1] at ht
      obtain ⟨e, he, hpf⟩ := hname (t - 1) st.players[t - 1] (List.getElem?_eq_getElem (by omega))
      refine List.mem_map.mpr ⟨e, he, ?_⟩
      simp only [tagOf, hpf]
      omega
    simpa using (List.nodup_range' (s := 1) (n := st.players.length)).length_le_of_subset hsubset
  unfold extractPlayers
  simp only
  rw [retain_fold E.length E ⟨[], [], false⟩ (fun e he k id hpf => Nat.lt_of_lt_of_le (htag e he k id hpf) hlen)]
  simp only [Bool.false_eq_true, ↓reduceIte, List.nil_append]
  have hpdlen : (E.foldl pdStep []).length = st.players.length := by
    apply Nat.le_antisymm
    · exact pdFold_length_le _ E [] (by simp) htag
    · cases hn : st.players.length with
      | zero => omega
      | succ n =>
        have hlast : n < st.players.length := by omega
        obtain ⟨e, he, hpf⟩ := hname n st.players[n] (List.getElem?_eq_getElem hlast)
        have := pdFold_length_gt E [] e he _ _ hpf
        omega
  rw [buildPlayers_eq _ st.players hpdlen (fun i p hp =>
    buildPlayer_cell y p _
      (fun e he => (cell_lookup h E hsub hsup hd i p hp e.1).trans (tableGet_of_mem (kskeleton_nodup y p) he))
      (h.playersNum p (List.mem_of_getElem? hp)))]

end Gd.Gs1
