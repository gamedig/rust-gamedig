import GdVerif.Lemmas.Http
/-
  The IPv6 round trip of `HttpClient::new`: the text `Display for Ipv6Addr` prints (model: `showIpv6`), put in brackets, is read
  back by the `url` crate's `parse_ipv6addr` (model: `parseIpv6`) as the same eight segments — for every address.
  Ingredients: hex printing / reading of a segment, the parser's loop over runs of pieces up to the end or up to a `::`,
  the dotted-quad tail of IPv4-mapped addresses, the zero run `Display` compresses (its correctness is a statement about the
  256 zero / non-zero patterns of eight segments, checked by evaluation).
-/
namespace Gd.Http

def isLowerHex (b : UInt8) : Bool := isDigit b || inRange b 97 102

def hexValue (ds : Bytes) : Nat := ds.foldl (fun acc b => acc * 16 + ((hexVal (Char.ofNat b.toNat)).getD 0)) 0

theorem isLowerHex_hexVal : ∀ b : UInt8, isLowerHex b = true → ∃ d, hexVal (Char.ofNat b.toNat) = some d ∧ d < 16 :=
  forall_uint8 (by decide +kernel)

theorem hexDigit_spec : ∀ d, d < 16 → isLowerHex (hexLowerDigit d) = true ∧ hexVal (Char.ofNat (hexLowerDigit d).toNat) = some d := by decide

theorem hexLowerAux_succ (f n : Nat) : hexLowerAux (f + 1) n
    = if n < 16 then [hexLowerDigit (n % 16)] else hexLowerAux f (n / 16) ++ [hexLowerDigit (n % 16)] := rfl

theorem hexValue_append (a : Bytes) (b : UInt8) : hexValue (a ++ [b]) = hexValue a * 16 + (hexVal (Char.ofNat b.toNat)).getD 0 := by
  simp [hexValue, List.foldl_append]

theorem hexLowerAux_spec (f : Nat) : ∀ n, n < 16 ^ f → 0 < f →
    (hexLowerAux f n).all isLowerHex = true ∧ hexLowerAux f n ≠ [] ∧ hexValue (hexLowerAux f n) = n := by
  induction f with
  | zero => intro n _ h; omega
  | succ f ih =>
    intro n hn _
    have hd := hexDigit_spec (n % 16) (Nat.mod_lt _ (by omega))
    rw [hexLowerAux_succ]
    generalize hexLowerDigit (n % 16) = c at hd ⊢
    by_cases h16 : n < 16
    · simp only [h16, if_true]
      have : n % 16 = n := Nat.mod_eq_of_lt h16
      rw [this] at hd
      refine ⟨by simp [hd.1], by simp, ?_⟩
      simp [hexValue, hd.2]
    · simp only [h16, if_false]
      have hf : 0 < f := by
        cases f with
        | zero => simp at hn; omega
        | succ f => omega
      have hlt : n / 16 < 16 ^ f := by
        rw [Nat.pow_succ] at hn
        exact Nat.div_lt_of_lt_mul (by omega)
      obtain ⟨h1, _, h3⟩ := ih (n / 16) hlt hf
      refine ⟨by simp [List.all_append, h1, hd.1], by simp, ?_⟩
      rw [hexValue_append, h3, hd.2]
      simp
      omega

theorem lt_pow_succ_self (n : Nat) : n < 16 ^ (n + 1) :=
  Nat.lt_trans (Nat.lt_succ_self n) (Nat.lt_pow_self (by decide))

theorem hexLower_spec (n : Nat) :
    (hexLower n).all isLowerHex = true ∧ hexLower n ≠ [] ∧ hexValue (hexLower n) = n :=
  hexLowerAux_spec (n + 1) n (lt_pow_succ_self n) (by omega)

theorem hexLowerAux_length (f : Nat) : ∀ (n k : Nat), n < 16 ^ f → 0 < k → n < 16 ^ k → (hexLowerAux f n).length ≤ k := by
  induction f with
  | zero => intro n k h; simp at h; subst h; intro _ _; simp [hexLowerAux]
  | succ f ih =>
    intro n k hn hk hnk
    rw [hexLowerAux_succ]
    by_cases h16 : n < 16
    · simp [h16]; omega
    · simp only [h16, if_false, List.length_append, List.length_singleton]
      have hf : n / 16 < 16 ^ f := by
        rw [Nat.pow_succ] at hn
        exact Nat.div_lt_of_lt_mul (by omega)
      cases k with
      | zero => omega
      | succ k =>
        have hk0 : 0 < k := by
          cases k with
          | zero => simp at hnk; omega
          | succ k => omega
        have : n / 16 < 16 ^ k := by
          rw [Nat.pow_succ] at hnk
          exact Nat.div_lt_of_lt_mul (by omega)
        have := ih (n / 16) k hf hk0 this
        omega

theorem hexLower_length16 (n : Nat) (h : n < 65536) : (hexLower n).length ≤ 4 :=
  hexLowerAux_length (n + 1) n 4 (lt_pow_succ_self n) (by omega) (by simpa using h)

def notHex (b : UInt8) : Prop := hexVal (Char.ofNat b.toNat) = none

def PieceEnd (r : Bytes) : Prop := r = [] ∨ ∃ b t, r = b :: t ∧ notHex b

theorem hexPiece_stop (k v n : Nat) {r : Bytes} (h : PieceEnd r) : hexPiece k r v n = (v, n, r) := by
  cases k with
  | zero => rfl
  | succ k =>
    rcases h with rfl | ⟨b, t, rfl, hb⟩
    · rfl
    · simp only [hexPiece, notHex] at hb ⊢
      rw [hb]

theorem hexPiece_digits {r : Bytes} (hr : PieceEnd r) : ∀ (ds : Bytes) (k v n : Nat), ds.all isLowerHex = true → ds.length ≤ k →
    hexPiece k (ds ++ r) v n = (ds.foldl (fun acc b => acc * 16 + (hexVal (Char.ofNat b.toNat)).getD 0) v, n + ds.length, r)
  | [], k, v, n, _, _ => by simpa using hexPiece_stop k v n hr
  | d :: ds, k, v, n, hall, hlen => by
    simp only [List.all_cons, Bool.and_eq_true] at hall
    obtain ⟨x, hx, _⟩ := isLowerHex_hexVal d hall.1
    cases k with
    | zero => simp at hlen
    | succ k =>
      have ih := hexPiece_digits hr ds k (v * 16 + x) (n + 1) hall.2 (by simpa using hlen)
      simp only [List.cons_append, hexPiece, hx, ih, List.foldl_cons, Option.getD_some, List.length_cons]
      congr 2
      omega

theorem hexPiece_hexLower (x : Nat) (hx : x < 65536) {r : Bytes} (hr : PieceEnd r) :
    hexPiece 4 (hexLower x ++ r) 0 0 = (x, (hexLower x).length, r) := by
  have hs := hexLower_spec x
  rw [hexPiece_digits hr _ 4 0 0 hs.1 (hexLower_length16 x hx)]
  have : hexValue (hexLower x) = x := hs.2.2
  simp only [hexValue] at this
  simp [this]

def segText (xs : List Nat) : Bytes := joinWith [58] (xs.map hexLower)

theorem segText_cons2 (x y : Nat) (t : List Nat) : segText (x :: y :: t) = hexLower x ++ 58 :: segText (y :: t) := by
  simp [segText, joinWith]

theorem segText_single (x : Nat) : segText [x] = hexLower x := rfl

theorem colon_notHex : notHex 58 := by unfold notHex; decide
theorem dot_notHex : notHex 46 := by unfold notHex; decide

theorem isLowerHex_ne_colon : ∀ b : UInt8, isLowerHex b = true → b ≠ 58 :=
  forall_uint8 (by decide +kernel)

theorem hexLower_head (x : Nat) : ∃ b r, hexLower x = b :: r ∧ isLowerHex b = true :=
  head_of_all (hexLower_spec x).2.1 (hexLower_spec x).1

theorem ipv6Loop_piece (f : Nat) {b : UInt8} (hb : b ≠ 58) (r : Bytes) (pieces : List Nat) (compress : Option Nat) :
    ipv6Loop (f + 1) (b :: r) pieces compress =
      if pieces.length == 8 then none
      else
        match hexPiece 4 (b :: r) 0 0 with
        | (v, n, rest) =>
          match rest with
          | [] => if n == 0 then none else some (pieces ++ [v], compress)
          | 46 :: _ =>
            if n == 0 then none
            else if pieces.length > 6 then none
            else (ipv4Tail (b :: r)).map fun two => (pieces ++ two, compress)
          | 58 :: r2 =>
            if n == 0 then none
            else if r2.isEmpty then none
            else ipv6Loop f r2 (pieces ++ [v]) compress
          | _ => none := by
  simp only [ipv6Loop]
  split
  · rename_i heq; cases heq
  · rename_i heq
    simp only [List.cons.injEq] at heq
    exact absurd heq.1 hb
  · rfl

theorem ipv6Loop_colon (f : Nat) (r : Bytes) (pieces : List Nat) (compress : Option Nat) :
    ipv6Loop (f + 1) (58 :: r) pieces compress =
      if pieces.length == 8 then none
      else if compress.isSome then none
      else ipv6Loop f r (pieces ++ [0]) (some (pieces.length + 1)) := by
  simp only [ipv6Loop]

theorem segText_ne_nil {x : Nat} {t : List Nat} : segText (x :: t) ≠ [] := by
  obtain ⟨b, r, hb, _⟩ := hexLower_head x
  cases t with
  | nil => rw [segText_single, hb]; simp
  | cons y t => rw [segText_cons2, hb]; simp

theorem ipv6Loop_piece_colon (f x : Nat) (hx : x < 65536) {rest : Bytes} (hne : rest ≠ []) (pieces : List Nat)
    (compress : Option Nat) (h8 : pieces.length < 8) :
    ipv6Loop (f + 1) (hexLower x ++ 58 :: rest) pieces compress = ipv6Loop f rest (pieces ++ [x]) compress := by
  obtain ⟨b, r, hb, hbx⟩ := hexLower_head x
  have hp := hexPiece_hexLower x hx (r := 58 :: rest) (.inr ⟨58, _, rfl, colon_notHex⟩)
  have h8' : (pieces.length == 8) = false := by simp; omega
  have hn : ((hexLower x).length == 0) = false := by rw [hb]; rfl
  have hne' : rest.isEmpty = false := by cases rest with
    | nil => exact absurd rfl hne
    | cons _ _ => rfl
  have hs : hexLower x ++ 58 :: rest = b :: (r ++ 58 :: rest) := by rw [hb]; rfl
  rw [hs, ipv6Loop_piece f (isLowerHex_ne_colon b hbx), ← hs, hp]
  simp only [h8', hn, hne', Bool.false_eq_true, if_false]

theorem ipv6Loop_piece_end (f x : Nat) (hx : x < 65536) (pieces : List Nat) (compress : Option Nat) (h8 : pieces.length < 8) :
    ipv6Loop (f + 1) (hexLower x) pieces compress = some (pieces ++ [x], compress) := by
  obtain ⟨b, r, hb, hbx⟩ := hexLower_head x
  have hp := hexPiece_hexLower x hx (r := []) (.inl rfl)
  rw [List.append_nil] at hp
  have h8' : (pieces.length == 8) = false := by simp; omega
  have hn : ((hexLower x).length == 0) = false := by rw [hb]; rfl
  rw [hb, ipv6Loop_piece f (isLowerHex_ne_colon b hbx), ← hb, hp]
  simp only [h8', hn, Bool.false_eq_true, if_false]

/-- The loop spends one unit of fuel on each piece (and on the second colon of a `::`), and the text has a byte for each. -/
theorem segText_length : ∀ xs : List Nat, xs.length ≤ (segText xs).length
  | [] => Nat.zero_le _
  | [x] => by
    obtain ⟨b, r, hb, _⟩ := hexLower_head x
    rw [segText_single, hb]
    exact Nat.succ_le_succ (Nat.zero_le _)
  | x :: y :: t => by
    have := segText_length (y :: t)
    rw [segText_cons2]
    simp only [List.length_append, List.length_cons] at this ⊢
    omega

theorem ipv6Loop_run_end : ∀ (xs : List Nat) (f : Nat) (pieces : List Nat) (compress : Option Nat), xs ≠ [] →
    (∀ x ∈ xs, x < 65536) → pieces.length + xs.length ≤ 8 →
    ipv6Loop (f + xs.length) (segText xs) pieces compress = some (pieces ++ xs, compress)
  | [], _, _, _, h, _, _ => absurd rfl h
  | [x], f, pieces, compress, _, hx, hlen =>
    ipv6Loop_piece_end f x (hx x (List.mem_cons_self ..)) pieces compress (by simp at hlen; omega)
  | x :: y :: t, f, pieces, compress, _, hx, hlen => by
    rw [segText_cons2]
    show ipv6Loop (f + (y :: t).length + 1) _ _ _ = _
    rw [ipv6Loop_piece_colon _ x (hx x (List.mem_cons_self ..)) segText_ne_nil pieces compress (by simp at hlen; omega),
      ipv6Loop_run_end (y :: t) f (pieces ++ [x]) compress (by simp) (fun z hz => hx z (List.mem_cons_of_mem _ hz)) (by simp at hlen ⊢; omega),
      List.append_assoc]
    rfl

theorem ipv6Loop_run_compress (rest : Bytes) : ∀ (xs : List Nat) (f : Nat) (pieces : List Nat), xs ≠ [] →
    (∀ x ∈ xs, x < 65536) → pieces.length + xs.length < 8 →
    ipv6Loop (f + 1 + xs.length) (segText xs ++ 58 :: 58 :: rest) pieces none
      = ipv6Loop f rest (pieces ++ xs ++ [0]) (some (pieces.length + xs.length + 1))
  | [], _, _, h, _, _ => absurd rfl h
  | [x], f, pieces, _, hx, hlen => by
    have h8 : (pieces.length + [x].length == 8) = false := by simp at hlen ⊢; omega
    rw [segText_single]
    show ipv6Loop (f + 1 + 1) _ _ _ = _
    rw [ipv6Loop_piece_colon (f + 1) x (hx x (List.mem_cons_self ..)) (by simp) pieces none (by simp at hlen; omega), ipv6Loop_colon]
    simp only [List.length_append, h8, Option.isSome_none, Bool.false_eq_true, if_false]
  | x :: y :: t, f, pieces, _, hx, hlen => by
    rw [segText_cons2, List.append_assoc, List.cons_append]
    show ipv6Loop (f + 1 + (y :: t).length + 1) _ _ _ = _
    rw [ipv6Loop_piece_colon _ x (hx x (List.mem_cons_self ..)) (by simp) pieces none (by simp at hlen; omega),
      ipv6Loop_run_compress rest (y :: t) f (pieces ++ [x]) (by simp) (fun z hz => hx z (List.mem_cons_of_mem _ hz))
        (by simp at hlen ⊢; omega)]
    simp [Nat.add_assoc, Nat.add_comm 1]

theorem ipv6Loop_nil (f : Nat) (pieces : List Nat) (compress : Option Nat) :
    ipv6Loop (f + 1) [] pieces compress = some (pieces, compress) := by simp only [ipv6Loop]

/-- what `parse_ipv6addr` makes of the loop's result: at most eight pieces; those behind a `::` go to the end, zeros between -/
def finishIpv6 : Option (List Nat × Option Nat) → Option (List Nat)
  | none => none
  | some (pieces, compress) =>
    if pieces.length > 8 then none
    else match compress with
      | some c => some (pieces.take c ++ List.replicate (8 - pieces.length) 0 ++ pieces.drop c)
      | none => if pieces.length == 8 then some pieces else none

theorem parseIpv6_start {b : UInt8} (hb : b ≠ 58) (r : Bytes) (hlen : 2 ≤ (b :: r).length) :
    parseIpv6 (b :: r) = finishIpv6 (ipv6Loop ((b :: r).length + 1) (b :: r) [] none) := by
  have h2 : ¬ (b :: r).length < 2 := by omega
  unfold parseIpv6
  simp only [h2, if_false]
  split
  all_goals
    rename_i heq
    split at heq
    · rename_i h; simp only [List.cons.injEq] at h; exact absurd h.1 hb
    · rename_i h; simp only [List.cons.injEq] at h; exact absurd h.1 hb
    · cases heq <;> rfl

theorem parseIpv6_start_compressed (r : Bytes) :
    parseIpv6 (58 :: 58 :: r) = finishIpv6 (ipv6Loop (r.length + 1) r [0] (some 1)) := by
  have h2 : ¬ (58 :: 58 :: r).length < 2 := by simp
  unfold parseIpv6
  simp only [h2, if_false]
  rfl

theorem parseIpv6_full (s : List Nat) (hlen : s.length = 8) (hs : ∀ x ∈ s, x < 65536) : parseIpv6 (segText s) = some s := by
  obtain ⟨x, y, t, rfl⟩ : ∃ x y t, s = x :: y :: t := by
    match s, hlen with
    | x :: y :: t, _ => exact ⟨x, y, t, rfl⟩
  obtain ⟨b, r, hb, hbx⟩ := hexLower_head x
  have hshape : segText (x :: y :: t) = b :: (r ++ 58 :: segText (y :: t)) := by rw [segText_cons2, hb]; rfl
  obtain ⟨f, hf⟩ := Nat.exists_eq_add_of_le' (Nat.le_succ_of_le (segText_length (x :: y :: t)))
  have hrun := ipv6Loop_run_end (x :: y :: t) f [] none (by simp) hs (by simp [hlen])
  rw [← hf] at hrun
  have h2 : 2 ≤ (segText (x :: y :: t)).length := by rw [hshape]; simp; omega
  rw [hshape] at hrun h2 ⊢
  rw [parseIpv6_start (isLowerHex_ne_colon b hbx) _ h2, hrun]
  simp [finishIpv6, hlen]

/-- where the pieces end up when the text had a `::`: `before`, the zeros the `::` stands for, `after` -/
theorem compress_fill (before after : List Nat) (n : Nat) (hn : 1 ≤ n) (hlen : before.length + n + after.length = 8) :
    (before ++ [0] ++ after).take (before.length + 1) ++ List.replicate (8 - (before ++ [0] ++ after).length) 0
      ++ (before ++ [0] ++ after).drop (before.length + 1) = before ++ List.replicate n 0 ++ after := by
  have e : 8 - (before ++ [0] ++ after).length = n - 1 := by
    simp only [List.length_append, List.length_singleton]
    omega
  have hc : (before ++ [0]).length = before.length + 1 := by simp
  rw [e, List.take_left' hc, List.drop_left' hc]
  obtain ⟨m, rfl⟩ : ∃ m, n = m + 1 := ⟨n - 1, by omega⟩
  simp [List.replicate_succ]

/-- an address with `::`: `<before>::<after>`, either side possibly empty -/
theorem parseIpv6_compressed (before after : List Nat) (n : Nat) (hn : 2 ≤ n)
    (hlen : before.length + n + after.length = 8) (hb : ∀ x ∈ before, x < 65536) (ha : ∀ x ∈ after, x < 65536) :
    parseIpv6 (segText before ++ 58 :: 58 :: segText after) = some (before ++ List.replicate n 0 ++ after) := by
  -- behind the `::` the loop holds `before ++ [0]` and reads `after` to the end
  have hfinal : ∀ f, ipv6Loop (f + 1 + after.length) (segText after) (before ++ [0]) (some (before.length + 1))
      = some (before ++ [0] ++ after, some (before.length + 1)) := by
    intro f
    cases after with
    | nil => simp [segText, joinWith, ipv6Loop_nil]
    | cons y u => exact ipv6Loop_run_end (y :: u) (f + 1) _ _ (by simp) ha (by simp at hlen ⊢; omega)
  obtain ⟨p, hp⟩ := Nat.exists_eq_add_of_le' (segText_length before)
  obtain ⟨q, hq⟩ := Nat.exists_eq_add_of_le' (segText_length after)
  have hfill := compress_fill before after n (by omega) hlen
  have h8 : ¬ (before ++ [0] ++ after).length > 8 := by
    simp only [List.length_append, List.length_singleton]
    omega
  cases before with
  | nil =>
    rw [show segText [] ++ 58 :: 58 :: segText after = 58 :: 58 :: segText after from rfl, parseIpv6_start_compressed]
    have hrun := hfinal q
    rw [show q + 1 + after.length = (segText after).length + 1 by omega] at hrun
    simp only [List.nil_append, List.length_nil, Nat.zero_add] at hrun hfill h8
    simp only [finishIpv6, hrun, h8, if_false, hfill, List.nil_append]
  | cons x t =>
    obtain ⟨b, r, hbx, hbh⟩ := hexLower_head x
    obtain ⟨r', hr'⟩ : ∃ r', segText (x :: t) ++ 58 :: 58 :: segText after = b :: r' := by
      cases t with
      | nil => exact ⟨r ++ 58 :: 58 :: segText after, by rw [segText_single, hbx]; rfl⟩
      | cons y t => exact ⟨r ++ 58 :: (segText (y :: t) ++ 58 :: 58 :: segText after), by rw [segText_cons2, hbx]; simp⟩
    have hrun := ipv6Loop_run_compress (segText after) (x :: t) (p + q + 1 + 1 + after.length) [] (by simp) hb (by simp at hlen ⊢; omega)
    rw [show p + q + 1 + 1 + after.length + 1 + (x :: t).length = (segText (x :: t) ++ 58 :: 58 :: segText after).length + 1 by
      simp only [List.length_append, List.length_cons] at hp ⊢; omega] at hrun
    have h2 : 2 ≤ (b :: r').length := by rw [← hr']; simp; omega
    rw [hr'] at hrun ⊢
    rw [parseIpv6_start (isLowerHex_ne_colon b hbh) _ h2, hrun]
    simp only [finishIpv6, List.nil_append, List.length_nil, Nat.zero_add, hfinal (p + q + 1), h8, if_false, hfill]

/-- the digit accumulation of one dotted-quad piece inside an IPv6 literal (outer `none` = rejected) -/
def ipv4Fold : Option Nat → Bytes → Option (Option Nat)
  | acc, [] => some acc
  | acc, b :: r =>
    let d := b.toNat - 48
    match acc with
    | none => ipv4Fold (some d) r
    | some 0 => none
    | some v => if v * 10 + d > 255 then none else ipv4Fold (some (v * 10 + d)) r

def DigitsEnd (r : Bytes) : Prop := r = [] ∨ ∃ b t, r = b :: t ∧ isDigit b = false

theorem ipv4Piece_end {r : Bytes} (hr : DigitsEnd r) (g : Nat) (acc : Option Nat) :
    ipv4Piece (g + 1) r acc = acc.map (·, r) := by
  rcases hr with rfl | ⟨b, t, rfl, hb⟩
  · rfl
  · simp only [ipv4Piece, hb, Bool.false_eq_true, if_false]

theorem ipv4Piece_step (g : Nat) (d : UInt8) (hd : isDigit d = true) (s : Bytes) (acc : Option Nat) :
    ipv4Piece (g + 1) (d :: s) acc =
      match acc with
      | none => ipv4Piece g s (some (d.toNat - 48))
      | some 0 => none
      | some v => if v * 10 + (d.toNat - 48) > 255 then none else ipv4Piece g s (some (v * 10 + (d.toNat - 48))) := by
  simp only [ipv4Piece, hd, if_true]
  cases acc with
  | none => rfl
  | some v => cases v <;> rfl

theorem ipv4Fold_cons_none (d : UInt8) (ds : Bytes) : ipv4Fold none (d :: ds) = ipv4Fold (some (d.toNat - 48)) ds := rfl
theorem ipv4Fold_cons_zero (d : UInt8) (ds : Bytes) : ipv4Fold (some 0) (d :: ds) = none := rfl
theorem ipv4Fold_cons_succ (v : Nat) (d : UInt8) (ds : Bytes) : ipv4Fold (some (v + 1)) (d :: ds)
    = if (v + 1) * 10 + (d.toNat - 48) > 255 then none else ipv4Fold (some ((v + 1) * 10 + (d.toNat - 48))) ds := rfl

theorem ipv4Piece_digits {r : Bytes} (hr : DigitsEnd r) (ds : Bytes) : ∀ (f : Nat) (acc : Option Nat),
    ds.all isDigit = true → ds.length < f →
    ipv4Piece f (ds ++ r) acc = (ipv4Fold acc ds).bind (fun a => a.map (·, r)) := by
  induction ds with
  | nil =>
    intro f acc _ hf
    obtain ⟨g, rfl⟩ : ∃ g, f = g + 1 := ⟨f - 1, by simp at hf; omega⟩
    exact ipv4Piece_end hr g acc
  | cons d ds ih =>
    intro f acc hall hf
    obtain ⟨g, rfl⟩ : ∃ g, f = g + 1 := ⟨f - 1, by simp at hf; omega⟩
    simp only [List.all_cons, Bool.and_eq_true] at hall
    have hlen : ds.length < g := by simp at hf; omega
    rw [List.cons_append, ipv4Piece_step g d hall.1]
    generalize hx : d.toNat - 48 = x
    cases acc with
    | none =>
      rw [ipv4Fold_cons_none, hx]
      exact ih g _ hall.2 hlen
    | some v =>
      cases v with
      | zero => rw [ipv4Fold_cons_zero]; rfl
      | succ v =>
        rw [ipv4Fold_cons_succ, hx]
        show (if (v + 1) * 10 + x > 255 then none else ipv4Piece g (ds ++ r) (some ((v + 1) * 10 + x))) = _
        split
        · rfl
        · exact ih g _ hall.2 hlen

/-- the decimal text of a byte passes the dotted-quad reader (no leading zero, at most 255), again for the 256 bytes -/
theorem ipv4Fold_natDec : ∀ n, n < 256 → ipv4Fold none (natDec n) = some (some n) := by decide +kernel

theorem ipv4Piece_natDec (n : Nat) (hn : n < 256) {r : Bytes} (hr : DigitsEnd r) (f : Nat) (hf : (natDec n).length < f) :
    ipv4Piece f (natDec n ++ r) none = some (n, r) := by
  rw [ipv4Piece_digits hr _ f none (natDec_spec n).1 hf, ipv4Fold_natDec n hn]
  rfl

theorem dot_digitsEnd (t : Bytes) : DigitsEnd (46 :: t) := .inr ⟨46, t, rfl, by decide⟩

theorem ipv4Tail_showIpv4 (a b c d : UInt8) :
    ipv4Tail (showIpv4 a b c d) = some [a.toNat * 256 + b.toNat, c.toNat * 256 + d.toNat] := by
  rw [showIpv4_eq]
  unfold ipv4Tail
  rw [ipv4Piece_natDec a.toNat a.toNat_lt (dot_digitsEnd _) _ (by simp; omega)]
  simp only []
  rw [ipv4Piece_natDec b.toNat b.toNat_lt (dot_digitsEnd _) _ (by simp; omega)]
  simp only []
  rw [ipv4Piece_natDec c.toNat c.toNat_lt (dot_digitsEnd _) _ (by simp; omega)]
  simp only []
  have := ipv4Piece_natDec d.toNat d.toNat_lt (r := []) (.inl rfl) ((natDec d.toNat).length + 1) (by omega)
  simp only [List.append_nil] at this
  rw [this]

theorem showSegs_eq (s : List UInt16) : showSegs s = segText (s.map (·.toNat)) := by
  simp [showSegs, segText, List.map_map, Function.comp_def]

theorem natDec_lowerHex (n : Nat) : (natDec n).all isLowerHex = true := by
  have := (natDec_spec n).1
  simp only [List.all_eq_true] at this ⊢
  intro b hb
  have := this b hb
  simp [isLowerHex, this]

theorem natDec_length_256 : ∀ n, n < 256 → (natDec n).length ≤ 3 := by decide +kernel

theorem parseIpv6_mapped (a b c d : UInt8) :
    parseIpv6 (asciiBytes "::ffff:" ++ showIpv4 a b c d)
      = some [0, 0, 0, 0, 0, 65535, a.toNat * 256 + b.toNat, c.toNat * 256 + d.toNat] := by
  -- `::`, the piece `ffff`, the dotted quad
  have htext : asciiBytes "::ffff:" ++ showIpv4 a b c d = 58 :: 58 :: (hexLower 65535 ++ 58 :: showIpv4 a b c d) := by
    rw [show hexLower 65535 = [102, 102, 102, 102] by decide +kernel]
    rfl
  rw [htext, parseIpv6_start_compressed,
    ipv6Loop_piece_colon _ 65535 (by decide) (showIpv4_ne_nil a b c d) [0] (some 1) (by decide)]
  obtain ⟨d0, r0, hn, hd0⟩ := natDec_head a.toNat
  have hv4 : showIpv4 a b c d = d0 :: (r0 ++ 46 :: (natDec b.toNat ++ 46 :: (natDec c.toNat ++ 46 :: natDec d.toNat))) := by
    rw [showIpv4_eq, hn]; rfl
  have hd058 : d0 ≠ 58 := (hostChar_props d0 (isDigit_hostChar d0 hd0)).2.1.1
  have hp2 : ∃ v n, hexPiece 4 (showIpv4 a b c d) 0 0 = (v, n + 1, 46 :: (natDec b.toNat ++ 46 :: (natDec c.toNat ++ 46 :: natDec d.toNat))) := by
    rw [showIpv4_eq, hexPiece_digits (.inr ⟨46, _, rfl, dot_notHex⟩) (natDec a.toNat) 4 0 0 (natDec_lowerHex _)
      (by have := natDec_length_256 _ a.toNat_lt; omega)]
    exact ⟨List.foldl (fun acc b => acc * 16 + (hexVal (Char.ofNat b.toNat)).getD 0) 0 (natDec a.toNat), r0.length, by rw [hn]; simp⟩
  obtain ⟨v, n, hp2⟩ := hp2
  have hfuel : (hexLower 65535 ++ 58 :: showIpv4 a b c d).length = ((hexLower 65535).length + (showIpv4 a b c d).length) + 1 := by
    rw [List.length_append, List.length_cons, Nat.add_assoc]
  rw [hfuel, hv4, ipv6Loop_piece _ hd058, ← hv4, hp2, ipv4Tail_showIpv4]
  simp [finishIpv6, List.replicate]

/-- `zeroRunGo` on the zero pattern alone: the search only asks of a segment whether it is zero, so what it finds is a
function of eight Booleans (likewise `urlZeroRunGoB` below) -/
def zeroRunGoB : List Bool → Nat → Nat × Nat → Nat × Nat → Nat × Nat
  | [], _, _, best => best
  | x :: r, i, cur, best =>
    if x then
      let cur' : Nat × Nat := (if cur.2 == 0 then i else cur.1, cur.2 + 1)
      zeroRunGoB r (i + 1) cur' (if cur'.2 > best.2 then cur' else best)
    else zeroRunGoB r (i + 1) (0, 0) best

theorem zeroRunGo_eq_B : ∀ (s : List UInt16) (i : Nat) (c b : Nat × Nat),
    zeroRunGo s i c b = zeroRunGoB (s.map (· == 0)) i c b
  | [], _, _, _ => rfl
  | x :: r, i, c, b => by
    simp only [zeroRunGo, List.map_cons, zeroRunGoB]
    split <;> simp [zeroRunGo_eq_B r]

theorem longestZeroRun_eq_B (s : List UInt16) : longestZeroRun s = zeroRunGoB (s.map (· == 0)) 0 (0, 0) (0, 0) :=
  zeroRunGo_eq_B s 0 (0, 0) (0, 0)

theorem forall_bool8 {P : List Bool → Prop} (h : ∀ b0 b1 b2 b3 b4 b5 b6 b7, P [b0, b1, b2, b3, b4, b5, b6, b7]) :
    ∀ l : List Bool, l.length = 8 → P l
  | [b0, b1, b2, b3, b4, b5, b6, b7], _ => h b0 b1 b2 b3 b4 b5 b6 b7

theorem zeroRunB_spec : ∀ l : List Bool, l.length = 8 →
    let z := zeroRunGoB l 0 (0, 0) (0, 0)
    z.1 + z.2 ≤ 8 ∧ (∀ j, j < z.2 → l[z.1 + j]? = some true) :=
  forall_bool8 (by decide +kernel)

theorem list_decomp_zero (i n : Nat) (s : List Nat) (hz : ∀ j, j < n → s[i + j]? = some 0) :
    s = s.take i ++ List.replicate n 0 ++ s.drop (i + n) := by
  have hrun : (s.drop i).take n = List.replicate n 0 := by
    apply List.ext_getElem?
    intro j
    rw [List.getElem?_take, List.getElem?_replicate, List.getElem?_drop]
    split
    · exact hz j ‹_›
    · rfl
  rw [← hrun, List.append_assoc, ← List.drop_drop, List.take_append_drop, List.take_append_drop]

theorem toNat_lt_all (s : List UInt16) : ∀ x ∈ s.map (·.toNat), x < 65536 := by
  intro x hx
  obtain ⟨y, _, rfl⟩ := List.mem_map.mp hx
  exact y.toNat_lt

theorem parseIpv6_generic (s : List UInt16) (hlen : s.length = 8) :
    parseIpv6 (showIpv6Generic s) = some (s.map (·.toNat)) := by
  have hlt := toNat_lt_all s
  have hz := zeroRunB_spec (s.map (· == 0)) (by rw [List.length_map, hlen])
  simp only [← longestZeroRun_eq_B] at hz
  unfold showIpv6Generic
  generalize longestZeroRun s = z at hz ⊢
  obtain ⟨hle, hzero⟩ := hz
  simp only []
  have hzero' : ∀ j, j < z.2 → (s.map (·.toNat))[z.1 + j]? = some 0 := by
    intro j hj
    have := hzero j hj
    rw [List.getElem?_map] at this ⊢
    cases hg : s[z.1 + j]? with
    | none => rw [hg] at this; simp at this
    | some y =>
      rw [hg] at this
      simp only [Option.map_some, Option.some.injEq, beq_iff_eq] at this
      simp [this]
  by_cases h2 : z.2 > 1
  · simp only [h2, if_true, showSegs_eq]
    have hdec := list_decomp_zero z.1 z.2 (s.map (·.toNat)) hzero'
    have htake : (s.take z.1).map (·.toNat) = (s.map (·.toNat)).take z.1 := by simp [List.map_take]
    have hdrop : (s.drop (z.1 + z.2)).map (·.toNat) = (s.map (·.toNat)).drop (z.1 + z.2) := by simp [List.map_drop]
    rw [htake, hdrop]
    have hbl : ((s.map (·.toNat)).take z.1).length = z.1 := by simp [hlen]; omega
    have hal : ((s.map (·.toNat)).drop (z.1 + z.2)).length = 8 - (z.1 + z.2) := by simp [hlen]
    have hbb : ∀ x ∈ (s.map (·.toNat)).take z.1, x < 65536 := fun x hx => hlt x (List.mem_of_mem_take hx)
    have haa : ∀ x ∈ (s.map (·.toNat)).drop (z.1 + z.2), x < 65536 := fun x hx => hlt x (List.mem_of_mem_drop hx)
    have : segText ((s.map (·.toNat)).take z.1) ++ asciiBytes "::" ++ segText ((s.map (·.toNat)).drop (z.1 + z.2))
        = segText ((s.map (·.toNat)).take z.1) ++ 58 :: 58 :: segText ((s.map (·.toNat)).drop (z.1 + z.2)) := by
      simp [asciiBytes]
    rw [this, parseIpv6_compressed _ _ z.2 (by omega) (by rw [hbl, hal]; omega) hbb haa]
    exact congrArg some hdec.symm
  · simp only [h2, if_false, showSegs_eq]
    exact parseIpv6_full _ (by simp [hlen]) hlt

/-- THE ROUND TRIP: what `Display for Ipv6Addr` prints, the URL parser reads back as the same eight segments -/
theorem parseIpv6_showIpv6 (s0 s1 s2 s3 s4 s5 s6 s7 : UInt16) :
    parseIpv6 (showIpv6 [s0, s1, s2, s3, s4, s5, s6, s7])
      = some [s0.toNat, s1.toNat, s2.toNat, s3.toNat, s4.toNat, s5.toNat, s6.toNat, s7.toNat] := by
  unfold showIpv6
  simp only []
  by_cases hm : (s0 == 0 && s1 == 0 && s2 == 0 && s3 == 0 && s4 == 0 && s5 == 0xFFFF) = true
  · simp only [hm, if_true]
    simp only [Bool.and_eq_true, beq_iff_eq] at hm
    obtain ⟨⟨⟨⟨⟨rfl, rfl⟩, rfl⟩, rfl⟩, rfl⟩, rfl⟩ := hm
    rw [parseIpv6_mapped]
    have h6 := s6.toNat_lt
    have h7 := s7.toNat_lt
    have e : ∀ n : Nat, n < 65536 → (UInt8.ofNat (n / 256)).toNat * 256 + (UInt8.ofNat (n % 256)).toNat = n := by
      intro n hn
      simp only [UInt8.toNat_ofNat']
      omega
    rw [e _ h6, e _ h7]
    rfl
  · simp only [hm, Bool.false_eq_true, if_false]
    exact parseIpv6_generic _ rfl

def urlZeroRunGoB : List Bool → Nat → Option Nat → Nat × Nat → Nat × Nat
  | [], i, start, best =>
    match start with
    | some s => if i - s > best.2 then (s, i - s) else best
    | none => best
  | x :: r, i, start, best =>
    if x then urlZeroRunGoB r (i + 1) (start.or (some i)) best
    else
      let best' := match start with
        | some s => if i - s > best.2 then (s, i - s) else best
        | none => best
      urlZeroRunGoB r (i + 1) none best'

theorem urlZeroRunGo_eq_B : ∀ (s : List Nat) (i : Nat) (st : Option Nat) (b : Nat × Nat),
    urlZeroRunGo s i st b = urlZeroRunGoB (s.map (· == 0)) i st b
  | [], _, _, _ => rfl
  | x :: r, i, st, b => by
    simp only [urlZeroRunGo, List.map_cons, urlZeroRunGoB]
    split
    · simp [urlZeroRunGo_eq_B r]
    · rw [urlZeroRunGo_eq_B r]; cases st <;> rfl

/-- both searches find the same run whenever it is worth compressing, for each of the 256 zero patterns -/
theorem zeroRuns_agree : ∀ l : List Bool, l.length = 8 →
    let z := zeroRunGoB l 0 (0, 0) (0, 0)
    let u := urlZeroRunGoB l 0 none (0, 0)
    (z.2 > 1 → u = z) ∧ (¬ z.2 > 1 → u.2 < 2) :=
  forall_bool8 (by decide +kernel)

/-- `write_ipv6` spells an address the way `Display for Ipv6Addr` does (IPv4-mapped form aside) -/
theorem writeIpv6_eq_generic (s : List UInt16) (hlen : s.length = 8) : writeIpv6 (s.map (·.toNat)) = showIpv6Generic s := by
  have hag := zeroRuns_agree (s.map (· == 0)) (by rw [List.length_map, hlen])
  have hbeq : (fun x : UInt16 => x.toNat == 0) = (· == 0) := by
    funext x
    rw [Bool.eq_iff_iff]
    simp [← UInt16.toNat_inj]
  have hu : urlZeroRunGo (s.map (·.toNat)) 0 none (0, 0) = urlZeroRunGoB (s.map (· == 0)) 0 none (0, 0) := by
    rw [urlZeroRunGo_eq_B, List.map_map, ← hbeq]
    rfl
  simp only [← longestZeroRun_eq_B, ← hu] at hag
  unfold writeIpv6 showIpv6Generic
  simp only []
  generalize longestZeroRun s = z at hag ⊢
  generalize urlZeroRunGo (s.map (·.toNat)) 0 none (0, 0) = u at hag ⊢
  by_cases h2 : z.2 > 1
  · have := hag.1 h2
    subst this
    have : ¬ u.2 < 2 := by omega
    simp only [this, if_false, h2, if_true, showSegs_eq, segText, List.map_take, List.map_drop]
  · have := hag.2 h2
    simp only [this, if_true, h2, if_false, showSegs_eq, segText]

/-- inside square brackets the host scan passes colons; it ends at the colon behind the closing bracket -/
theorem hostSpan_inside (rest : Bytes) : ∀ (body : Bytes), (∀ b ∈ body, b ≠ 91 ∧ b ≠ 93) →
    hostSpan (body ++ 93 :: 58 :: rest) true = (body ++ [93], 58 :: rest)
  | [], _ => by simp [hostSpan]
  | b :: r, h => by
    obtain ⟨h91, h93⟩ := h b (List.mem_cons_self ..)
    have ih := hostSpan_inside rest r (fun x hx => h x (List.mem_cons_of_mem _ hx))
    have e2 : (b == 91) = false := by simp [h91]
    have e3 : (b == 93) = false := by simp [h93]
    simp only [List.cons_append, hostSpan, Bool.not_true, Bool.and_false, Bool.false_eq_true, if_false, e2, e3, ih]

theorem hostSpan_bracketed (rest body : Bytes) (h : ∀ b ∈ body, b ≠ 91 ∧ b ≠ 93) :
    hostSpan (91 :: (body ++ [93]) ++ 58 :: rest) false = (91 :: (body ++ [93]), 58 :: rest) := by
  have := hostSpan_inside rest body h
  simp only [List.cons_append, List.append_assoc, List.singleton_append, hostSpan]
  simp [this]

/-- a byte of the text `Display for Ipv6Addr` prints: a lower-case hex digit, a colon or a dot -/
def v6Char (b : UInt8) : Bool := isLowerHex b || b == 58 || b == 46

theorem v6Char_props : ∀ b : UInt8, v6Char b = true →
    (isTabOrNewline b = false ∧ isAuthorityEnd b = false ∧ b ≠ 64) ∧ (b ≠ 91 ∧ b ≠ 93) :=
  forall_uint8 (by decide +kernel)

theorem hexLower_v6Char (x : Nat) : ∀ b ∈ hexLower x, v6Char b = true := by
  intro b hb
  have := List.all_eq_true.mp (hexLower_spec x).1 b hb
  simp [v6Char, this]

theorem segText_v6Char : ∀ (xs : List Nat), ∀ b ∈ segText xs, v6Char b = true
  | [], b, hb => by simp [segText, joinWith] at hb
  | [x], b, hb => hexLower_v6Char x b hb
  | x :: y :: t, b, hb => by
    rw [segText_cons2] at hb
    simp only [List.mem_append, List.mem_cons] at hb
    rcases hb with hb | hb | hb
    · exact hexLower_v6Char x b hb
    · subst hb; decide
    · exact segText_v6Char (y :: t) b hb

theorem showIpv4_v6Char (a b c d : UInt8) : ∀ x ∈ showIpv4 a b c d, v6Char x = true := by
  intro x hx
  rcases showIpv4_chars a b c d x hx with h | h
  · simp [v6Char, isLowerHex, h]
  · subst h; decide

theorem showIpv6Generic_v6Char (s : List UInt16) : ∀ b ∈ showIpv6Generic s, v6Char b = true := by
  intro b hb
  unfold showIpv6Generic at hb
  simp only [] at hb
  split at hb
  · simp only [showSegs_eq, List.mem_append] at hb
    rcases hb with (hb | hb) | hb
    · exact segText_v6Char _ b hb
    · have : b = 58 := by
        have : b ∈ [(58 : UInt8), 58] := hb
        simpa using this
      subst this; decide
    · exact segText_v6Char _ b hb
  · rw [showSegs_eq] at hb
    exact segText_v6Char _ b hb

theorem showIpv6_v6Char (s : List UInt16) : ∀ b ∈ showIpv6 s, v6Char b = true := by
  unfold showIpv6
  split
  · split
    · intro b hb
      simp only [List.mem_append] at hb
      rcases hb with hb | hb
      · have : b ∈ [(58 : UInt8), 58, 102, 102, 102, 102, 58] := hb
        simp only [List.mem_cons, List.mem_nil_iff, or_false] at this
        rcases this with h | h | h | h | h | h | h <;> (subst h; decide)
      · exact showIpv4_v6Char _ _ _ _ b hb
    · exact showIpv6Generic_v6Char _
  · exact showIpv6Generic_v6Char _

theorem bracketed_hostText (s : List UInt16) : HostText ([91] ++ showIpv6 s ++ [93]) where
  nonempty := by simp
  chars := by
    intro b hb
    simp only [List.mem_cons, List.mem_append, List.mem_nil_iff, or_false] at hb
    rcases hb with (hb | hb) | hb
    · subst hb; decide
    · exact (v6Char_props b (showIpv6_v6Char s b hb)).1
    · subst hb; decide
  span := fun rest => by
    have := hostSpan_bracketed rest (showIpv6 s) (fun b hb => (v6Char_props b (showIpv6_v6Char s b hb)).2)
    simpa using this

theorem parseHost_brackets (idna : Bytes → Option Bytes) (body : Bytes) :
    parseHost idna ([91] ++ body ++ [93])
      = match parseIpv6 body with
        | some segs => .ok (.ipv6 segs)
        | none => .err .invalidInput := by
  have hlast : (91 :: (body ++ [93])).getLast? = some 93 := List.getLast?_concat (l := 91 :: body)
  have hdrop : (body ++ [93]).dropLast = body := List.dropLast_concat
  simp only [List.cons_append, List.nil_append, parseHost, hlast, hdrop, bne_self_eq_false, Bool.false_eq_true, if_false]
  cases parseIpv6 body <;> rfl

/-- `Host::parse` of the bracketed text `HttpClient::new` builds for an IPv6 address: that address -/
theorem parseHost_bracketed (idna : Bytes → Option Bytes) (s0 s1 s2 s3 s4 s5 s6 s7 : UInt16) :
    parseHost idna ([91] ++ showIpv6 [s0, s1, s2, s3, s4, s5, s6, s7] ++ [93])
      = .ok (.ipv6 [s0.toNat, s1.toNat, s2.toNat, s3.toNat, s4.toNat, s5.toNat, s6.toNat, s7.toNat]) := by
  rw [parseHost_brackets, parseIpv6_showIpv6]

/-- the `Host` header text of an IPv6 host (`[` + `write_ipv6` + `]`) denotes that address: parsed as a host it is the address again -/
theorem parseHost_writeIpv6 (idna : Bytes → Option Bytes) (s0 s1 s2 s3 s4 s5 s6 s7 : UInt16) :
    parseHost idna ((Host.ipv6 [s0.toNat, s1.toNat, s2.toNat, s3.toNat, s4.toNat, s5.toNat, s6.toNat, s7.toNat]).text)
      = .ok (.ipv6 [s0.toNat, s1.toNat, s2.toNat, s3.toNat, s4.toNat, s5.toNat, s6.toNat, s7.toNat]) := by
  have hw := writeIpv6_eq_generic [s0, s1, s2, s3, s4, s5, s6, s7] rfl
  have hp := parseIpv6_generic [s0, s1, s2, s3, s4, s5, s6, s7] rfl
  simp only [List.map_cons, List.map_nil] at hw hp
  show parseHost idna ([91] ++ writeIpv6 _ ++ [93]) = _
  rw [parseHost_brackets, hw, hp]

end Gd.Http
