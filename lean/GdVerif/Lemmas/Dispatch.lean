import GdVerif.Proto.Dispatch
import GdVerif.Lemmas.SmallLogic
import GdVerif.Lemmas.ValveSafe
import GdVerif.Lemmas.GsSafe
import GdVerif.Lemmas.Gs3Safe
import GdVerif.Lemmas.QuakeSafe
import GdVerif.Lemmas.Unreal2Safe
import GdVerif.Lemmas.McSafe
import GdVerif.Lemmas.Jc2m
import GdVerif.Lemmas.Savage2
import GdVerif.Lemmas.Ffow
import GdVerif.Lemmas.TheShip
import GdVerif.Lemmas.Mindustry
import GdVerif.Lemmas.Battalion
/-
  Lemmas about the dispatch model (`Proto/Dispatch.lean`):
    * safety: every arm of `generic` and every kind of module is crash-free on every transport state and logs only
      events whose destination is the port the arm computes (composition of the families' `query_safe`);
    * the three paths: `generic` against `protocolQuery` and against `moduleQuery`, arm by arm.
-/
namespace Gd.Dispatch
open Gd

/-- every socket is opened to, and every datagram / stream write is sent to, port `p` -/
def PortEv (p : Nat) : Ev → Prop
  | .opened _ _ q _ => q = p
  | .send _ q _ _ => q = p
  | .recv _ _ _ => True

theorem portEv_of {P : Ev → Prop} {p : Nat} (hopen : ∀ c tcp q r, P (.opened c tcp q r) → q = p)
    (hsend : ∀ c q d f, P (.send c q d f) → q = p) (e : Ev) (h : P e) : PortEv p e := by
  cases e with
  | opened c tcp q r => exact hopen c tcp q r h
  | send c q d f => exact hsend c q d f h
  | recv c s g => trivial

theorem logSafe_of_safe {P : Nat → Ev → Prop} {p : Nat} {q : Q α}
    (h : ∀ w, (q w).1 ≠ .crash ∧ ∃ added, (q w).2.log = w.log ++ added ∧ ∀ e ∈ added, P w.conns.length e)
    (hp : ∀ id e, P id e → PortEv p e) : LogSafe (PortEv p) q := by
  intro w
  obtain ⟨hc, added, hlog, hall⟩ := h w
  exact ⟨hc, added, hlog, fun e he => hp _ e (hall e he)⟩

theorem logSafe_mapQ {P : Ev → Prop} {q : Q α} (f : α → β) (h : LogSafe P q) : LogSafe P (Games.mapQ f q) := by
  unfold Games.mapQ
  exact LogSafe.bind h fun a => LogSafe.pure P (f a)

theorem logSafe_boxed {P : Ev → Prop} {q : Q α} (f : α → Response) (h : LogSafe P q) : LogSafe P (boxed f q) :=
  logSafe_mapQ f h

theorem portEv_valve {port id : Nat} {e : Ev} : Valve.QueryEvOk port id e → PortEv port e :=
  portEv_of (fun _ _ _ _ h => h.2.2) (fun _ _ _ _ h => h.2.1) e

theorem logSafe_valve (ext : Valve.Ext) (port : Nat) (engine : Valve.Engine) (g : Valve.Gather) (r : Nat) :
    LogSafe (PortEv port) (Valve.query ext port engine g r) :=
  logSafe_of_safe (Valve.query_safe ext port engine g r) fun _ _ => portEv_valve

theorem logSafe_gs1 (port r : Nat) : LogSafe (PortEv port) (Gs1.query port r) :=
  logSafe_of_safe (Gs1.query_safe port r) fun _ =>
    portEv_of (fun _ _ _ _ h => h.2.2) (fun _ _ _ _ h => h.2.1)

theorem logSafe_gs2 (port r : Nat) : LogSafe (PortEv port) (Gs2.query port r) :=
  logSafe_of_safe (Gs2.query_safe port r) fun _ =>
    portEv_of (fun _ _ _ _ h => h.2.2) (fun _ _ _ _ h => h.2.1)

theorem portEv_gs3 {port id : Nat} {payload : Bytes} {e : Ev} : Gs3.QueryEvOk port id payload e → PortEv port e :=
  portEv_of (fun _ _ _ _ h => h.2.2) (fun _ _ _ _ h => h.2.1) e

theorem logSafe_gs3 (port r : Nat) : LogSafe (PortEv port) (Gs3.query port r) :=
  logSafe_of_safe (P := fun id => Gs3.QueryEvOk port id Gs3.DEFAULT_PAYLOAD) (Gs3.query_safe port r) fun _ _ => portEv_gs3

theorem logSafe_jc2m (port : Option Nat) (r : Nat) :
    LogSafe (PortEv (port.getD Jc2m.DEFAULT_PORT)) (Jc2m.query port r) :=
  logSafe_of_safe (P := fun id => Gs3.QueryEvOk (port.getD Jc2m.DEFAULT_PORT) id Jc2m.PAYLOAD) (Jc2m.query_safe port r)
    fun _ _ => portEv_gs3

theorem logSafe_quake (port : Nat) (v : Quake.Version) (r : Nat) : LogSafe (PortEv port) (Quake.query port v r) :=
  logSafe_of_safe (Quake.query_safe port v r) fun _ =>
    portEv_of (fun _ _ _ _ h => h.2.2) (fun _ _ _ _ h => h.2.1)

theorem logSafe_unreal2 (port : Nat) (g : Unreal2.Gather) (r : Nat) : LogSafe (PortEv port) (Unreal2.query port g r) :=
  logSafe_of_safe (Unreal2.query_safe port g r) fun _ =>
    portEv_of (fun _ _ _ _ h => h.2.2) (fun _ _ _ _ h => h.2.1)

theorem logSafe_savage2 (port : Nat) : LogSafe (PortEv port) (Savage2.query port) :=
  logSafe_of_safe (Savage2.query_safe port) fun _ =>
    portEv_of (fun _ _ _ _ h => h.2.2) (fun _ _ _ _ h => h.2.1)

theorem logSafe_theShip (ext : Valve.Ext) (port r : Nat) : LogSafe (PortEv port) (TheShip.query ext port r) :=
  logSafe_of_safe (TheShip.query_safe ext port r) fun _ _ => portEv_valve

theorem logSafe_battalion (ext : Valve.Ext) (port : Nat) : LogSafe (PortEv port) (Battalion.query ext port) :=
  logSafe_of_safe (Battalion.query_safe ext port) fun _ _ => portEv_valve

theorem logSafe_ffow (ext : Valve.Ext) (port r : Nat) : LogSafe (PortEv port) (Ffow.query ext port r) :=
  logSafe_of_safe (Ffow.query_safe ext port r) fun _ =>
    portEv_of (fun _ _ _ _ h => h.2.2) (fun _ _ _ _ h => h.2.1)

theorem logSafe_mindustry (port r : Nat) : LogSafe (PortEv port) (Mindustry.query port r) :=
  LogSafe.mono (Mindustry.logSafe_query port r) (portEv_of (fun _ _ _ _ h => h.2) (fun _ _ _ _ h => h.1))

theorem portEv_mcUnit {tcp : Bool} {port : Nat} {a : Bytes → Prop} {id : Nat} {e : Ev} :
    Mc.UnitEv tcp port a id e → PortEv port e :=
  portEv_of (fun _ _ _ _ h => h.2.2) (fun _ _ _ _ h => h.2.1) e

theorem portEv_mcAuto {port : Nat} {a : Bytes → Prop} {e : Ev} : Mc.AutoEv port a e → PortEv port e :=
  portEv_of (fun _ _ _ _ h => h) (fun _ _ _ _ h => h.1) e

theorem logSafe_mcJava (ext : Mc.Ext) (port : Nat) (st : Mc.RequestSettings) (r : Nat) :
    LogSafe (PortEv port) (Mc.queryJava ext port st r) :=
  logSafe_of_safe (Mc.queryJava_safe ext port st r) fun _ _ => portEv_mcUnit

theorem logSafe_mcBedrock (port r : Nat) : LogSafe (PortEv port) (Mc.queryBedrock port r) :=
  logSafe_of_safe (Mc.queryBedrock_safe port r) fun _ _ => portEv_mcUnit

theorem logSafe_mcLegacySpecific (g : Mc.LegacyGroup) (port r : Nat) :
    LogSafe (PortEv port) (Mc.queryLegacySpecific g port r) :=
  logSafe_of_safe (Mc.queryLegacySpecific_safe g port r) fun _ _ => portEv_mcUnit

theorem logSafe_mcLegacy (port r : Nat) : LogSafe (PortEv port) (Mc.queryLegacy port r) :=
  fun w => (LogSafe.mono (Mc.queryLegacy_safe port r) fun _ => portEv_mcAuto) w

theorem logSafe_mcAuto (ext : Mc.Ext) (port : Nat) (st : Mc.RequestSettings) (r : Nat) :
    LogSafe (PortEv port) (Mc.queryAuto ext port st r) :=
  fun w => (LogSafe.mono (Mc.queryAuto_safe ext port st r) fun _ => portEv_mcAuto) w

/-- `if let Ok(r) = first { return Ok(f(r)) }; rest` with probes that may go to different ports -/
theorem logSafe_orElse {P : Ev → Prop} {first : Q α} {f : α → β} {rest : Q β}
    (h1 : LogSafe P first) (h2 : LogSafe P rest) : LogSafe P (Mc.orElse first f rest) :=
  fun w => (Mc.LogSafe.orElse (fun w => h1 w) (fun w => h2 w)) w

/-- what the theorems ask of the one parameter that does I/O (Eco's HTTP client): it does not panic and talks
to the port it is given -/
def EcoSafe (ext : Ext) : Prop := ∀ port t host, LogSafe (PortEv port) (ext.ecoFetch port t host)

def EcoSafeFor (ext : Ext) (p : Protocol) : Prop := p = .proprietary .eco → EcoSafe ext

theorem logSafe_ecoQuery (ext : Ext) (h : EcoSafe ext) (port : Option Nat) (t : Option Settings.Timeout)
    (st : Option EcoSettings) : LogSafe (PortEv (port.getD Eco.DEFAULT_PORT)) (ecoQuery ext port t st) := by
  unfold ecoQuery
  exact LogSafe.bind (h _ _ _) fun root => LogSafe.pure _ _

/-- where the generic path sends: the given port; when none is given, the definition's default — except for the
arms that hand the optional port on to the game's own function, which applies its own default -/
def destPort (game : Game) (port : Option Nat) : Nat :=
  port.getD ((ownDefaultPort game.protocol).getD game.defaultPort)

theorem generic_logSafe (ext : Ext) (game : Game) (heco : EcoSafeFor ext game.protocol) (port : Option Nat)
    (timeout : Option Settings.Timeout) (extra : Option Extra) :
    LogSafe (PortEv (destPort game port)) (generic ext game port timeout extra) := by
  obtain ⟨dp, proto, rs⟩ := game
  -- per arm, `generic` and `destPort` unfold to the family's query and its port
  cases proto with
  | valve e => exact logSafe_boxed _ (logSafe_valve _ _ _ _ _)
  | gamespy v =>
    cases v with
    | one => exact logSafe_boxed _ (logSafe_gs1 _ _)
    | two => exact logSafe_boxed _ (logSafe_gs2 _ _)
    | three => exact logSafe_boxed _ (logSafe_gs3 _ _)
  | quake v => exact logSafe_boxed _ (logSafe_quake _ _ _)
  | unreal2 => exact logSafe_boxed _ (logSafe_unreal2 _ _ _)
  | proprietary p =>
    cases p with
    | savage2 => exact logSafe_boxed _ (logSafe_savage2 _)
    | theShip => exact logSafe_boxed _ (logSafe_theShip _ _ _)
    | ffow => exact logSafe_boxed _ (logSafe_ffow _ _ _)
    | jc2m => exact logSafe_boxed _ (logSafe_jc2m _ _)
    | mindustry => exact logSafe_boxed _ (logSafe_mindustry _ _)
    | eco => exact logSafe_boxed _ (logSafe_ecoQuery ext (heco rfl) _ _ _)
    | minecraft v =>
      cases v with
      | none => exact logSafe_boxed _ (logSafe_mcAuto _ _ _ _)
      | some s =>
        cases s with
        | java => exact logSafe_boxed _ (logSafe_mcJava _ _ _ _)
        | bedrock => exact logSafe_boxed _ (logSafe_mcBedrock _ _)
        | legacy g => exact logSafe_boxed _ (logSafe_mcLegacySpecific _ _ _)

theorem mapQ_mapQ (f : β → γ) (g : α → β) (q : Q α) : Games.mapQ f (Games.mapQ g q) = Games.mapQ (fun a => f (g a)) q := by
  funext w
  simp only [Games.mapQ, bind, Q.bind']
  cases q w with
  | mk res w' => cases res <;> rfl

theorem toValve_intoExtra (g : Valve.Gather) : (valveIntoExtra g).toValve = g := rfl

/-- Generic path = protocol-level call with the definition's parameters: the same computation (hence the same result
and the same log from every transport state), port given or omitted, any timeout settings, any extra settings.
For the arms that hand the optional port on, "omitted" needs the game's own default to be the definition's. -/
theorem generic_eq_protocol (ext : Ext) (game : Game) (port : Option Nat) (timeout : Option Settings.Timeout)
    (extra : Option Extra)
    (hport : port = none → ∀ p, ownDefaultPort game.protocol = some p → p = game.defaultPort) :
    generic ext game port timeout extra
      = protocolQuery ext game.protocol game.requestSettings extra (port.getD game.defaultPort) timeout := by
  obtain ⟨dp, proto, rs⟩ := game
  cases proto with
  | gamespy v => cases v <;> rfl
  | proprietary p =>
    cases p with
    | minecraft v => rcases v with _ | _ | _ | g <;> cases extra <;> rfl
    | _ =>
      -- the game's own function applies its own default when no port is given: the definition's, by `hport`
      cases port with
      | some q => cases extra <;> rfl
      | none =>
        obtain rfl := hport rfl _ rfl
        cases extra <;> rfl
  | _ => cases extra <;> rfl

theorem Game.ofRow_eq_some {d : Gen.GameRow} {game : Game} (h : Game.ofRow d = some game) :
    protocolOf d.tag = some game.protocol ∧ game.defaultPort = d.port
      ∧ game.requestSettings = requestSettingsOf d.tag := by
  simp only [Game.ofRow, Option.map_eq_some_iff] at h
  obtain ⟨proto, hproto, rfl⟩ := h
  exact ⟨hproto, rfl, rfl⟩

theorem gameDefs_modelled : (Gen.gameDefs.all fun d => (Game.ofRow d).isSome) = true := by decide +kernel

theorem Game.ofRow_of_mem {d : Gen.GameRow} (hd : d ∈ Gen.gameDefs) : ∃ game, Game.ofRow d = some game :=
  Option.isSome_iff_exists.mp (List.all_eq_true.mp gameDefs_modelled d hd)

/-- a definition row and a module row say the same thing about a game (what `C14_tables_agree` checks, typed part) -/
def rowsAgree (d m : Gen.GameRow) : Bool := d.port == m.port && d.tag == m.tag

/-- the default ports in a module's row are the ones the module's model applies (for the hand-written modules: the
literals of their models, which the correspondence ties to the code) -/
def modPortsOk (m : Gen.GameRow) : Bool :=
  match Module.ofRow m with
  | some mo => mo.defaultPorts == (m.port, m.port2)
  | none => true

/-- Generic path (no extra settings, default timeouts), seen through the documented conversion = the module's
`query`: the same computation, port given or omitted.  `battalion1944` is excluded (its module post-processes the
rules); the Minecraft auto-detect function with the port omitted needs its Bedrock probe's default to be the row's. -/
theorem generic_eq_module (ext : Ext) (d m : Gen.GameRow) (hrows : rowsAgree d m = true) (hlit : modPortsOk m = true)
    (game : Game) (mo : Module) (hg : Game.ofRow d = some game) (hm : Module.ofRow m = some mo)
    (hb : mo ≠ .battalion1944) (port : Option Nat)
    (hauto : mo = .minecraft none → port = none → m.port2 = m.port) :
    Games.mapQ Response.view (generic ext game port none none) = moduleQuery ext mo port := by
  obtain ⟨did, dname, dport, dproto, dengine, dgather, du, dport2, dhand, dtag⟩ := d
  obtain ⟨mid, mname, mport, mproto, mengine, mgather, mu, mport2, mhand, mtag⟩ := m
  simp only [rowsAgree, Bool.and_eq_true, beq_iff_eq] at hrows
  obtain ⟨hp, ht⟩ := hrows
  subst hp ht
  simp only [modPortsOk, hm, beq_iff_eq] at hlit
  simp only [Game.ofRow, Option.map_eq_some_iff] at hg
  obtain ⟨proto, hproto, hgame⟩ := hg
  subst hgame
  cases dtag with
  | other => simp [protocolOf] at hproto
  | valve e p r c =>
    simp only [protocolOf, Option.some.injEq] at hproto
    subst hproto
    cases mhand with
    | false =>
      simp only [Module.ofRow, Option.some.injEq] at hm
      subst hm
      simp only [generic, moduleQuery, boxed, mapQ_mapQ, requestSettingsOf]
      rfl
    | true =>
      simp only [Module.ofRow] at hm
      split at hm
      · simp only [Option.some.injEq] at hm; exact absurd hm.symm hb
      · cases hm
  | minecraft k =>
    cases mhand <;> simp only [Module.ofRow, Option.some.injEq, reduceCtorEq] at hm
    subst hm; cases hproto
    -- the module applies its own literals: the row's, by `hlit`
    cases k with
    | auto =>
      simp only [mcServerOf, Module.defaultPorts, Prod.mk.injEq] at hlit hauto
      obtain ⟨hj, hbd⟩ := hlit
      simp only [generic, moduleQuery, boxed, mapQ_mapQ, mcServerOf, mcModuleAuto, mcModuleJava, mcModuleBedrock,
        mcModuleLegacy, mcQueryAuto, mcQueryJava, mcQueryBedrock, mcQueryLegacy, Mc.queryAuto, hj, hbd]
      cases port with
      | some q => rfl
      | none =>
        have := hauto trivial rfl
        simp only [Option.getD_none, this]; rfl
    | _ =>
      simp only [mcServerOf, Module.defaultPorts, Prod.mk.injEq] at hlit
      simp only [generic, moduleQuery, boxed, mapQ_mapQ, mcServerOf, mcModuleJava, mcModuleBedrock,
        mcModuleLegacySpecific, hlit.1]
      rfl
  | _ =>
    -- the tag fixes the protocol and the kind of module; both paths are then the same call
    cases mhand <;> simp only [Module.ofRow, Option.some.injEq, reduceCtorEq] at hm
    subst hm; cases hproto
    simp only [generic, moduleQuery, boxed, mapQ_mapQ]; rfl

/-- For an arm that hands the optional port on, the default its callee applies is the port in the row of the game's
hand-written module, once that row carries the module's literal. -/
theorem ownDefault_eq_port {m : Gen.GameRow} {proto : Protocol} {p : Nat} (hhand : m.hand = true)
    (ht : protocolOf m.tag = some proto) (hp : ownDefaultPort proto = some p) (hlit : modPortsOk m = true) :
    p = m.port := by
  obtain ⟨mid, mname, mport, mproto, mengine, mgather, mu, mport2, mhand, mtag⟩ := m
  simp only at hhand
  subst hhand
  -- six tags have an arm with a default of its own (the others contradict `hp`); for each of them `Module.ofRow` is the
  -- game's hand-written module, and `modPortsOk` says that its literal, which is that default, is the row's port
  cases mtag <;> simp only [protocolOf, Option.some.injEq, reduceCtorEq] at ht <;> subst ht <;>
    simp only [ownDefaultPort, Option.some.injEq, reduceCtorEq] at hp <;>
    simp only [modPortsOk, Module.ofRow, Module.defaultPorts, beq_iff_eq, Prod.mk.injEq] at hlit <;>
    first
    | (rw [← hp]; exact hlit.1)
    | (rename_i k; cases k <;> simp [mcServerOf, ownDefaultPort] at hp)

theorem tag_of_eco {t : Gen.ProtoTag} (h : protocolOf t = some (.proprietary .eco)) : t = .eco := by
  cases t with
  | eco => rfl
  | minecraft k => simp [protocolOf] at h
  | _ => simp [protocolOf] at h

theorem game_ofRow_eco {d : Gen.GameRow} {game : Game} (hg : Game.ofRow d = some game)
    (hp : game.protocol = .proprietary .eco) : d.tag = .eco :=
  tag_of_eco (hp ▸ (Game.ofRow_eq_some hg).1)

theorem moduleQuery_logSafe (ext : Ext) (m : Module) (heco : m = .eco → EcoSafe ext) (port : Option Nat) :
    LogSafe (fun _ => True) (moduleQuery ext m port) := by
  have tr : ∀ {α : Type} {p : Nat} {q : Q α}, LogSafe (PortEv p) q → LogSafe (fun _ => True) q :=
    fun h => LogSafe.mono h fun _ _ => trivial
  cases m with
  | valve dp e g => exact logSafe_boxed _ (logSafe_mapQ _ (tr (logSafe_valve _ _ _ _ _)))
  | gamespy v dp =>
    cases v with
    | one => exact logSafe_boxed _ (tr (logSafe_gs1 _ _))
    | two => exact logSafe_boxed _ (tr (logSafe_gs2 _ _))
    | three => exact logSafe_boxed _ (tr (logSafe_gs3 _ _))
  | quake v dp => exact logSafe_boxed _ (tr (logSafe_quake _ _ _))
  | unreal2 dp => exact logSafe_boxed _ (tr (logSafe_unreal2 _ _ _))
  | savage2 => exact logSafe_boxed _ (tr (logSafe_savage2 _))
  | theShip => exact logSafe_boxed _ (tr (logSafe_theShip _ _ _))
  | ffow => exact logSafe_boxed _ (tr (logSafe_ffow _ _ _))
  | jc2m => exact logSafe_boxed _ (tr (logSafe_jc2m _ _))
  | mindustry => exact logSafe_boxed _ (tr (logSafe_mindustry _ _))
  | eco => exact logSafe_boxed _ (tr (logSafe_ecoQuery ext (heco rfl) _ _ _))
  | battalion1944 => exact logSafe_boxed _ (tr (logSafe_battalion _ _))
  | minecraft v =>
    cases v with
    | none =>
      exact logSafe_boxed _ (logSafe_orElse (tr (logSafe_mcJava _ _ _ _)) <|
        logSafe_orElse (tr (logSafe_mcBedrock _ _)) <|
        logSafe_orElse (tr (logSafe_mcLegacy _ _)) (LogSafe.fail _ _))
    | some s =>
      cases s with
      | java => exact logSafe_boxed _ (tr (logSafe_mcJava _ _ _ _))
      | bedrock => exact logSafe_boxed _ (tr (logSafe_mcBedrock _ _))
      | legacy g => exact logSafe_boxed _ (tr (logSafe_mcLegacySpecific _ _ _))

end Gd.Dispatch
