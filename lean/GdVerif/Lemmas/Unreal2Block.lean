import GdVerif.Lemmas.QBounds
import GdVerif.Lemmas.Unreal2Cost
import GdVerif.Proto.Unreal2
/-
  Blocking steps of the Unreal 2 query that can run into their timeout, and the silent server.
  The three requests are retried units (one timeout per failed attempt).  The rules and players
  answers are lists of datagrams without a count: `while let Ok(data) = socket.receive(..)` listens
  until a receive fails, so a successful list request is followed by exactly one more timed-out
  receive however many datagrams arrive (`recvWhile`: `Block 1 1`).  A request that succeeded had at
  most `retries` failed attempts, so request + list is still `retries + 1`.
-/
namespace Gd.Unreal2
open Gd

/-- the listening loop: every receive that returns was answered by the peer; the one that times out
ends the loop -/
theorem block_recvWhile (s : Sock) (body : σ → Bytes → Res (σ × Bool)) (fuel : Nat) (st : σ) :
    Block 1 1 (recvWhile s body fuel st) :=
  Block.iff_bounded.2
    (bounded_recvWhile nBlocked_cast_append (by omega) s (Block.iff_bounded.1 (Block.recv s _))
      body fuel st)

theorem block_listen (s : Sock) (body : σ → Bytes → Res (σ × Bool)) (st : σ) :
    Block 1 1 (fun w => recvWhile s body (queued s w + 1) st w) :=
  fun w => block_recvWhile s body (queued s w + 1) st w

/-- one attempt of a request: a blocking step runs into its timeout only if it fails, and then once -/
theorem block_requestImpl (s : Sock) (kind : PacketKind) : Block 0 1 (requestImpl s kind) := by
  unfold requestImpl
  exact Block.bind_same (Block.send s (requestBytes kind)) fun _ => Block.recv s (some PACKET_SIZE)

theorem block_requestData (s : Sock) (r : Nat) (kind : PacketKind) : Block r (r + 1) (requestData s r kind) :=
  Block.retrySharp (block_requestImpl s kind) r

theorem block_queryServerInfo (s : Sock) (r : Nat) : Block r (r + 1) (queryServerInfo s r) := by
  unfold queryServerInfo
  exact Block.bind_free (block_requestData s r .serverInfo) (fun d => Block.parse _ d) (Nat.le_succ r)

theorem block_queryRules (s : Sock) (r : Nat) : Block (r + 1) (r + 1) (queryRules s r) := by
  unfold queryRules
  exact (Block.bind (block_requestData s r .mutatorsAndRules) fun data =>
    Block.bind (Block.parse _ data) fun st => block_listen s rulesRound st).weaken (by omega) (by omega)

theorem block_queryPlayers (s : Sock) (r n : Nat) : Block (r + 1) (r + 1) (queryPlayers s r n) := by
  unfold queryPlayers
  refine (Block.bind (block_requestData s r .players) fun data =>
    Block.bind (ko2 := 1) (ke2 := 1) (Block.lift (playersRound n .empty data)) fun x => ?_).weaken
      (by omega) (by omega)
  obtain ⟨st, more⟩ := x
  cases more with
  | true => exact block_listen s (playersRound n) st
  | false => exact (Block.pure st).weaken (Nat.zero_le 1) (Nat.zero_le 1)

/-- the server info must have been obtained (after at most `r` failed attempts) for the other two
requests to be made at all: `r + 2 (r + 1)`, not `3 (r + 1)` -/
theorem block_queryBody (s : Sock) (g : Gather) (r : Nat) : Block (3 * r + 2) (3 * r + 2) (queryBody s g r) := by
  unfold queryBody
  have h := Block.bind (block_queryServerInfo s r) fun info =>
    Block.bind (Block.maybeGather (block_queryRules s r) g.mutatorsAndRules) fun mr =>
    Block.bind (Block.maybeGather (block_queryPlayers s r (applyPassword info (mr.getD .empty)).numPlayers) g.players)
      fun players => Block.pure (⟨applyPassword info (mr.getD .empty), mr.getD .empty, players.getD .empty⟩ : Response)
  exact h.weaken (by omega) (by omega)

theorem block_query (port : Nat) (g : Gather) (r : Nat) : Block (3 * r + 2) (3 * r + 2) (query port g r) := by
  unfold query
  have h := Block.bind (Block.openSock false port) fun s => block_queryBody s g r
  exact h.weaken (by omega) (by omega)

theorem silent_requestImpl (s : Sock) (kind : PacketKind) : SilentAttempt s 1 (requestImpl s kind) := by
  unfold requestImpl
  exact SilentAttempt.seq (k2 := 0) (SilentSends.send s _) fun _ => SilentAttempt.recv s _

theorem silent_requestData (s : Sock) (r : Nat) (kind : PacketKind) :
    SilentRun s (r + 1) (r + 1) (requestData s r kind) :=
  (silent_requestImpl s kind).retry1 r

/-- the first request (server info) is not behind a gather toggle: its failure is the query's -/
theorem silent_query (port : Nat) (g : Gather) (r : Nat) (w : Net) (hf : w.faults = [])
    (hp : PendingSilent false (r + 1) w.pending) :
    SilentOutcome w (query port g r w) (r + 1) (r + 1) := by
  unfold query queryBody queryServerInfo
  exact SilentRun.openSock (fun s _ => ((silent_requestData s r .serverInfo).bind_left _).bind_left _) port w hf hp

end Gd.Unreal2
