import GdVerif.Lemmas.QBounds
import GdVerif.Lemmas.ValveBlock
import GdVerif.Lemmas.ValveCost
/-
  The whole Valve query including socket creation as a `Cost` / `Block` judgement (the game wrappers The Ship,
  Battalion 1944 and FFOW build on these), the sharp blocking bound `3 r + 2` (the
  players and rules requests are only made once the info request has succeeded, i.e. after at most
  `r` failed attempts), and the silent server for the whole query.
-/
namespace Gd.Valve
open Gd

theorem cost_query (ext : Ext) (port : Nat) (engine : Engine) (g : Gather) (r : Nat) :
    Cost ((3 * (r + 1) : Nat) : Int) ((3 * (r + 1) : Nat) : Int) (query ext port engine g r) := by
  rw [query_eq]
  exact (Cost.bind (Cost.openSock false port) fun s => cost_queryBody ext s engine g r).weaken (by omega) (by omega)

/-- The info request can fail `r` times and still succeed; once it has, each of the two other requests is good for
`r + 1` timeouts. -/
theorem block_queryBody_sharp (ext : Ext) (s : Sock) (engine : Engine) (g : Gather) (r : Nat) :
    Block (3 * r + 2) (3 * r + 2) (queryBody ext s engine g r) := by
  unfold queryBody getServerInfo getServerPlayers getServerRules requestData
  have hsec : ∀ {α : Type} (protocol : Nat) (req : Request) (p : Par α),
      Block r (r + 1)
        (retryOnTimeout r (requestImpl ext s engine protocol req.kind req.defaultPayload) >>= fun data => parse p data) :=
    fun protocol req p =>
      Block.bind_free (Block.retrySharp (block_requestImpl ext s engine protocol req.kind req.defaultPayload) r)
        (fun data => Block.parse p data) (Nat.le_succ r)
  have hsec' : ∀ {α : Type} (protocol : Nat) (req : Request) (p : Par α),
      Block (r + 1) (r + 1)
        (retryOnTimeout r (requestImpl ext s engine protocol req.kind req.defaultPayload) >>= fun data => parse p data) :=
    fun protocol req p => (hsec protocol req p).weaken (Nat.le_succ r) (Nat.le_refl _)
  have h := Block.bind (hsec 0 .info (parseInfo engine)) fun info =>
    Block.ite (c := (!appIdOk engine g info.appid) = true)
      ((Block.fail (α := Response) ErrKind.badGame).weaken (Nat.zero_le _) (Nat.zero_le _))
      (Block.bind_add (Block.maybeGather (hsec' info.protocolVersion .players (parsePlayers engine)) g.players) fun players =>
        Block.bind_add (Block.maybeGather (hsec' info.protocolVersion .rules (parseRules engine)) g.rules) fun rules =>
          Block.pure (⟨info, players, rules⟩ : Response))
  exact h.weaken (by omega) (by omega)

theorem block_query_sharp (ext : Ext) (port : Nat) (engine : Engine) (g : Gather) (r : Nat) :
    Block (3 * r + 2) (3 * r + 2) (query ext port engine g r) := by
  rw [query_eq]
  exact (Block.bind (Block.openSock false port) fun s => block_queryBody_sharp ext s engine g r).weaken
    (by omega) (by omega)

theorem silent_requestImpl (ext : Ext) (s : Sock) (engine : Engine) (protocol kind : Nat) (payload : Bytes) :
    SilentAttempt s 1 (requestImpl ext s engine protocol kind payload) := by
  unfold requestImpl
  refine SilentAttempt.seq (k2 := 0) (SilentSends.send s _) fun _ => SilentAttempt.bind_left ?_ _
  rw [receive_eq]
  exact (SilentAttempt.recv s _).bind_left _

/-- the info request is not behind a gather toggle: its failure is the query's -/
theorem silent_query (ext : Ext) (port : Nat) (engine : Engine) (g : Gather) (r : Nat) (w : Net) (hf : w.faults = [])
    (hp : PendingSilent false (r + 1) w.pending) :
    SilentOutcome w (query ext port engine g r w) (r + 1) (r + 1) := by
  rw [query_eq]
  unfold queryBody getServerInfo requestData
  exact SilentRun.openSock (fun s _ =>
    (((silent_requestImpl ext s engine 0 _ _).retry1 r).bind_left _).bind_left _) port w hf hp

end Gd.Valve
