import GdVerif.Lemmas.Gs3Cost
/-
  Blocking steps of the GameSpy 3 exchange that can run into their timeout, and the silent server.
  An attempt has up to two sends and any number of receives (challenge reply, splitnum packets), but
  every error ends the attempt (`?`), so at most one of them runs into its timeout; the loop over the
  splitnum packets ends the attempt at its first timeout.
-/
namespace Gd.Gs3
open Gd

theorem block_getServerPacketsImpl (s : Sock) (payload : Bytes) (single : Bool) :
    Block 0 1 (getServerPacketsImpl s payload single) :=
  Block.iff_bounded.2 (bounded_getServerPacketsImpl nBlocked_cast_append (fun s d => Block.iff_bounded.1 (Block.send s d))
    (fun s sz => Block.iff_bounded.1 (Block.recv s sz)) (by omega) (by omega) (by omega) (by omega) (by omega) (by omega)
    (by omega) s payload single)

theorem block_getServerPackets (s : Sock) (retries : Nat) (payload : Bytes) (single : Bool) :
    Block retries (retries + 1) (getServerPackets s retries payload single) :=
  Block.retrySharp (block_getServerPacketsImpl s payload single) retries

/-- `query` and `query_vars` differ only in what they do with the packets (`post`), which blocks nowhere -/
theorem block_exchange (port retries : Nat) (payload : Bytes) (single : Bool) (post : List Bytes → Res α) :
    Block retries (retries + 1) (exchange port retries payload single post) := by
  unfold exchange
  have h := Block.bind (Block.openSock false port) fun s =>
    Block.bind (block_getServerPackets s retries payload single) fun p => Block.lift (post p)
  exact h.weaken (by omega) (by omega)

theorem block_query (port retries : Nat) : Block retries (retries + 1) (query port retries) :=
  block_exchange port retries DEFAULT_PAYLOAD false buildResponse

theorem block_queryVars (port retries : Nat) : Block retries (retries + 1) (queryVars port retries) :=
  block_exchange port retries DEFAULT_PAYLOAD false buildVars

/-- one attempt against a silent server: the handshake request is sent, its receive times out; the
data request is never sent -/
theorem silent_getServerPacketsImpl (s : Sock) (payload : Bytes) (single : Bool) :
    SilentAttempt s 1 (getServerPacketsImpl s payload single) := by
  unfold getServerPacketsImpl makeInitialHandshake receive
  refine SilentAttempt.bind_left ?_ _
  exact SilentAttempt.seq (k2 := 0) (SilentSends.send s _) fun _ =>
    ((SilentAttempt.recv s _).bind_left _).bind_left _

theorem silent_getServerPackets (s : Sock) (retries : Nat) (payload : Bytes) (single : Bool) :
    SilentRun s (retries + 1) (retries + 1) (getServerPackets s retries payload single) :=
  (silent_getServerPacketsImpl s payload single).retry1 retries

theorem silent_exchange (port retries : Nat) (payload : Bytes) (single : Bool) (post : List Bytes → Res α) (w : Net)
    (hf : w.faults = []) (hp : PendingSilent false (retries + 1) w.pending) :
    SilentOutcome w (exchange port retries payload single post w) (retries + 1) (retries + 1) := by
  unfold exchange
  exact SilentRun.openSock (fun s _ => (silent_getServerPackets s retries _ _).bind_left _) port w hf hp

theorem silent_query (port retries : Nat) (w : Net) (hf : w.faults = [])
    (hp : PendingSilent false (retries + 1) w.pending) :
    SilentOutcome w (query port retries w) (retries + 1) (retries + 1) :=
  silent_exchange port retries DEFAULT_PAYLOAD false buildResponse w hf hp

theorem silent_queryVars (port retries : Nat) (w : Net) (hf : w.faults = [])
    (hp : PendingSilent false (retries + 1) w.pending) :
    SilentOutcome w (queryVars port retries w) (retries + 1) (retries + 1) :=
  silent_exchange port retries DEFAULT_PAYLOAD false buildVars w hf hp

end Gd.Gs3
