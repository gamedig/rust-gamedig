import GdVerif.Proto.IdCheck
import GdVerif.Lemmas.Text
/-
  Lemmas about the id-checker model: words are never empty, hence no `unwrap` on an empty word.
-/
namespace Gd.IdCheck
open Gd

def NE (ws : List Bytes) : Prop := ∀ w ∈ ws, w ≠ []

theorem NE.nil : NE [] := fun _ h => by cases h

theorem NE.cons {w : Bytes} {ws : List Bytes} (hw : w ≠ []) (h : NE ws) : NE (w :: ws) := by
  intro x hx
  rcases List.mem_cons.mp hx with rfl | hx
  · exact hw
  · exact h x hx

theorem NE.tail {w : Bytes} {ws : List Bytes} (h : NE (w :: ws)) : NE ws := fun x hx => h x (by simp [hx])
theorem NE.head {w : Bytes} {ws : List Bytes} (h : NE (w :: ws)) : w ≠ [] := h w (by simp)

theorem NE.append {a b : List Bytes} (ha : NE a) (hb : NE b) : NE (a ++ b) := by
  intro x hx
  rcases List.mem_append.mp hx with h | h
  · exact ha x h
  · exact hb x h

theorem splitAlphaNum_ne : ∀ s, NE (splitAlphaNum s) := by
  intro s
  induction s with
  | nil => exact NE.nil
  | cons b r ih =>
    unfold splitAlphaNum
    cases h : splitAlphaNum r with
    | nil => exact NE.cons (by simp) NE.nil
    | cons p ps =>
      rw [h] at ih
      cases p with
      | nil => exact NE.cons (by simp) ih.tail
      | cons c cs =>
        simp only
        split
        · exact NE.cons (by simp) ih.tail
        · exact NE.cons (by simp) ih

def Solid (w : Bytes) : Prop := trimDash w ≠ []

theorem solid_ne {w : Bytes} (h : Solid w) : w ≠ [] := by
  intro hw
  subst hw
  exact h rfl

theorem dropWhile_dash_nil_of_all (w : Bytes) (h : ∀ x ∈ w, x = cDash) : w.dropWhile (· == cDash) = [] := by
  induction w with
  | nil => rfl
  | cons a r ih =>
    have ha : a = cDash := h a (by simp)
    simp [List.dropWhile, ha, ih (fun x hx => h x (by simp [hx]))]

theorem solid_has_nondash {w : Bytes} (h : Solid w) : ∃ x ∈ w, x ≠ cDash := by
  refine Classical.byContradiction fun hno => ?_
  have hall : ∀ x ∈ w, x = cDash := by
    intro x hx
    exact Classical.byContradiction fun hne => hno ⟨x, hx, hne⟩
  apply h
  unfold trimDash
  rw [dropWhile_dash_nil_of_all w hall]
  rfl

theorem dropLast_ne_of_solid_dash {w : Bytes} (h : Solid w) (hl : w.getLast? = some cDash) : w.dropLast ≠ [] := by
  obtain ⟨x, hx, hne⟩ := solid_has_nondash h
  intro hd
  -- w = dropLast ++ [last] = [cDash], so every element is a dash
  have hw : w = [cDash] := by
    cases w with
    | nil => cases hx
    | cons a r =>
      cases r with
      | nil => simp at hl; simp [hl]
      | cons b r2 => simp [List.dropLast] at hd
  rw [hw] at hx
  simp at hx
  exact hne hx

theorem combineNumbers_ne (ws : List Bytes) (h : ∀ w ∈ ws, Solid w) :
    ∀ acc : Option Bytes, (∀ a, acc = some a → a ≠ []) → NE (combineNumbers ws acc) := by
  induction ws with
  | nil => intro acc _; cases acc <;> exact NE.nil
  | cons w r ih =>
    have hw := h w (by simp)
    have hr : ∀ x ∈ r, Solid x := fun x hx => h x (by simp [hx])
    have ihn := ih hr none (by intro _ h; cases h)
    intro acc hacc
    cases acc with
    | some a =>
      have ha := hacc a rfl
      unfold combineNumbers
      cases hs : stripDashSuffix w with
      | some num =>
        simp only
        split
        · exact ih hr _ (by intro x hx; cases hx; simp [ha])
        · exact NE.cons ha (NE.cons (solid_ne hw) ihn)
      | none =>
        simp only
        split
        · exact NE.cons (by simp [ha]) ihn
        · exact NE.cons ha (NE.cons (solid_ne hw) ihn)
    | none =>
      unfold combineNumbers
      cases hs : stripDashSuffix w with
      | some num =>
        have hnum : num ≠ [] := by
          unfold stripDashSuffix at hs
          split at hs
          · rename_i hl; cases hs; exact dropLast_ne_of_solid_dash hw (by simpa using hl)
          · cases hs
        simp only
        split
        · exact ih hr _ (by intro x hx; cases hx; exact hnum)
        · exact NE.cons (solid_ne hw) ihn
      | none => exact NE.cons (solid_ne hw) ihn

theorem extractParts_ne (game : Bytes) : NE (extractParts game).words := by
  unfold extractParts
  simp only
  apply combineNumbers_ne
  · intro w hw
    have := (List.mem_filter.mp hw).2
    simpa [Solid] using this
  · intro _ h; cases h

theorem romanPass_ne (ws : List Bytes) (h : NE ws) : NE (romanPass ws).1 := by
  cases ws with
  | nil => exact NE.nil
  | cons f rest =>
    simp only [romanPass]
    refine NE.cons h.head ?_
    intro x hx
    simp only [List.map_map, List.mem_map, Function.comp] at hx
    obtain ⟨w, hw, rfl⟩ := hx
    split
    · exact natDec_ne_nil _
    · exact h w (by simp [hw])

theorem flatten_split_ne (ws : List Bytes) : NE (ws.map splitAlphaNum).flatten := by
  intro x hx
  obtain ⟨l, hl, hxl⟩ := List.mem_flatten.mp hx
  obtain ⟨w, _, rfl⟩ := List.mem_map.mp hl
  exact splitAlphaNum_ne w x hxl

theorem NE.dropLast {ws : List Bytes} (h : NE ws) : NE ws.dropLast :=
  fun x hx => h x (List.dropLast_subset _ hx)

theorem firstNumberPass_ok (ext : Ext) (hn : ∀ n, ext.n2w n ≠ []) (w2 : List Bytes) (h : NE w2) :
    ∃ w3 r3, firstNumberPass ext w2 = .ok (w3, r3) ∧ NE w3 := by
  unfold firstNumberPass
  cases w2 with
  | nil => exact ⟨_, _, rfl, NE.nil⟩
  | cons f rest =>
    cases f with
    | nil => exact absurd rfl h.head
    | cons c cs =>
      simp only
      split
      · exact ⟨_, _, rfl, NE.cons (hn _) h.tail⟩
      · exact ⟨_, _, rfl, h⟩

theorem lastNumberPass_ne (w3 : List Bytes) (h : NE w3) : NE (lastNumberPass w3).1 := by
  unfold lastNumberPass
  split
  · split
    · exact h.dropLast
    · exact h
  · exact h

/-- `prepare` never crashes on any words, and (when `number_to_words` never returns an empty string)
its words are again non-empty -/
theorem prepare_ok (ext : Ext) (hn : ∀ n, ext.n2w n ≠ []) (ws : List Bytes) (isMod : Bool) :
    ∃ p, prepare ext ws isMod = .ok p ∧ NE p.words := by
  obtain ⟨w3, r3, h3, hne⟩ := firstNumberPass_ok ext hn _ (flatten_split_ne (romanPass ws).1)
  unfold prepare
  simp only [h3]
  exact ⟨_, rfl, lastNumberPass_ne w3 hne⟩

theorem mapM_head_some (ws : List Bytes) (h : NE ws) : ∃ fs, ws.mapM (fun w => w.head?) = some fs := by
  induction ws with
  | nil => exact ⟨[], rfl⟩
  | cons w r ih =>
    obtain ⟨fs, hfs⟩ := ih h.tail
    cases w with
    | nil => exact absurd rfl h.head
    | cons c cs => exact ⟨c :: fs, by simp [List.mapM_cons, hfs]⟩

theorem mainPart_ok (ws : List Bytes) (h : NE ws) : ∃ m r, mainPart ws = .ok (m, r) := by
  unfold mainPart
  split
  · exact ⟨_, _, rfl⟩
  · obtain ⟨fs, hfs⟩ := mapM_head_some ws h
    rw [hfs]
    exact ⟨_, _, rfl⟩

theorem checkFlat_ok (ext : Ext) (hn : ∀ n, ext.n2w n ≠ []) (seen : Seen) (id : Bytes) (g : Parsed) (isMod : Bool) :
    ∃ r, checkFlat ext seen id g isMod = .ok r := by
  obtain ⟨p, hp, hne⟩ := prepare_ok ext hn g.words isMod
  obtain ⟨m, r, hm⟩ := mainPart_ok p.words hne
  unfold checkFlat
  rw [hp]
  simp only
  rw [hm]
  exact ⟨_, rfl⟩

theorem modAttempt_ok (ext : Ext) (hn : ∀ n, ext.n2w n ≠ []) (seen : Seen) (id : Bytes) (g : Parsed) (e : Bytes) :
    ∃ r, modAttempt ext seen id g e = .ok r := by
  unfold modAttempt
  split
  · cases hd : afterDash g.name with
    | none => exact ⟨_, rfl⟩
    | some modName =>
      obtain ⟨⟨fails, seen', x⟩, hfr⟩ := checkFlat_ok ext hn seen id (extractParts modName) true
      simp only [hfr]
      exact ⟨_, rfl⟩
  · exact ⟨_, rfl⟩

theorem checkRule_ok (ext : Ext) (hn : ∀ n, ext.n2w n ≠ []) (seen : Seen) (id : Bytes) (g : Parsed) :
    ∃ r, checkRule ext seen id g = .ok r := by
  obtain ⟨p, hp, hne⟩ := prepare_ok ext hn g.words false
  obtain ⟨m, r, hm⟩ := mainPart_ok p.words hne
  obtain ⟨mr, hmr⟩ := modAttempt_ok ext hn seen id g (expectedWith seen p g m).1
  unfold checkRule
  simp only [hp, hm, hmr]
  exact ⟨_, rfl⟩

theorem checkAllFrom_ok (ext : Ext) (hn : ∀ n, ext.n2w n ≠ []) (gs : List (Bytes × Parsed)) :
    ∀ seen, ∃ r, checkAllFrom ext gs seen = .ok r := by
  induction gs with
  | nil => intro _; exact ⟨[], rfl⟩
  | cons x r ih =>
    intro seen
    obtain ⟨id, g⟩ := x
    obtain ⟨res, hres⟩ := checkRule_ok ext hn seen id g
    obtain ⟨fails, seen'⟩ := res
    obtain ⟨more, hmore⟩ := ih seen'
    exact ⟨fails ++ more, by simp [checkAllFrom, hres, hmore]⟩

end Gd.IdCheck

namespace Gd.IdCheck
open Gd

/-- the id the checker expects for a name when nothing has been seen before -/
def singleExpected (ext : Ext) (g : Parsed) (isMod : Bool) : Res Bytes :=
  match prepare ext g.words isMod with
  | .crash => .crash
  | .err k => .err k
  | .ok p =>
    match mainPart p.words with
    | .crash => .crash
    | .err k => .err k
    | .ok (main, _) => .ok (lower (main ++ p.suffix))

theorem lower_idem (s : Bytes) : lower (lower s) = lower s := by
  unfold lower asciiLower
  rw [List.map_map]
  apply List.map_congr_left
  intro b _
  simp only [Function.comp]
  by_cases h : inRange b 65 90 = true
  · have hb : inRange (b + 32) 65 90 = false := by
      simp only [inRange, Bool.and_eq_true, decide_eq_true_eq] at h
      have : (b + 32).toNat = b.toNat + 32 := by
        rw [UInt8.toNat_add]; simp; omega
      simp [inRange, this]; omega
    simp [h, hb]
  · simp [h]

theorem expectedWith_nil (p : Prepared) (g : Parsed) (main : Bytes) :
    expectedWith [] p g main = (lower (main ++ p.suffix), []) := by
  simp [expectedWith, seenGet]

theorem checkFlat_nil (ext : Ext) (id : Bytes) (g : Parsed) (isMod : Bool) (p : Prepared) (m : Bytes) (r : Rule)
    (hp : prepare ext g.words isMod = .ok p) (hm : mainPart p.words = .ok (m, r)) :
    ∃ seen', checkFlat ext [] id g isMod
      = .ok ((if lower id != id then [Fail.mk id g.name (lower id) [.lowerCase]] else [])
          ++ (if id != lower (m ++ p.suffix) then [Fail.mk id g.name (lower (m ++ p.suffix)) (p.rules ++ [r] ++ [] ++ [])] else []),
        seen', lower (m ++ p.suffix)) := by
  unfold checkFlat
  simp only [hp, hm, expectedWith_nil, seenInsert, List.lookup, Bool.or_false, Bool.false_eq_true, ↓reduceIte]
  exact ⟨_, rfl⟩

/-- single game, nothing seen before: accepted exactly for the expected id of the name, or of its mod part -/
theorem checkRule_nil_accepts (ext : Ext) (hn : ∀ n, ext.n2w n ≠ []) (id : Bytes) (g : Parsed) :
    ∃ E, singleExpected ext g false = .ok E ∧
      ((∃ seen', checkRule ext [] id g = .ok ([], seen')) ↔
        (id = E ∨ ∃ m E', afterDash g.name = some m ∧ singleExpected ext (extractParts m) true = .ok E' ∧ id = E')) := by
  obtain ⟨p, hp, hne⟩ := prepare_ok ext hn g.words false
  obtain ⟨m, r, hm⟩ := mainPart_ok p.words hne
  refine ⟨lower (m ++ p.suffix), by simp [singleExpected, hp, hm], ?_⟩
  unfold checkRule
  simp only [hp, hm, expectedWith_nil]
  by_cases hid : id = lower (m ++ p.suffix)
  · have hl : lower id = id := by rw [hid, lower_idem]
    simp only [modAttempt, hid, bne_self_eq_false, Bool.false_eq_true, ↓reduceIte, finishRule, seenInsert, List.lookup,
      lower_idem, Bool.or_false, List.append_nil, List.nil_append]
    exact ⟨fun _ => Or.inl trivial, fun _ => ⟨_, rfl⟩⟩
  · have hne' : (id != lower (m ++ p.suffix)) = true := by simpa using hid
    simp only [modAttempt, hne', ↓reduceIte]
    cases hd : afterDash g.name with
    | none =>
      simp only [finishRule, seenInsert, List.lookup, hne', Bool.or_false, ↓reduceIte]
      constructor
      · rintro ⟨s, hs⟩
        simp at hs
      · rintro (h | ⟨m', E', h, _⟩)
        · exact absurd h hid
        · cases h
    | some modName =>
      obtain ⟨p2, hp2, hne2⟩ := prepare_ok ext hn (extractParts modName).words true
      obtain ⟨m2, r2, hm2⟩ := mainPart_ok p2.words hne2
      obtain ⟨s2, hcf⟩ := checkFlat_nil ext id (extractParts modName) true p2 m2 r2 hp2 hm2
      have hse : singleExpected ext (extractParts modName) true = .ok (lower (m2 ++ p2.suffix)) := by
        simp [singleExpected, hp2, hm2]
      simp only [hcf]
      by_cases hid2 : id = lower (m2 ++ p2.suffix)
      · have hl : lower id = id := by rw [hid2, lower_idem]
        have e1 : (lower id != id) = false := by simp [hl]
        have e2 : (id != lower (m2 ++ p2.suffix)) = false := by simp [hid2]
        simp only [e1, e2, Bool.false_eq_true, ↓reduceIte, List.append_nil, finishRule]
        exact ⟨fun _ => Or.inr ⟨modName, _, rfl, hse, hid2⟩, fun _ => ⟨_, rfl⟩⟩
      · have e2 : (id != lower (m2 ++ p2.suffix)) = true := by simpa using hid2
        constructor
        · rintro ⟨s, hs⟩
          exfalso
          simp only [e2, ↓reduceIte] at hs
          -- the mod attempt failed, so its failures are part of the result
          cases hlow : (lower id != id) <;> simp [hlow, finishRule] at hs
        · rintro (h | ⟨m', E', h, hE, hidE⟩)
          · exact absurd h hid
          · cases h
            rw [hse] at hE
            cases hE
            exact absurd hidE hid2

end Gd.IdCheck
