import GdVerif.Lemmas.QBounds
import GdVerif.Proto.Quake
/-
  How many datagrams the Quake query sends: one per attempt of its single exchange, whatever is
  received (the protocol has no challenge).
-/
namespace Gd.Quake
open Gd

/-- an attempt is `exchange1` (by unfolding), whose rule applies -/
theorem sends_getDataImpl (s : Sock) (v : Version) : Sends 1 (getDataImpl s v) :=
  Sends.exchange1 s (request v) PACKET_SIZE (stripHeader v).run

theorem sends_query (port : Nat) (v : Version) (retries : Nat) : Sends (retries + 1) (query port v retries) := by
  unfold query getData getDataOn
  have h := Sends.bind (Sends.bind (Sends.openSock false port) fun s => Sends.retry (sends_getDataImpl s v) retries)
    fun d => Sends.parse (parseBody v) d
  exact h.weaken (by omega)

end Gd.Quake
