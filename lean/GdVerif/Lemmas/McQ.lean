import GdVerif.Lemmas.QLogic
import GdVerif.Lemmas.QStepsN
import GdVerif.Proto.Minecraft
/-
  Exact evaluation of the Minecraft units (open a socket, then retry: send the requests, receive once,
  decode) in ANY transport state: what the result is, what is logged, and what state is left for the
  next unit.  This is the frame property the auto-detecting query needs (each variant runs on its own
  new socket and sees only that socket's script).  `1024` is the buffer `recv` uses when no size is given (`Net.lean`):
  a datagram is cut to it, a TCP read is not.
-/
namespace Gd.Mc
open Gd

/-- the state in which the client owns one more socket than in `w0` (its id is `w0.conns.length`) whose
remaining deliveries are `q`; `rest` are the scripts of sockets not yet opened; no send faults are pending;
`evs` was logged since `w0` -/
def own (w0 : Net) (rest : List ConnScript) (q : List Delivery) (evs : List Ev) : Net :=
  ⟨rest, w0.conns ++ [q], [], w0.log ++ evs⟩

theorem getD_append_length (l : List (List Delivery)) (x : List Delivery) : (l ++ [x]).getD l.length [] = x := by
  induction l with
  | nil => rfl
  | cons y r ih => simpa using ih

theorem setAt_append_length (l : List (List Delivery)) (x y : List Delivery) : setAt (l ++ [x]) l.length y = l ++ [y] := by
  induction l with
  | nil => rfl
  | cons z r ih => simp [setAt, ih]

theorem openSock_opened (tcp : Bool) (port : Nat) (w0 : Net) (ds : List Delivery) (rest : List ConnScript)
    (hp : w0.pending = .opened ds :: rest) (hf : w0.faults = []) :
    openSock tcp port w0 = (.ok ⟨w0.conns.length, port, tcp⟩, own w0 rest ds [.opened w0.conns.length tcp port false]) := by
  cases w0
  simp_all [openSock, own]

theorem openSock_refused (tcp : Bool) (port : Nat) (w0 : Net) (rest : List ConnScript) (hp : w0.pending = .refused :: rest) :
    openSock tcp port w0 = (.err (if tcp then .socketConnect else .socketBind),
      ⟨rest, w0.conns ++ [[]], w0.faults, w0.log ++ [.opened w0.conns.length tcp port true]⟩) := by
  cases w0
  simp_all [openSock]

theorem send_own (s : Sock) (d : Bytes) (w0 : Net) (rest : List ConnScript) (q : List Delivery) (evs : List Ev) :
    send s d (own w0 rest q evs) = (.ok (), own w0 rest q (evs ++ [.send s.id s.port d false])) := by
  simp [send, own, List.append_assoc]

theorem recv_own_data (s : Sock) (w0 : Net) (hs : s.id = w0.conns.length) (rest : List ConnScript) (d : Bytes)
    (q : List Delivery) (evs : List Ev) :
    recv s none (own w0 rest (.data d :: q) evs)
      = (.ok (if s.tcp then d else d.take 1024),
         own w0 rest q (evs ++ [.recv s.id none (some (if s.tcp then d else d.take 1024).length)])) := by
  simp [recv, own, hs, getD_append_length, setAt_append_length, List.append_assoc]

theorem recv_own_silence (s : Sock) (w0 : Net) (hs : s.id = w0.conns.length) (rest : List ConnScript)
    (q : List Delivery) (evs : List Ev) :
    recv s none (own w0 rest (.silence :: q) evs)
      = (.err .packetReceive, own w0 rest q (evs ++ [.recv s.id none none])) := by
  simp [recv, own, hs, getD_append_length, setAt_append_length, List.append_assoc]

theorem recv_own_empty (s : Sock) (w0 : Net) (hs : s.id = w0.conns.length) (rest : List ConnScript) (evs : List Ev) :
    recv s none (own w0 rest [] evs)
      = (if s.tcp then (.ok [], own w0 rest [] (evs ++ [.recv s.id none (some 0)]))
         else (.err .packetReceive, own w0 rest [] (evs ++ [.recv s.id none none]))) := by
  simp only [recv, own, hs, getD_append_length]
  split <;> simp [List.append_assoc]

/-! ### the shape all five units share -/

def sendEvs (s : Sock) (reqs : List Bytes) : List Ev := reqs.map fun d => .send s.id s.port d false

/-- what an attempt does on its own socket: it sends `reqs`, receives once and decodes what arrived -/
structure Behaves (f : Q α) (s : Sock) (w0 : Net) (rest : List ConnScript) (reqs : List Bytes) (dec : Bytes → Res α) : Prop where
  data : ∀ d q evs, f (own w0 rest (.data d :: q) evs)
      = (dec (if s.tcp then d else d.take 1024),
         own w0 rest q (evs ++ sendEvs s reqs ++ [.recv s.id none (some (if s.tcp then d else d.take 1024).length)]))
  silence : ∀ q evs, f (own w0 rest (.silence :: q) evs)
      = (.err .packetReceive, own w0 rest q (evs ++ sendEvs s reqs ++ [.recv s.id none none]))
  empty : ∀ evs, f (own w0 rest [] evs)
      = (if s.tcp then (dec [], own w0 rest [] (evs ++ sendEvs s reqs ++ [.recv s.id none (some 0)]))
         else (.err .packetReceive, own w0 rest [] (evs ++ sendEvs s reqs ++ [.recv s.id none none])))

/-- transports of the sockets opened, in order (`true` = TCP) -/
def opens : List Ev → List Bool
  | [] => []
  | .opened _ tcp _ _ :: r => tcp :: opens r
  | _ :: r => opens r

theorem opens_append (a b : List Ev) : opens (a ++ b) = opens a ++ opens b := by
  induction a with
  | nil => rfl
  | cons e r ih => cases e <;> simp [opens, ih]

theorem opens_sendEvs (s : Sock) (reqs : List Bytes) : opens (sendEvs s reqs) = [] := by
  induction reqs with
  | nil => rfl
  | cons d r ih => simpa [sendEvs, opens] using ih

/-- the state a unit leaves for the next one: the scripts `rest` still pending, no send faults, and one
socket of the given transport opened since `w0` -/
structure After (w0 w' : Net) (rest : List ConnScript) (tcp : Bool) : Prop where
  pending : w'.pending = rest
  faults : w'.faults = []
  opened : Mc.opens w'.log = Mc.opens w0.log ++ [tcp]

theorem After.of_own (w0 : Net) (rest : List ConnScript) (q : List Delivery) (evs : List Ev) (tcp : Bool)
    (h : Mc.opens evs = [tcp]) : After w0 (Mc.own w0 rest q evs) rest tcp :=
  ⟨rfl, rfl, by simp [Mc.own, opens_append, h]⟩

/-- A unit whose connection delivers `d` first, and `d` decodes: the unit returns the decoded value after ONE
attempt, having logged exactly: socket opened, the requests, one receive. -/
theorem unit_answered {α : Type} (tcp : Bool) (port r : Nat) (f : Sock → Q α) (reqs : List Bytes) (dec : Bytes → Res α)
    (w0 : Net) (d : Bytes) (q : List Delivery) (rest : List ConnScript) (x : α)
    (hb : Behaves (f ⟨w0.conns.length, port, tcp⟩) ⟨w0.conns.length, port, tcp⟩ w0 rest reqs dec)
    (hp : w0.pending = .opened (.data d :: q) :: rest) (hf : w0.faults = [])
    (hdec : dec (if tcp then d else d.take 1024) = .ok x) :
    (openSock tcp port >>= fun s => retryOnTimeout r (f s)) w0
      = (.ok x, own w0 rest q ([.opened w0.conns.length tcp port false] ++ sendEvs ⟨w0.conns.length, port, tcp⟩ reqs
          ++ [.recv w0.conns.length none (some (if tcp then d else d.take 1024).length)])) := by
  rw [Q.bind_apply, openSock_opened tcp port w0 _ rest hp hf]
  simp only
  have := hb.data d q [.opened w0.conns.length tcp port false]
  simp only [hdec] at this
  exact retryOnTimeout_ok this r

theorem unit_refused {α : Type} (tcp : Bool) (port r : Nat) (f : Sock → Q α) (w0 : Net) (rest : List ConnScript)
    (hp : w0.pending = .refused :: rest) (hf : w0.faults = []) :
    ∃ e w1, (openSock tcp port >>= fun s => retryOnTimeout r (f s)) w0 = (.err e, w1) ∧ After w0 w1 rest tcp := by
  refine ⟨if tcp then .socketConnect else .socketBind,
    ⟨rest, w0.conns ++ [[]], w0.faults, w0.log ++ [.opened w0.conns.length tcp port true]⟩, ?_, ⟨rfl, hf, ?_⟩⟩
  · rw [Q.bind_apply, openSock_refused tcp port w0 rest hp]
  · simp [opens_append, opens]

theorem retry_silent {α : Type} (f : Q α) (s : Sock) (w0 : Net) (rest : List ConnScript) (reqs : List Bytes)
    (dec : Bytes → Res α) (hb : Behaves f s w0 rest reqs dec) (hempty : ∃ e, dec [] = .err e) :
    ∀ (r k : Nat) (evs : List Ev), ∃ e k' evs', retryOnTimeout r f (own w0 rest (List.replicate k .silence) evs)
      = (.err e, own w0 rest (List.replicate k' .silence) evs') ∧ opens evs' = opens evs := by
  obtain ⟨e0, he0⟩ := hempty
  have one : ∀ (k : Nat) (evs : List Ev), ∃ e k' evs', f (own w0 rest (List.replicate k .silence) evs)
      = (.err e, own w0 rest (List.replicate k' .silence) evs') ∧ opens evs' = opens evs ∧ (e.isTimeout = true → k' < k ∨ k = 0) := by
    intro k evs
    cases k with
    | zero =>
      have h := hb.empty evs
      by_cases ht : s.tcp = true
      · simp only [ht, ↓reduceIte, he0] at h
        exact ⟨e0, 0, _, h, by simp [opens_append, opens_sendEvs, opens], fun _ => Or.inr rfl⟩
      · simp only [ht, Bool.false_eq_true, ↓reduceIte] at h
        exact ⟨_, 0, _, h, by simp [opens_append, opens_sendEvs, opens], fun _ => Or.inr rfl⟩
    | succ k =>
      have h := hb.silence (List.replicate k .silence) evs
      exact ⟨_, k, _, h, by simp [opens_append, opens_sendEvs, opens], fun _ => Or.inl (Nat.lt_succ_self k)⟩
  intro r
  induction r with
  | zero =>
    intro k evs
    obtain ⟨e, k', evs', h, ho, _⟩ := one k evs
    exact ⟨e, k', evs', h, ho⟩
  | succ r ih =>
    intro k evs
    obtain ⟨e, k', evs', h, ho, _⟩ := one k evs
    simp only [retryOnTimeout, h]
    by_cases ht : e.isTimeout = true
    · simp only [ht, ↓reduceIte]
      obtain ⟨e2, k2, evs2, h2, ho2⟩ := ih k' evs'
      exact ⟨e2, k2, evs2, h2, by rw [ho2, ho]⟩
    · simp only [ht, Bool.false_eq_true, ↓reduceIte]
      exact ⟨e, k', evs', rfl, ho⟩

theorem unit_silent {α : Type} (tcp : Bool) (port r : Nat) (f : Sock → Q α) (reqs : List Bytes) (dec : Bytes → Res α)
    (w0 : Net) (k : Nat) (rest : List ConnScript)
    (hb : Behaves (f ⟨w0.conns.length, port, tcp⟩) ⟨w0.conns.length, port, tcp⟩ w0 rest reqs dec)
    (hempty : ∃ e, dec [] = .err e)
    (hp : w0.pending = .opened (List.replicate k .silence) :: rest) (hf : w0.faults = []) :
    ∃ e w1, (openSock tcp port >>= fun s => retryOnTimeout r (f s)) w0 = (.err e, w1) ∧ After w0 w1 rest tcp := by
  rw [Q.bind_apply, openSock_opened tcp port w0 _ rest hp hf]
  simp only
  obtain ⟨e, k', evs', h, ho⟩ := retry_silent _ _ w0 rest reqs dec hb hempty r k [.opened w0.conns.length tcp port false]
  exact ⟨e, _, h, After.of_own w0 rest _ evs' tcp (by rw [ho]; rfl)⟩

theorem Q.lift_bind_lift {α β : Type} (r : Res α) (g : α → Res β) :
    (Q.lift r >>= fun x => Q.lift (g x)) = Q.lift (r >>= g) :=
  Gd.Q.lift_bind_lift r g

/-- what a Java attempt makes of the stream it reads -/
def javaDec (ext : Ext) (d : Bytes) : Res JavaResponse := javaUnframe.run d >>= fun sd => (javaParse ext).run sd

/-- the three framed packets of a Java attempt -/
def javaReqs (payload : Bytes) : List Bytes :=
  [asVarint (payload.length % 2 ^ 32) ++ payload, asVarint (1 % 2 ^ 32) ++ [0x00], asVarint (1 % 2 ^ 32) ++ [0x01]]

theorem javaTail_eq (ext : Ext) (s : Sock) :
    (javaReceive s >>= fun sd => parse (javaParse ext) sd) = (recv s none >>= fun d => Q.lift (javaDec ext d)) := by
  funext w
  simp only [javaReceive, Q.bind_apply]
  cases hr : recv s none w with
  | mk res w1 =>
    cases res with
    | ok d =>
      simp only [parse, javaDec]
      cases javaUnframe.run d <;> rfl
    | err k => rfl
    | crash => rfl

theorem exchangeN_cons {α : Type} (s : Sock) (d : Bytes) (r : List Bytes) (size : Option Nat) (check : Bytes → Res α) :
    exchangeN s (d :: r) size check = (send s d >>= fun _ => exchangeN s r size check) := by
  funext w
  simp only [exchangeN, sendAll, Q.bind_apply]
  cases send s d w with
  | mk res w1 => cases res <;> rfl

theorem exchangeN_nil {α : Type} (s : Sock) (size : Option Nat) (check : Bytes → Res α) :
    exchangeN s [] size check = (recv s size >>= fun d => Q.lift (check d)) := rfl

theorem bedrock_exchangeN (s : Sock) : bedrockGetInfoImpl s = exchangeN s [bedrockRequest] none bedrockParse.run := by
  rw [exchangeN_cons, exchangeN_nil]; rfl

theorem legacy_exchangeN (g : LegacyGroup) (s : Sock) :
    legacyGetInfoImpl g s = exchangeN s [legacyRequest g] none fun d => (legacyParse g d.length).run d := by
  rw [exchangeN_cons, exchangeN_nil]; rfl

theorem java_exchangeN (ext : Ext) (s : Sock) (st : RequestSettings) (payload : Bytes)
    (hh : javaHandshakePayload st s.port = .ok payload) :
    javaGetInfoImpl ext s st = exchangeN s (javaReqs payload) none (javaDec ext) := by
  unfold javaReqs
  rw [exchangeN_cons, exchangeN_cons, exchangeN_cons, exchangeN_nil]
  unfold javaGetInfoImpl javaSendHandshake javaSendStatusRequest javaSendPingRequest javaSend
  rw [hh, ← javaTail_eq]
  rfl

theorem sendAll_own (s : Sock) (w0 : Net) (rest : List ConnScript) (q : List Delivery) :
    ∀ (reqs : List Bytes) (evs : List Ev),
      sendAll s reqs (own w0 rest q evs) = (.ok (), own w0 rest q (evs ++ sendEvs s reqs)) := by
  intro reqs
  induction reqs with
  | nil => intro evs; simp [sendAll, sendEvs]
  | cons d r ih =>
    intro evs
    simp only [sendAll, Q.bind_apply, send_own, ih, sendEvs, List.map_cons, List.append_assoc, List.cons_append,
      List.nil_append]

theorem behaves_exchangeN {α : Type} (s : Sock) (w0 : Net) (hs : s.id = w0.conns.length) (rest : List ConnScript)
    (reqs : List Bytes) (check : Bytes → Res α) : Behaves (exchangeN s reqs none check) s w0 rest reqs check := by
  constructor
  · intro d q evs
    simp only [exchangeN, Q.bind_apply, sendAll_own, recv_own_data s w0 hs, Q.lift]
  · intro q evs
    simp only [exchangeN, Q.bind_apply, sendAll_own, recv_own_silence s w0 hs]
  · intro evs
    simp only [exchangeN, Q.bind_apply, sendAll_own, recv_own_empty s w0 hs]
    by_cases ht : s.tcp = true <;> simp [ht, Q.lift]

theorem behaves_java (ext : Ext) (s : Sock) (st : RequestSettings) (w0 : Net) (hs : s.id = w0.conns.length)
    (rest : List ConnScript) (payload : Bytes) (hh : javaHandshakePayload st s.port = .ok payload) :
    Behaves (javaGetInfoImpl ext s st) s w0 rest (javaReqs payload) (javaDec ext) := by
  rw [java_exchangeN ext s st payload hh]
  exact behaves_exchangeN s w0 hs rest _ _

theorem behaves_bedrock (s : Sock) (w0 : Net) (hs : s.id = w0.conns.length) (rest : List ConnScript) :
    Behaves (bedrockGetInfoImpl s) s w0 rest [bedrockRequest] bedrockParse.run := by
  rw [bedrock_exchangeN]
  exact behaves_exchangeN s w0 hs rest _ _

theorem behaves_legacy (g : LegacyGroup) (s : Sock) (w0 : Net) (hs : s.id = w0.conns.length) (rest : List ConnScript) :
    Behaves (legacyGetInfoImpl g s) s w0 rest [legacyRequest g] (fun d => (legacyParse g d.length).run d) := by
  rw [legacy_exchangeN]
  exact behaves_exchangeN s w0 hs rest _ _

end Gd.Mc
