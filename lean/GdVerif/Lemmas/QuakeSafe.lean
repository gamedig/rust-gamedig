import GdVerif.Lemmas.ValveSafe
import GdVerif.Spec.Quake
/-
  Crash-freedom and wire-conformance of the whole Quake 1 / 2 / 3 query model.
-/
namespace Gd.Quake
open Gd

/-- the slice of `remove_wrapping_quotes` is only taken of a string of at least two bytes -/
theorem removeWrappingQuotes_ne_crash (s : Bytes) : removeWrappingQuotes s ≠ .crash := by
  unfold removeWrappingQuotes
  split
  · rename_i h
    simp only [Bool.and_eq_true, decide_eq_true_eq] at h
    have h2 : ¬ s.length < 2 := by omega
    simp [sliceInner, h2]
  · simp

theorem fieldUnsigned_ne_crash (bits : Nat) (t : Option Bytes) : fieldUnsigned bits t ≠ .crash := by
  cases t with
  | none => nofun
  | some t => exact okOr_ne_crash _ _

theorem fieldSigned_ne_crash (bits : Nat) (t : Option Bytes) : fieldSigned bits t ≠ .crash := by
  cases t with
  | none => nofun
  | some t => exact okOr_ne_crash _ _

theorem fieldText_ne_crash (t : Option Bytes) : fieldText t ≠ .crash := by
  cases t with
  | none => nofun
  | some t => exact removeWrappingQuotes_ne_crash t

theorem fieldOptText_ne_crash (t : Option Bytes) : fieldOptText t ≠ .crash := by
  cases t with
  | none => nofun
  | some t => exact Res.bind_ne_crash (removeWrappingQuotes_ne_crash t) fun _ => Res.pure_ne_crash _

theorem parsePlayerOne_ne_crash (t : List Bytes) : parsePlayerOne t ≠ .crash := by
  unfold parsePlayerOne
  exact Res.bind_ne_crash (fieldUnsigned_ne_crash _ _) fun _ => Res.bind_ne_crash (fieldUnsigned_ne_crash _ _) fun _ =>
    Res.bind_ne_crash (fieldUnsigned_ne_crash _ _) fun _ => Res.bind_ne_crash (fieldUnsigned_ne_crash _ _) fun _ =>
    Res.bind_ne_crash (fieldText_ne_crash _) fun _ => Res.bind_ne_crash (fieldText_ne_crash _) fun _ =>
    Res.bind_ne_crash (fieldUnsigned_ne_crash _ _) fun _ => Res.bind_ne_crash (fieldUnsigned_ne_crash _ _) fun _ =>
    Res.pure_ne_crash _

theorem parsePlayerTwo_ne_crash (t : List Bytes) : parsePlayerTwo t ≠ .crash := by
  unfold parsePlayerTwo
  exact Res.bind_ne_crash (fieldSigned_ne_crash _ _) fun _ => Res.bind_ne_crash (fieldUnsigned_ne_crash _ _) fun _ =>
    Res.bind_ne_crash (fieldText_ne_crash _) fun _ => Res.bind_ne_crash (fieldOptText_ne_crash _) fun _ => Res.pure_ne_crash _

theorem parsePlayer_ne_crash (v : Version) (t : List Bytes) : parsePlayer v t ≠ .crash := by
  unfold parsePlayer
  split
  · exact Res.bind_ne_crash (parsePlayerOne_ne_crash _) fun _ => Res.pure_ne_crash _
  · exact Res.bind_ne_crash (parsePlayerTwo_ne_crash _) fun _ => Res.pure_ne_crash _

theorem buildResponse_ne_crash (vars : Vars) (players : List Player) : buildResponse vars players ≠ .crash := by
  unfold buildResponse
  exact Res.bind_ne_crash (okOr_ne_crash _ _) fun _ => Res.bind_ne_crash (okOr_ne_crash _ _) fun _ =>
    Res.bind_ne_crash (okOr_ne_crash _ _) fun _ => Res.bind_ne_crash (okOr_ne_crash _ _) fun _ => Res.pure_ne_crash _

theorem safe_stripHeader (v : Version) : Safe (stripHeader v) := by
  unfold stripHeader
  refine Safe.bind (safe_readUnsigned _ _) fun h => ?_
  split
  · exact Safe.fail _
  · refine Safe.bind safe_remainingBytes fun rest => ?_
    split
    · exact Safe.fail _
    · exact Safe.bind (safe_moveCursor _) fun _ => safe_remainingBytes

theorem safe_getServerValues : Safe getServerValues := by
  unfold getServerValues
  exact Safe.bind (safe_readStrUntil _) fun _ => Safe.pure _

theorem safe_playerLine (v : Version) : Safe (playerLine v) := by
  unfold playerLine
  exact Safe.bind (safe_readStrUntil _) fun _ => Safe.lift_ne _ (parsePlayer_ne_crash _ _)

theorem playerLine_progress (v : Version) (b b' : Buf) (p : Player) (h : playerLine v b = .ok (p, b'))
    (hne : b.rest ≠ []) : b'.remaining < b.remaining := by
  obtain ⟨data, b1, hr, hl⟩ := Par.bind_ok_inv h
  -- `Par.lift` leaves the cursor where the line ended
  unfold Par.lift at hl
  split at hl <;> cases hl
  exact readStrUntil_progress 0x0A b _ data hr hne

theorem getPlayersLoop_succ (v : Version) (fuel : Nat) (b : Buf) :
    getPlayersLoop v (fuel + 1) b =
      if b.rest.isEmpty || b.rest == [0x00] then .ok ([], b)
      else (do let p ← playerLine v; let ps ← getPlayersLoop v fuel; pure (p :: ps)) b := by
  rw [getPlayersLoop, Par.bind_ok (show remainingBytes b = .ok (b.rest, b) from rfl)]
  split <;> rfl

/-- the loop of `get_players` never runs out of fuel: every round consumes a byte -/
theorem safe_getPlayersLoop (v : Version) : ∀ fuel b, b.remaining < fuel → Post b (getPlayersLoop v fuel b) := by
  intro fuel
  induction fuel with
  | zero => intro b h; omega
  | succ n ih =>
    intro b hb
    rw [getPlayersLoop_succ]
    split
    · rfl
    · rename_i hc
      have hne : b.rest ≠ [] := by
        intro he
        apply hc
        simp [he]
      refine Post.bind (safe_playerLine v b) fun p b1 hp => ?_
      have hlt := playerLine_progress v b b1 p hp hne
      exact Post.bind (ih b1 (by omega)) fun ps b2 _ => rfl

theorem safe_getPlayers (v : Version) : Safe (getPlayers v) :=
  fun b => safe_getPlayersLoop v (b.remaining + 1) b (Nat.lt_succ_self _)

theorem safe_parseBody (v : Version) : Safe (parseBody v) := by
  unfold parseBody
  exact Safe.bind safe_getServerValues fun _ => Safe.bind (safe_getPlayers v) fun _ =>
    Safe.lift_ne _ (buildResponse_ne_crash _ _)

theorem request_eq (v : Version) : request v = Spec.request v := by
  cases v <;> rfl

/-- what the whole query may log (`id`: the number of the socket it opens): one UDP socket opened to the given port,
the version's request sent on it, receives into the fixed buffer -/
def QueryEvOk (port : Nat) (v : Version) (id : Nat) : Ev → Prop
  | .opened c tcp p _ => c = id ∧ tcp = false ∧ p = port
  | .send c p data _ => c = id ∧ p = port ∧ data = request v
  | .recv c size _ => c = id ∧ size = some PACKET_SIZE

theorem qsafe_getDataImpl (s : Sock) (v : Version) : QSafe s (QueryEvOk s.port v s.id) (getDataImpl s v) := by
  unfold getDataImpl
  exact QSafe.bind (QSafe.send s _ _ fun _ => ⟨rfl, rfl, rfl⟩) fun _ =>
    QSafe.bind (QSafe.recv s _ _ fun _ => ⟨rfl, rfl⟩) fun _ => QSafe.parse _ _ (safe_stripHeader v) _

/-- the body of `query` after the socket has been opened -/
def queryBody (s : Sock) (v : Version) (retries : Nat) : Q Response := do
  let data ← getDataOn s retries v
  parse (parseBody v) data

theorem qsafe_queryBody (s : Sock) (v : Version) (r : Nat) : QSafe s (QueryEvOk s.port v s.id) (queryBody s v r) := by
  unfold queryBody getDataOn
  exact QSafe.bind (QSafe.retry (qsafe_getDataImpl s v) r) fun _ => QSafe.parse _ _ (safe_parseBody v) _

theorem query_eq (port : Nat) (v : Version) (retries : Nat) :
    query port v retries = (openSock false port >>= fun s => queryBody s v retries) := by
  unfold query getData queryBody
  exact Q.bind_assoc _ _ _

theorem query_safe (port : Nat) (v : Version) (r : Nat) (w : Net) :
    (query port v r w).1 ≠ .crash
    ∧ ∃ added, (query port v r w).2.log = w.log ++ added ∧ ∀ e ∈ added, QueryEvOk port v w.conns.length e := by
  rw [query_eq]
  exact openThen_safe false port (QueryEvOk port v) (fun _ _ => ⟨rfl, rfl, rfl⟩)
    (fun s hp _ => by have := qsafe_queryBody s v r; rwa [hp] at this) w

end Gd.Quake
