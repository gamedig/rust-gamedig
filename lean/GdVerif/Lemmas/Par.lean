import GdVerif.Buffer
/-
  THE LOGICS FOR PARSERS.  A parser is `p : Par α`, a function of the reader state `Buf` (a zipper over the packet).
  Each logic has one rule per combinator, so a property of a decoder is proved by following its text.

  * `Decodes p e x` (C02–C07, C17: round trips) — wherever the bytes `e` stand at the cursor, `p` returns `x`, consumes
    exactly `e` and stays on the packet.  `Reader.lean` has the rules of the primitive reads, `Decodes.lean` after it
    `DecodesEnd` (the same when `e` is all that remains) and lists.
  * `Safe p` (C01, C17: no crash) — on every buffer the outcome of `p` is not a crash, and on success the reader is
    still on the same packet (`Post`).
  * `Progress p` / `NoGrow p` — a successful `p` leaves strictly fewer / no more bytes than it found.  They are the fuel
    argument of the loops: `safe_whileRemaining` needs `Progress` of the body, and `remaining + 1` is then fuel enough.
-/
namespace Gd

namespace Buf

@[simp] theorem data_new (d : Bytes) : (Buf.new d).data = d := by simp [Buf.new, Buf.data]
@[simp] theorem pos_new (d : Bytes) : (Buf.new d).pos = 0 := rfl
@[simp] theorem rest_new (d : Bytes) : (Buf.new d).rest = d := rfl

theorem pos_le_len (b : Buf) : b.pos ≤ b.data.length := by
  simp [Buf.pos, Buf.data]

theorem data_length (b : Buf) : b.data.length = b.pos + b.remaining := by
  simp [Buf.pos, Buf.data, Buf.remaining]

theorem drop_pos_data (b : Buf) : b.data.drop b.pos = b.rest := by
  simp [Buf.pos, Buf.data]

@[simp] theorem data_advance (b : Buf) (n : Nat) : (b.advance n).data = b.data := by
  simp [Buf.advance, Buf.data, List.reverse_append, List.append_assoc]

@[simp] theorem rest_advance (b : Buf) (n : Nat) : (b.advance n).rest = b.rest.drop n := rfl

theorem pos_advance (b : Buf) (n : Nat) (h : n ≤ b.rest.length) : (b.advance n).pos = b.pos + n := by
  simp [Buf.advance, Buf.pos, List.length_take, Nat.min_eq_left h]; omega

@[simp] theorem data_retreat (b : Buf) (n : Nat) : (b.retreat n).data = b.data := by
  simp only [Buf.retreat, Buf.data]
  rw [← List.append_assoc]
  congr 1
  rw [← List.reverse_append, List.take_append_drop]

theorem pos_retreat (b : Buf) (n : Nat) (h : n ≤ b.pre.length) : (b.retreat n).pos = b.pos - n := by
  simp [Buf.retreat, Buf.pos]

@[simp] theorem advance_zero (b : Buf) : b.advance 0 = b := by
  simp [Buf.advance]

theorem advance_append (b : Buf) (e post : Bytes) (h : b.rest = e ++ post) :
    (b.advance e.length).rest = post := by
  simp [h]

theorem retreat_advance_one (b : Buf) (x : UInt8) (r : Bytes) (h : b.rest = x :: r) : (b.advance 1).retreat 1 = b := by
  cases b with
  | mk pre rest =>
    simp only at h
    subst h
    simp [Buf.advance, Buf.retreat]

end Buf

namespace Res

theorem bind_eq_ok {r : Res α} {f : α → Res β} {y : β} (h : (r >>= f) = .ok y) : ∃ x, r = .ok x ∧ f x = .ok y := by
  cases r with
  | ok x => exact ⟨x, rfl, h⟩
  | err k => cases h
  | crash => cases h

theorem bind_ne_crash {r : Res α} {f : α → Res β} (hr : r ≠ .crash) (hf : ∀ a, f a ≠ .crash) :
    (r >>= f) ≠ .crash := by
  cases r with
  | ok a => exact hf a
  | err k => nofun
  | crash => exact absurd rfl hr

theorem ite_ne_crash {c : Prop} [Decidable c] {a b : Res α} (ha : a ≠ .crash) (hb : b ≠ .crash) :
    (if c then a else b) ≠ .crash := by
  split <;> assumption

theorem pure_ne_crash (a : α) : (pure a : Res α) ≠ .crash := nofun

end Res

theorem okOr_ne_crash (o : Option α) (k : ErrKind) : okOr o k ≠ .crash := by
  cases o <;> nofun

namespace Par

@[simp] theorem pure_apply (a : α) (b : Buf) : (pure a : Par α) b = .ok (a, b) := rfl

theorem bind_apply (p : Par α) (f : α → Par β) (b : Buf) :
    (p >>= f) b = match p b with
      | .ok (a, b') => f a b'
      | .err k => .err k
      | .crash => .crash := rfl

theorem bind_ok {p : Par α} {f : α → Par β} {b b' : Buf} {a : α} (h : p b = .ok (a, b')) :
    (p >>= f) b = f a b' := by
  rw [bind_apply, h]

theorem bind_err {p : Par α} {f : α → Par β} {b : Buf} {k : ErrKind} (h : p b = .err k) :
    (p >>= f) b = .err k := by
  rw [bind_apply, h]

theorem bind_ok_inv {p : Par α} {f : α → Par β} {b b' : Buf} {y : β} (h : (p >>= f) b = .ok (y, b')) :
    ∃ a b1, p b = .ok (a, b1) ∧ f a b1 = .ok (y, b') := by
  rw [bind_apply] at h
  cases hp : p b with
  | ok x => rw [hp] at h; exact ⟨x.1, x.2, rfl, h⟩
  | err k => rw [hp] at h; cases h
  | crash => rw [hp] at h; cases h

theorem lift_ok_bind (a : α) (f : α → Par β) : (Par.lift (.ok a) >>= f) = f a := rfl

@[simp] theorem fail_apply (k : ErrKind) (b : Buf) : (Par.fail k : Par α) b = .err k := rfl

end Par

def Decodes (p : Par α) (e : Bytes) (x : α) : Prop :=
  ∀ (b : Buf) (post : Bytes), b.rest = e ++ post →
    ∃ b', p b = .ok (x, b') ∧ b'.rest = post ∧ b'.data = b.data

theorem Decodes.pure (x : α) : Decodes (pure x : Par α) [] x := by
  intro b post h
  exact ⟨b, rfl, by simpa using h, rfl⟩

theorem Decodes.bind {p : Par α} {f : α → Par β} {e1 e2 : Bytes} {x : α} {y : β}
    (h1 : Decodes p e1 x) (h2 : Decodes (f x) e2 y) : Decodes (p >>= f) (e1 ++ e2) y := by
  intro b post h
  obtain ⟨b1, hp, hr1, hd1⟩ := h1 b (e2 ++ post) (by simpa [List.append_assoc] using h)
  obtain ⟨b2, hf, hr2, hd2⟩ := h2 b1 post hr1
  exact ⟨b2, by rw [Par.bind_ok hp, hf], hr2, by rw [hd2, hd1]⟩

theorem Decodes.bind' {p : Par α} {f : α → Par β} {e e1 e2 : Bytes} {x : α} {y : β}
    (h1 : Decodes p e1 x) (h2 : Decodes (f x) e2 y) (he : e = e1 ++ e2) : Decodes (p >>= f) e y :=
  he ▸ Decodes.bind h1 h2

theorem Decodes.congr {p q : Par α} {e : Bytes} {x : α} (h : Decodes p e x) (hq : q = p) : Decodes q e x :=
  hq ▸ h

theorem Decodes.run {p : Par α} {e : Bytes} {x : α} (h : Decodes p e x) : p.run e = .ok x := by
  obtain ⟨b', hp, _, _⟩ := h (Buf.new e) [] (by simp)
  simp [Par.run, hp]

theorem Decodes.run_append {p : Par α} {e : Bytes} {x : α} (h : Decodes p e x) (post : Bytes) :
    p.run (e ++ post) = .ok x := by
  obtain ⟨b', hp, _, _⟩ := h (Buf.new (e ++ post)) post (by simp)
  simp [Par.run, hp]

def Post (b : Buf) : Res (α × Buf) → Prop
  | .crash => False
  | .err _ => True
  | .ok (_, b') => b'.data = b.data

def Safe (p : Par α) : Prop := ∀ b, Post b (p b)

theorem Safe.pure (a : α) : Safe (pure a : Par α) := fun _ => rfl

theorem Safe.fail (k : ErrKind) : Safe (Par.fail k : Par α) := fun _ => trivial

theorem Post.of_data {b b1 : Buf} {r : Res (α × Buf)} (hd : b1.data = b.data) (h : Post b1 r) : Post b r := by
  cases r with
  | ok x => exact Eq.trans (b := b1.data) h hd
  | err k => trivial
  | crash => exact h

theorem Post.bind {p : Par α} {f : α → Par β} {b : Buf} (hp : Post b (p b))
    (hf : ∀ a b1, p b = .ok (a, b1) → Post b1 (f a b1)) : Post b ((p >>= f) b) := by
  rw [Par.bind_apply]
  cases h : p b with
  | ok ab =>
    rw [h] at hp
    exact Post.of_data hp (hf ab.1 ab.2 h)
  | err k => trivial
  | crash => rw [h] at hp; exact hp

theorem Safe.bind {p : Par α} {f : α → Par β} (hp : Safe p) (hf : ∀ a, Safe (f a)) : Safe (p >>= f) :=
  fun b => Post.bind (hp b) (fun a b1 _ => hf a b1)

/-- `Safe.lift_ne` with the hypothesis as the Boolean test, the form the `*_noCrash` facts about the decoders have -/
theorem Safe.lift (r : Res α) (h : r.isCrash = false) : Safe (Par.lift r) := by
  intro b
  cases r <;> simp_all [Par.lift, Post, Res.isCrash]

theorem Safe.lift_ne (r : Res α) (h : r ≠ .crash) : Safe (Par.lift r) := by
  apply Safe.lift
  cases r with
  | crash => exact absurd rfl h
  | _ => rfl

theorem Safe.run_ne_crash {p : Par α} (hp : Safe p) (data : Bytes) : p.run data ≠ .crash := by
  have := hp (Buf.new data)
  unfold Par.run
  cases h : p (Buf.new data) with
  | ok x => nofun
  | err k => nofun
  | crash => rw [h] at this; exact this.elim

theorem Safe.ite {c : Prop} [Decidable c] {p q : Par α} (hp : Safe p) (hq : Safe q) :
    Safe (if c then p else q) := by
  split <;> assumption

def Progress (p : Par α) : Prop :=
  ∀ b a b', p b = .ok (a, b') → b'.remaining < b.remaining

def NoGrow (p : Par α) : Prop :=
  ∀ b a b', p b = .ok (a, b') → b'.remaining ≤ b.remaining

theorem NoGrow.pure (a : α) : NoGrow (pure a : Par α) := by
  intro b x b' h
  cases h
  exact Nat.le_refl _

theorem NoGrow.bind {p : Par α} {f : α → Par β} (hp : NoGrow p) (hf : ∀ a, NoGrow (f a)) : NoGrow (p >>= f) := by
  intro b y b' h
  obtain ⟨a, b1, h1, h2⟩ := Par.bind_ok_inv h
  exact Nat.le_trans (hf a b1 y b' h2) (hp b a b1 h1)

theorem Progress.noGrow {p : Par α} (hp : Progress p) : NoGrow p :=
  fun b a b' h => Nat.le_of_lt (hp b a b' h)

theorem Progress.bind {p : Par α} {f : α → Par β} (hp : Progress p) (hf : ∀ a, NoGrow (f a)) : Progress (p >>= f) := by
  intro b y b' h
  obtain ⟨a, b1, h1, h2⟩ := Par.bind_ok_inv h
  exact Nat.lt_of_le_of_lt (hf a b1 y b' h2) (hp b a b1 h1)

theorem NoGrow.bind_progress {p : Par α} {f : α → Par β} (hp : NoGrow p) (hf : ∀ a, Progress (f a)) :
    Progress (p >>= f) := by
  intro b y b' h
  obtain ⟨a, b1, h1, h2⟩ := Par.bind_ok_inv h
  exact Nat.lt_of_lt_of_le (hf a b1 y b' h2) (hp b a b1 h1)

theorem safe_whileRemaining (body : σ → Par σ) (hs : ∀ st, Safe (body st)) (hp : ∀ st, Progress (body st)) :
    ∀ fuel st b, b.remaining < fuel → Post b (whileRemaining body fuel st b) := by
  intro fuel
  induction fuel with
  | zero => intro st b h; omega
  | succ n ih =>
    intro st b h
    simp only [whileRemaining]
    split
    · rfl
    · have h1 := hs st b
      cases hb : body st b with
      | ok sb =>
        rw [hb] at h1
        exact Post.of_data h1 (ih sb.1 sb.2 (by have := hp st b sb.1 sb.2 hb; omega))
      | err k => trivial
      | crash => rw [hb] at h1; exact h1

theorem safe_repeatN {item : Par α} (hs : Safe item) : ∀ n, Safe (repeatN item n) := by
  intro n
  induction n with
  | zero => exact Safe.pure _
  | succ n ih =>
    simp only [repeatN]
    exact Safe.bind hs fun _ => Safe.bind ih fun _ => Safe.pure _

end Gd
