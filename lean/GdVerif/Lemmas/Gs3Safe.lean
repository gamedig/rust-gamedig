import GdVerif.Lemmas.GsMap
import GdVerif.Lemmas.QLogic
import GdVerif.Lemmas.Reader
import GdVerif.Proto.Gs3
/-
  Crash-freedom of the GameSpy 3 model: every parser (`Safe`), every pure step (`≠ .crash`), every
  query computation (`QSafe`), and with it the wire conformance of the whole query.

  `Safe2` strengthens `Safe` with "the cursor does not move backwards"; loops whose fuel is
  `remaining + 1` need it for what runs before them.
-/
namespace Gd

def Post2 (b : Buf) : Res (α × Buf) → Prop
  | .crash => False
  | .err _ => True
  | .ok (_, b') => b'.data = b.data ∧ b'.remaining ≤ b.remaining

def Safe2 (p : Par α) : Prop := ∀ b, Post2 b (p b)

/-- `Safe2` is `Safe` together with `NoGrow`: facts about the primitive reads come from those two -/
theorem Safe2.iff {p : Par α} : Safe2 p ↔ Safe p ∧ NoGrow p := by
  constructor
  · intro h
    refine ⟨fun b => ?_, fun b a b' hp => ?_⟩
    · have := h b
      cases hp : p b with
      | ok x => rw [hp] at this; exact this.1
      | err k => trivial
      | crash => rw [hp] at this; exact this
    · have := h b
      rw [hp] at this
      exact this.2
  · intro ⟨hs, hn⟩ b
    have := hs b
    cases hp : p b with
    | ok x => rw [hp] at this; exact ⟨this, hn b x.1 x.2 hp⟩
    | err k => trivial
    | crash => rw [hp] at this; exact this

theorem Safe2.safe {p : Par α} (h : Safe2 p) : Safe p := (Safe2.iff.mp h).1

theorem Safe2.pure (a : α) : Safe2 (pure a : Par α) := fun _ => ⟨rfl, Nat.le_refl _⟩
theorem Safe2.fail (k : ErrKind) : Safe2 (Par.fail k : Par α) := fun _ => trivial

theorem Post2.of_le {b b1 : Buf} {r : Res (α × Buf)} (hd : b1.data = b.data) (hr : b1.remaining ≤ b.remaining)
    (h : Post2 b1 r) : Post2 b r := by
  cases r with
  | ok x => exact ⟨h.1.trans hd, Nat.le_trans h.2 hr⟩
  | err k => trivial
  | crash => exact h

theorem Post2.bind {p : Par α} {f : α → Par β} {b : Buf} (hp : Post2 b (p b))
    (hf : ∀ a b1, p b = .ok (a, b1) → Post2 b1 (f a b1)) : Post2 b ((p >>= f) b) := by
  rw [Par.bind_apply]
  cases h : p b with
  | ok ab =>
    rw [h] at hp
    exact Post2.of_le hp.1 hp.2 (hf ab.1 ab.2 h)
  | err k => trivial
  | crash => rw [h] at hp; exact hp

theorem Safe2.bind {p : Par α} {f : α → Par β} (hp : Safe2 p) (hf : ∀ a, Safe2 (f a)) : Safe2 (p >>= f) :=
  fun b => Post2.bind (hp b) (fun a b1 _ => hf a b1)

theorem Safe2.lift_ne (r : Res α) (h : r ≠ .crash) : Safe2 (Par.lift r) := by
  intro b
  cases r with
  | ok a => exact ⟨rfl, Nat.le_refl _⟩
  | err k => trivial
  | crash => exact absurd rfl h

theorem Safe2.ite {c : Prop} [Decidable c] {p q : Par α} (hp : Safe2 p) (hq : Safe2 q) :
    Safe2 (if c then p else q) := by
  split <;> assumption

theorem safe2_remainingBytes : Safe2 remainingBytes := fun _ => ⟨rfl, Nat.le_refl _⟩
theorem safe2_remainingLength : Safe2 remainingLength := fun _ => ⟨rfl, Nat.le_refl _⟩

theorem Buf.remaining_advance (b : Buf) (n : Nat) : (b.advance n).remaining = b.remaining - n := by
  simp [Buf.remaining, Buf.advance]

theorem safe2_readUnsigned (e : Endian) (w : Nat) : Safe2 (readUnsigned e w) :=
  Safe2.iff.mpr ⟨safe_readUnsigned e w, noGrow_readUnsigned e w⟩

theorem safe2_readU8 : Safe2 readU8 := safe2_readUnsigned _ _

theorem safe2_readCStr : Safe2 readCStr := Safe2.iff.mpr ⟨safe_readCStr, noGrow_readCStr⟩

theorem safe2_moveCursor_nat (n : Nat) : Safe2 (moveCursor (n : Int)) := by
  intro b
  unfold moveCursor
  simp only
  split
  · trivial
  · have : (n : Int) ≥ 0 := by omega
    simp only [this, ↓reduceIte]
    exact ⟨by simp, by rw [Buf.remaining_advance]; omega⟩

theorem safe2_withRem {f : Nat → Par α} (h : ∀ b, Post2 b (f b.remaining b)) : Safe2 (remainingLength >>= f) :=
  fun b => h b

/-- what the loops ask of a round: no crash, the cursor not moved backwards, and moved forward when there
was a byte to read -/
def Round (p : Par α) : Prop :=
  Safe2 p ∧ ∀ b a b', b.remaining ≠ 0 → p b = .ok (a, b') → b'.remaining < b.remaining

/-- every round of the GameSpy 3 loops starts by reading a string -/
theorem Round.readCStr_bind {f : Bytes → Par α} (hf : ∀ s, Safe2 (f s)) : Round (readCStr >>= f) := by
  refine ⟨Safe2.bind safe2_readCStr hf, fun b a b' hb h => ?_⟩
  obtain ⟨s, b1, h1, h2⟩ := Par.bind_ok_inv h
  exact Nat.lt_of_le_of_lt ((Safe2.iff.mp (hf s)).2 b1 a b' h2) (readStrUntil_progress 0 b b1 s h1 fun e => hb (congrArg List.length e))

end Gd

namespace Gd.Gs3
open Gd

theorem safe2_loopBrk (body : σ → Par (σ × Bool)) (hbody : ∀ st, Round (body st)) :
    ∀ fuel st b, b.remaining < fuel → Post2 b (loopBrk body fuel st b) := by
  intro fuel
  induction fuel with
  | zero => intro st b h; omega
  | succ n ih =>
    intro st b h
    simp only [loopBrk]
    split
    · exact ⟨rfl, Nat.le_refl _⟩
    · rename_i hne
      have h1 := (hbody st).1 b
      cases hb : body st b with
      | ok x =>
        obtain ⟨⟨st', go⟩, b'⟩ := x
        rw [hb] at h1
        cases go with
        | false => exact h1
        | true =>
          have h2 := (hbody st).2 b _ b' (by simpa using hne) hb
          exact Post2.of_le h1.1 h1.2 (ih st' b' (by omega))
      | err k => trivial
      | crash => rw [hb] at h1; exact h1

theorem round_kvStep (m : Vars) : Round (kvStep m) := by
  refine Round.readCStr_bind fun key => ?_
  split
  · exact Safe2.pure _
  · exact Safe2.bind safe2_readCStr fun _ => Safe2.pure _

theorem safe2_dataToMapPar : Safe2 dataToMapPar := by
  unfold dataToMapPar
  refine safe2_withRem fun b => ?_
  refine Post2.bind (safe2_loopBrk kvStep round_kvStep _ _ b (by omega)) fun _ _ _ => ?_
  exact (Safe2.bind safe2_remainingBytes fun _ => Safe2.pure _) _

theorem dataToMap_ne (packet : Bytes) : dataToMap packet ≠ .crash :=
  Safe.run_ne_crash safe2_dataToMapPar.safe packet

theorem putItem_ne (data : List Vars) (offset : Nat) (name item : Bytes) : putItem data offset name item ≠ .crash := by
  unfold putItem
  simp only
  split <;> simp

theorem round_itemStep (name : Bytes) (st : List Vars × Nat) : Round (itemStep name st) := by
  refine Round.readCStr_bind fun item => ?_
  split
  · exact Safe2.pure _
  · exact Safe2.bind (Safe2.lift_ne _ (putItem_ne _ _ _ _)) fun _ => Safe2.pure _

theorem safe2_readItems (name : Bytes) (data : List Vars) (offset : Nat) : Safe2 (readItems name data offset) := by
  unfold readItems
  refine safe2_withRem fun b => ?_
  refine Post2.bind (safe2_loopBrk (itemStep name) (round_itemStep name) _ _ b (by omega))
    fun _ _ _ => ?_
  exact Safe2.pure _ _

theorem fieldIsTeam_ne (pieces : List Bytes) : fieldIsTeam pieces ≠ .crash := by
  unfold fieldIsTeam
  split
  · simp
  · split
    · simp
    · split <;> simp

theorem safe2_readField (t : Tables) (pieces : List Bytes) (name : Bytes) : Safe2 (readField t pieces name) := by
  unfold readField
  refine Safe2.bind (Safe2.lift_ne _ (fieldIsTeam_ne _)) fun isTeam => Safe2.bind safe2_readU8 fun offset => ?_
  split
  · exact Safe2.bind (safe2_readItems _ _ _) fun _ => Safe2.pure _
  · exact Safe2.bind (safe2_readItems _ _ _) fun _ => Safe2.pure _

theorem round_skipStep (u : Unit) : Round (skipStep u) :=
  Round.readCStr_bind fun _ => Safe2.pure _

theorem safe2_skipField : Safe2 skipField := by
  unfold skipField
  refine Safe2.bind safe2_readU8 fun _ => ?_
  refine safe2_withRem fun b => ?_
  exact safe2_loopBrk skipStep round_skipStep _ _ b (by omega)

theorem safe2_afterName (t : Tables) (pieces : List Bytes) : Safe2 (afterName t pieces) := by
  unfold afterName
  split
  · exact Safe2.fail _
  · split
    · exact Safe2.bind safe2_skipField fun _ => Safe2.pure _
    · exact safe2_readField _ _ _

theorem round_readSection (t : Tables) : Round (readSection t) := by
  refine Round.readCStr_bind fun field => ?_
  split
  · exact Safe2.pure _
  · exact safe2_afterName t _

/-- the outer loop's round, spelled out: a marker byte is consumed; otherwise the section is read
from the byte that was peeked -/
theorem sectionStep_cons (t : Tables) (b : Buf) (x : UInt8) (r : Bytes) (h : b.rest = x :: r) :
    sectionStep t b = if x.toNat < 3 then .ok (t, b.advance 1) else readSection t b := by
  unfold sectionStep
  have h1 : readU8 b = .ok (x.toNat, b.advance 1) := by
    have hl : 1 ≤ b.remaining := by simp [Buf.remaining, h]
    rw [readU8, readUnsigned_ok hl, h]
    simp [Endian.decode, leNat]
  rw [Par.bind_ok h1]
  split
  · rfl
  · have hp : (b.advance 1).pos = b.pos + 1 := Buf.pos_advance b 1 (by simp [h])
    rw [Par.bind_ok (moveCursor_backward (by omega) (by rw [hp]; omega)),
      show (-(-1 : Int)).toNat = 1 from rfl, Buf.retreat_advance_one b x r h]

theorem sectionStep_nil (t : Tables) (b : Buf) (h : b.rest = []) : sectionStep t b = .err .packetUnderflow := by
  unfold sectionStep
  have h1 : readU8 b = .err .packetUnderflow := by
    rw [readU8, readUnsigned_err]; simp [Buf.remaining, h]
  rw [Par.bind_err h1]

theorem safe_sectionStep (t : Tables) : Safe (sectionStep t) := by
  intro b
  cases hr : b.rest with
  | nil => rw [sectionStep_nil t b hr]; trivial
  | cons x r =>
    rw [sectionStep_cons t b x r hr]
    split
    · simp [Post]
    · exact (round_readSection t).1.safe b

theorem progress_sectionStep (t : Tables) : Progress (sectionStep t) := by
  intro b t' b' h
  cases hr : b.rest with
  | nil => rw [sectionStep_nil t b hr] at h; cases h
  | cons x r =>
    rw [sectionStep_cons t b x r hr] at h
    split at h
    · cases h
      rw [Buf.remaining_advance]
      simp [Buf.remaining, hr]
    · exact (round_readSection t).2 b t' b' (by simp [Buf.remaining, hr]) h

theorem safe_readSections (t : Tables) : Safe (readSections t) := by
  intro b
  exact safe_whileRemaining sectionStep safe_sectionStep progress_sectionStep (b.remaining + 1) t b (by omega)

theorem readAllSections_ne (t : Tables) (ps : List Bytes) : readAllSections t ps ≠ .crash := by
  induction ps generalizing t with
  | nil => simp [readAllSections]
  | cons p r ih =>
    simp only [readAllSections]
    exact Res.bind_ne_crash (Safe.run_ne_crash (safe_readSections t) p) fun t' => ih t'

theorem fieldOf_ne (m : Vars) (k : String) : fieldOf m k ≠ .crash := okOr_ne_crash _ _
theorem parseU_ne (bits : Nat) (v : Bytes) : parseU bits v ≠ .crash := okOr_ne_crash _ _
theorem parseI_ne (bits : Nat) (v : Bytes) : parseI bits v ≠ .crash := okOr_ne_crash _ _

theorem mkPlayer_ne (m : Vars) : mkPlayer m ≠ .crash := by
  unfold mkPlayer
  refine Res.bind_ne_crash (fieldOf_ne _ _) fun _ => Res.bind_ne_crash (Res.bind_ne_crash (fieldOf_ne _ _) (parseI_ne _)) fun _ =>
    Res.bind_ne_crash (Res.bind_ne_crash (fieldOf_ne _ _) (parseU_ne _)) fun _ =>
    Res.bind_ne_crash (Res.bind_ne_crash (fieldOf_ne _ _) (parseU_ne _)) fun _ =>
    Res.bind_ne_crash (Res.bind_ne_crash (fieldOf_ne _ _) (parseU_ne _)) fun _ =>
    Res.bind_ne_crash (Res.bind_ne_crash (fieldOf_ne _ _) (parseU_ne _)) fun _ => by simp

theorem mkTeam_ne (m : Vars) : mkTeam m ≠ .crash := by
  unfold mkTeam
  refine Res.bind_ne_crash (fieldOf_ne _ _) fun _ => Res.bind_ne_crash (Res.bind_ne_crash (fieldOf_ne _ _) (parseI_ne _)) fun _ => by simp

theorem mkRows_ne {mk : Vars → Res α} (hmk : ∀ m, mk m ≠ .crash) (rows : List Vars) : mkRows mk rows ≠ .crash := by
  induction rows with
  | nil => simp [mkRows]
  | cons m r ih =>
    simp only [mkRows]
    split
    · exact ih
    · exact Res.bind_ne_crash (hmk m) fun _ => Res.bind_ne_crash ih fun _ => by simp

theorem parsePlayersAndTeams_ne (ps : List Bytes) : parsePlayersAndTeams ps ≠ .crash := by
  unfold parsePlayersAndTeams
  exact Res.bind_ne_crash (readAllSections_ne _ _) fun _ => Res.bind_ne_crash (mkRows_ne mkPlayer_ne _) fun _ =>
    Res.bind_ne_crash (mkRows_ne mkTeam_ne _) fun _ => by simp

theorem takeReq_ne (vars : Vars) (k : String) : takeReq vars k ≠ .crash := by
  unfold takeReq; split <;> simp

theorem takeMin_ne (vars : Vars) : takeMin vars ≠ .crash := by
  unfold takeMin
  split
  · simp
  · exact Res.bind_ne_crash (parseU_ne _ _) fun _ => by simp

theorem takeOnline_ne (vars : Vars) (n : Nat) : takeOnline vars n ≠ .crash := by
  unfold takeOnline
  split
  · simp
  · exact Res.bind_ne_crash (parseU_ne _ _) fun _ => by simp

theorem passwordValue_ne (v : Bytes) : passwordValue v ≠ .crash := by
  unfold passwordValue
  simp only
  split
  · simp
  · exact Res.bind_ne_crash (parseU_ne _ _) fun _ => by simp

theorem hasPassword_ne (vars : Vars) : hasPassword vars ≠ .crash := by
  unfold hasPassword
  split
  · simp
  · exact Res.bind_ne_crash (passwordValue_ne _) fun _ => by simp

theorem takeTournament_ne (vars : Vars) : takeTournament vars ≠ .crash := by
  unfold takeTournament
  simp only
  split <;> simp

theorem buildFields_ne (vars : Vars) (players : List Player) (teams : List Team) :
    buildFields vars players teams ≠ .crash := by
  unfold buildFields
  exact Res.bind_ne_crash (takeReq_ne _ _) fun ⟨_, _⟩ =>
    Res.bind_ne_crash (parseU_ne _ _) fun _ =>
    Res.bind_ne_crash (takeMin_ne _) fun ⟨_, _⟩ =>
    Res.bind_ne_crash (takeOnline_ne _ _) fun ⟨_, _⟩ =>
    Res.bind_ne_crash (takeReq_ne _ _) fun ⟨_, _⟩ =>
    Res.bind_ne_crash (takeReq_ne _ _) fun ⟨_, _⟩ =>
    Res.bind_ne_crash (hasPassword_ne _) fun ⟨_, _⟩ =>
    Res.bind_ne_crash (takeReq_ne _ _) fun ⟨_, _⟩ =>
    Res.bind_ne_crash (takeReq_ne _ _) fun ⟨_, _⟩ =>
    Res.bind_ne_crash (takeTournament_ne _) fun ⟨_, _⟩ => nofun

theorem buildResponse_ne (packets : List Bytes) : buildResponse packets ≠ .crash := by
  unfold buildResponse
  exact Res.bind_ne_crash (okOr_ne_crash _ _) fun _ => Res.bind_ne_crash (dataToMap_ne _) fun ⟨_, _⟩ =>
    Res.bind_ne_crash (parsePlayersAndTeams_ne _) fun ⟨_, _⟩ => buildFields_ne _ _ _

theorem buildVars_ne (packets : List Bytes) : buildVars packets ≠ .crash := by
  unfold buildVars
  exact Res.bind_ne_crash (okOr_ne_crash _ _) fun _ => Res.bind_ne_crash (dataToMap_ne _) fun ⟨_, _⟩ => nofun

theorem safe_readHeader (kind : Nat) : Safe (readHeader kind) := by
  unfold readHeader
  refine Safe.bind safe_readU8 fun k => ?_
  split
  · exact Safe.fail _
  · refine Safe.bind (safe_readUnsigned _ _) fun sid => ?_
    split
    · exact Safe.fail _
    · exact fun _ => rfl

theorem safe_parseChallenge : Safe parseChallenge := by
  unfold parseChallenge
  exact Safe.bind safe_readCStr fun _ => Safe.bind (Safe.lift _ (by
    cases parseSigned 32 _ <;> rfl)) fun _ => Safe.pure _

theorem safe_readFrag : Safe readFrag := by
  unfold readFrag
  refine Safe.bind safe_readCStr fun tag => ?_
  split
  · exact Safe.fail _
  · exact Safe.bind safe_readU8 fun _ => Safe.bind (safe_moveCursor _) fun _ => Safe.bind (fun _ => rfl) fun _ => Safe.pure _

theorem safe_readSingle : Safe readSingle := by
  unfold readSingle
  exact Safe.bind (safe_moveCursor _) fun _ => fun _ => rfl

theorem length_padTo (v : List Bytes) (id : Nat) : (padTo v id).length = max v.length (id + 1) := by
  simp [padTo]; omega

theorem accept_ne (a : Acc) (f : Frag) : accept a f ≠ .crash := by
  unfold accept
  simp only
  split
  · rename_i h
    have := length_padTo a.values f.id
    simp at h
    omega
  · split <;> simp

theorem finish_ne (a : Acc) : finish a ≠ .crash := by
  unfold finish; split <;> simp

/-- what the GameSpy 3 client may put on the wire: the handshake, or the data request with the
client's payload and possibly a challenge -/
def Allowed (payload data : Bytes) : Prop :=
  data = requestBytes 9 none none ∨ ∃ c : Option Int, data = requestBytes 0 c (some payload)

def EvOk (s : Sock) (payload : Bytes) : Ev → Prop
  | .send c port data _ => c = s.id ∧ port = s.port ∧ Allowed payload data
  | .recv c size _ => c = s.id ∧ (size = some 16 ∨ size = some PACKET_SIZE)
  | .opened _ _ _ _ => False

theorem qsafe_receive (s : Sock) (payload : Bytes) (size : Option Nat) (kind : Nat)
    (hsize : size = some 16 ∨ size = none) : QSafe s (EvOk s payload) (receive s size kind) := by
  unfold receive
  refine QSafe.bind (QSafe.recv s _ _ fun _ => ⟨rfl, ?_⟩) fun _ => QSafe.parse _ _ (safe_readHeader kind) _
  rcases hsize with h | h <;> subst h
  · exact Or.inl rfl
  · exact Or.inr rfl

theorem receive_consumes (s : Sock) (hudp : s.tcp = false) (size : Option Nat) (kind : Nat) (w w' : Net) (d : Bytes)
    (hopen : IsOpen s w) (h : receive s size kind w = (.ok d, w')) : qlen w' s.id < qlen w s.id := by
  unfold receive at h
  rw [Q.bind_apply] at h
  cases hr : recv s (some (size.getD PACKET_SIZE)) w with
  | mk res w1 =>
    rw [hr] at h
    cases res with
    | ok d0 =>
      have h1 := recv_ok_consumes s hudp _ w w1 d0 hopen hr
      simp only [parse, Q.lift, Prod.mk.injEq] at h
      rw [← h.2]
      exact h1
    | err k => cases h
    | crash => cases h

theorem qsafe_handshake (s : Sock) (payload : Bytes) : QSafe s (EvOk s payload) (makeInitialHandshake s) := by
  unfold makeInitialHandshake
  exact QSafe.bind (QSafe.send s _ _ fun _ => ⟨rfl, rfl, Or.inl rfl⟩) fun _ =>
    QSafe.bind (qsafe_receive s payload _ _ (Or.inl rfl)) fun _ => QSafe.parse _ _ safe_parseChallenge _

theorem qsafe_sendDataRequest (s : Sock) (payload : Bytes) (c : Option Int) :
    QSafe s (EvOk s payload) (sendDataRequest s payload c) :=
  QSafe.send s _ _ fun _ => ⟨rfl, rfl, Or.inr ⟨c, rfl⟩⟩

theorem lift_bind_cases {r : Res α} {g : α → Q β} {w : Net} {P : Res β × Net → Prop}
    (hr : r ≠ .crash) (herr : ∀ k, P (.err k, w)) (hok : ∀ a, r = .ok a → P (g a w)) : P ((Q.lift r >>= g) w) := by
  rw [Q.bind_apply]
  cases r with
  | ok a => exact hok a rfl
  | err k => exact herr k
  | crash => exact absurd rfl hr

theorem qsafe_recvPackets (s : Sock) (hudp : s.tcp = false) (payload : Bytes) :
    ∀ (fuel : Nat) (a : Acc) (w : Net), IsOpen s w → qlen w s.id < fuel →
      (recvPackets s fuel a w).1 ≠ .crash ∧ Step (EvOk s payload) w (recvPackets s fuel a w).2 := by
  intro fuel
  induction fuel with
  | zero => intro _ w _ h; omega
  | succ fuel ih =>
    intro a w hopen hq
    unfold recvPackets
    split
    · have hrecv := qsafe_receive s payload none 0 (Or.inr rfl) w hopen
      rw [Q.bind_apply]
      cases hr : receive s none 0 w with
      | mk res w1 =>
        rw [hr] at hrecv
        cases res with
        | crash => exact absurd rfl hrecv.1
        | err k => exact ⟨by simp, hrecv.2⟩
        | ok data =>
          simp only
          have hcons := receive_consumes s hudp none 0 w w1 data hopen hr
          have hopen1 := hopen.step hrecv.2
          refine lift_bind_cases (P := fun x => x.1 ≠ .crash ∧ Step (EvOk s payload) w x.2)
            (Safe.run_ne_crash safe_readFrag data) (fun k => ⟨by simp, hrecv.2⟩) fun f _ => ?_
          refine lift_bind_cases (P := fun x => x.1 ≠ .crash ∧ Step (EvOk s payload) w x.2)
            (accept_ne a f) (fun k => ⟨by simp, hrecv.2⟩) fun a' _ => ?_
          obtain ⟨h3, h4⟩ := ih a' w1 hopen1 (by omega)
          exact ⟨h3, hrecv.2.trans h4⟩
    · exact ⟨finish_ne a, Step.refl _ _⟩

/-- what an attempt does after its two requests: the receive loop, or the one receive of single-packet mode -/
def attemptTail (s : Sock) (single : Bool) : Q (List Bytes) :=
  if single = true then (do
    let data ← receive s none 0
    let rest ← parse readSingle data
    pure [rest])
  else recvAll s

theorem getServerPacketsImpl_eq (s : Sock) (payload : Bytes) (single : Bool) :
    getServerPacketsImpl s payload single
      = makeInitialHandshake s >>= fun ch => sendDataRequest s payload ch >>= fun _ => attemptTail s single := rfl

theorem qsafe_packetsImpl (s : Sock) (hudp : s.tcp = false) (payload : Bytes) (single : Bool) :
    QSafe s (EvOk s payload) (getServerPacketsImpl s payload single) := by
  rw [getServerPacketsImpl_eq]
  refine QSafe.bind (qsafe_handshake s payload) fun c => QSafe.bind (qsafe_sendDataRequest s payload c) fun _ => ?_
  unfold attemptTail
  split
  · exact QSafe.bind (qsafe_receive s payload none 0 (Or.inr rfl)) fun _ =>
      QSafe.bind (QSafe.parse _ _ safe_readSingle _) fun _ => QSafe.pure _ _ _
  · exact fun w hopen => qsafe_recvPackets s hudp payload (queued s w + 1) Acc.init w hopen (by simp [queued, qlen])

theorem qsafe_packets (s : Sock) (hudp : s.tcp = false) (r : Nat) (payload : Bytes) (single : Bool) :
    QSafe s (EvOk s payload) (getServerPackets s r payload single) :=
  QSafe.retry (qsafe_packetsImpl s hudp payload single) r

/-- what a whole query may log: one UDP socket opened to the given port, then `EvOk` events on it -/
def QueryEvOk (port id : Nat) (payload : Bytes) : Ev → Prop
  | .opened c tcp p _ => c = id ∧ tcp = false ∧ p = port
  | e => EvOk ⟨id, port, false⟩ payload e

/-- a query of the shape `open a UDP socket; fetch the packets; pure post-processing` -/
def exchange (port retries : Nat) (payload : Bytes) (single : Bool) (post : List Bytes → Res α) : Q α := do
  let s ← openSock false port
  let packets ← getServerPackets s retries payload single
  Q.lift (post packets)

theorem qsafe_exchange_body (port retries : Nat) (payload : Bytes) (single : Bool) (post : List Bytes → Res α)
    (hpost : ∀ ps, post ps ≠ .crash) (s : Sock) (hport : s.port = port) (hudp : s.tcp = false) :
    QSafe s (QueryEvOk port s.id payload)
      (getServerPackets s retries payload single >>= fun ps => Q.lift (post ps)) := by
  obtain ⟨id, _, _⟩ := s
  subst hport hudp
  refine (QSafe.bind (qsafe_packets _ rfl retries payload single) fun ps => QSafe.lift _ _ _ (hpost ps)).mono fun e he => ?_
  cases e with
  | opened => exact he.elim
  | send => exact he
  | recv => exact he

theorem exchange_safe (port retries : Nat) (payload : Bytes) (single : Bool) (post : List Bytes → Res α)
    (hpost : ∀ ps, post ps ≠ .crash) (w : Net) :
    (exchange port retries payload single post w).1 ≠ .crash
    ∧ ∃ added, (exchange port retries payload single post w).2.log = w.log ++ added
        ∧ ∀ e ∈ added, QueryEvOk port w.conns.length payload e :=
  openThen_safe false port (fun id => QueryEvOk port id payload) (fun _ _ => ⟨rfl, rfl, rfl⟩)
    (qsafe_exchange_body port retries payload single post hpost) w

theorem exchange_run (port retries : Nat) (payload : Bytes) (single : Bool) (post : List Bytes → Res α)
    (hpost : ∀ ps, post ps ≠ .crash) (script : List ConnScript) (faults : List Bool) :
    (exchange port retries payload single post (Net.init script faults)).1 ≠ .crash
    ∧ ∀ e ∈ (exchange port retries payload single post (Net.init script faults)).2.log, QueryEvOk port 0 payload e :=
  openThen_run false port (fun id => QueryEvOk port id payload) (fun _ _ => ⟨rfl, rfl, rfl⟩)
    (qsafe_exchange_body port retries payload single post hpost) script faults

theorem query_eq (port retries : Nat) : query port retries = exchange port retries DEFAULT_PAYLOAD false buildResponse := rfl
theorem queryVars_eq (port retries : Nat) : queryVars port retries = exchange port retries DEFAULT_PAYLOAD false buildVars := rfl

theorem query_safe (port retries : Nat) (w : Net) :
    (query port retries w).1 ≠ .crash
    ∧ ∃ added, (query port retries w).2.log = w.log ++ added
        ∧ ∀ e ∈ added, QueryEvOk port w.conns.length DEFAULT_PAYLOAD e := by
  rw [query_eq]; exact exchange_safe _ _ _ _ _ buildResponse_ne w

theorem queryVars_safe (port retries : Nat) (w : Net) :
    (queryVars port retries w).1 ≠ .crash
    ∧ ∃ added, (queryVars port retries w).2.log = w.log ++ added
        ∧ ∀ e ∈ added, QueryEvOk port w.conns.length DEFAULT_PAYLOAD e := by
  rw [queryVars_eq]; exact exchange_safe _ _ _ _ _ buildVars_ne w

end Gd.Gs3
