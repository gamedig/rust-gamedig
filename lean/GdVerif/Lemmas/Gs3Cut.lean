import GdVerif.Lemmas.Gs3Extra
/-
  GameSpy 3: packets that end inside a value list (`Spec.ConfigC`).  A section without its closing empty
  value at the END of the buffer it is read from does to the tables what the closed section does; hence
  the tables, players, teams and the whole response of a reply whose packets end inside value lists are
  those of the reply with every list closed.
-/
namespace Gd.Gs3
open Gd Gd.Gs3.Spec

/-- `p` decodes ALL that is left of the buffer, `e`, to `x`, and ends AT the end (`b'.rest = []`): what a reader
that looks at the remaining length needs; `DecodesEnd` only says that the buffer's data is unchanged -/
def DecodesAll (p : Par α) (e : Bytes) (x : α) : Prop :=
  ∀ (b : Buf), b.rest = e → ∃ b', p b = .ok (x, b') ∧ b'.rest = []

theorem DecodesAll.bind {p : Par α} {f : α → Par β} {e e1 e2 : Bytes} {x : α} {y : β}
    (h1 : Decodes p e1 x) (h2 : DecodesAll (f x) e2 y) (he : e = e1 ++ e2) : DecodesAll (p >>= f) e y := by
  subst he
  intro b hr
  obtain ⟨b1, hp, hr1, _⟩ := h1 b e2 hr
  obtain ⟨b2, hf, hr2⟩ := h2 b1 hr1
  exact ⟨b2, by rw [Par.bind_ok hp, hf], hr2⟩

theorem DecodesAll.bind_pure {p : Par α} {f : α → Par β} {e : Bytes} {x : α} {y : β}
    (h1 : DecodesAll p e x) (h2 : ∀ b, f x b = .ok (y, b)) : DecodesAll (p >>= f) e y := by
  intro b hr
  obtain ⟨b1, hp, hr1⟩ := h1 b hr
  exact ⟨b1, by rw [Par.bind_ok hp, h2], hr1⟩

theorem loopBrk_stop (body : σ → Par (σ × Bool)) (st : σ) (fuel : Nat) (b : Buf) (h : b.rest = []) :
    loopBrk body (fuel + 1) st b = .ok (st, b) := by
  have h0 : (b.remaining == 0) = true := by simp [Buf.remaining, h]
  simp only [loopBrk, h0, ↓reduceIte]

/-- the values of a section without the closing empty value -/
def encOpenValues (vals : List Bytes) : Bytes := (vals.map cstr).flatten

theorem encValues_open (vals : List Bytes) : encValues vals = encOpenValues vals ++ [0] := rfl

theorem loopBrk_open {body : σ → Par (σ × Bool)} (next : σ → Bytes → σ) (vals : List Bytes)
    (hbody : ∀ st, ∀ v ∈ vals, Decodes (body st) (cstr v) (next st v, true)) :
    ∀ (st : σ) (fuel : Nat), vals.length < fuel →
      DecodesAll (loopBrk body fuel st) (encOpenValues vals) (vals.foldl next st) := by
  induction vals with
  | nil =>
    intro st fuel hf b hr
    obtain ⟨fuel, rfl⟩ := Nat.exists_eq_add_one_of_ne_zero (Nat.ne_zero_of_lt hf)
    exact ⟨b, loopBrk_stop body st fuel b hr, hr⟩
  | cons v r ih =>
    intro st fuel hf b hr
    obtain ⟨fuel, rfl⟩ := Nat.exists_eq_add_one_of_ne_zero (Nat.ne_zero_of_lt hf)
    obtain ⟨b1, hb1, hr1, _⟩ := loopBrk_continue (hbody st v List.mem_cons_self) (List.append_ne_nil_of_right_ne_nil _ (List.cons_ne_nil _ _))
      fuel b (encOpenValues r) hr
    obtain ⟨b2, hb2, hr2⟩ := ih (fun st x hx => hbody st x (List.mem_cons_of_mem v hx)) (next st v) fuel
      (Nat.lt_of_succ_lt_succ hf) b1 hr1
    exact ⟨b2, by rw [hb1, hb2]; rfl, hr2⟩

theorem open_fuel {b : Buf} {vals : List Bytes} (hr : b.rest = encOpenValues vals) : vals.length < b.remaining + 1 := by
  have : vals.length ≤ ((vals.map cstr).flatten).length := length_le_flatten vals cstr (fun p => by simp [cstr])
  simp only [Buf.remaining, hr, encOpenValues]
  omega

theorem foldl_put (name : Bytes) : ∀ (vals : List Bytes) (data : List Vars) (off : Nat),
    vals.foldl (fun (st : List Vars × Nat) v => (put st.1 st.2 name v, st.2 + 1)) (data, off)
      = (putAll name data off vals, off + vals.length)
  | [], _, _ => rfl
  | v :: r, data, off => by
    rw [List.foldl_cons, foldl_put name r, putAll, List.length_cons, Nat.add_assoc, Nat.add_comm 1]

theorem readItems_open (name : Bytes) (vals : List Bytes) (h : ∀ v ∈ vals, okItem v = true)
    (data : List Vars) (off : Nat) :
    DecodesAll (readItems name data off) (encOpenValues vals) (putAll name data off vals) := by
  intro b hr
  unfold readItems
  rw [Par.bind_ok (show remainingLength b = .ok (b.remaining, b) from rfl)]
  obtain ⟨b1, hb1, hr1⟩ := loopBrk_open (fun st v => (put st.1 st.2 name v, st.2 + 1)) vals
    (fun st v hv => itemStep_value name st.1 st.2 v (h v hv)) (data, off) _ (open_fuel hr) b hr
  exact ⟨b1, by rw [Par.bind_ok hb1, foldl_put]; rfl, hr1⟩

theorem readField_open (t : Tables) (name : Bytes) (team : Bool) (off : Nat) (hoff : off < 256)
    (vals : List Bytes) (h : ∀ v ∈ vals, okItem v = true) :
    DecodesAll (readField t [name, if team then [0x74] else []] name) ([UInt8.ofNat off] ++ encOpenValues vals)
      (applyValues t team name off vals) := by
  unfold readField
  have hteam : fieldIsTeam [name, if team then [0x74] else []] = .ok team := by
    cases team
    · rfl
    · have : asciiBytes "t" = [0x74] := by decide
      simp [fieldIsTeam, this]
  rw [hteam]
  refine DecodesAll.bind (e1 := []) (e2 := [UInt8.ofNat off] ++ encOpenValues vals) (Decodes.lift_ok _) ?_ rfl
  refine DecodesAll.bind (decodes_u8 off hoff) ?_ rfl
  cases team
  · simp only [Bool.false_eq_true, ↓reduceIte, applyValues]
    exact DecodesAll.bind_pure (readItems_open name vals h _ _) (fun _ => rfl)
  · simp only [↓reduceIte, applyValues]
    exact DecodesAll.bind_pure (readItems_open name vals h _ _) (fun _ => rfl)

/-- a slice on the wire without its marker bytes and without the closing empty value -/
def encOpenBody (st : State) (sl : Slice) : Bytes :=
  cstr (fieldId sl) ++ ([UInt8.ofNat sl.offset] ++ encOpenValues (sliceValues st sl))

theorem readSection_open (st : State) (t : Tables) (sl : Slice) (h : SliceOk st sl) :
    DecodesAll (readSection t) (encOpenBody st sl) (applySlice st t sl) := by
  obtain ⟨hh, hsplit, hk, hoff⟩ := fieldId_facts st sl h
  unfold readSection encOpenBody
  refine DecodesAll.bind (decodes_readCStr _ hh.noNul hh.utf8) ?_ rfl
  simp only [hh.isEmpty, Bool.false_eq_true, ↓reduceIte, hsplit, afterName, List.head?_cons, hk, Bool.not_true]
  exact readField_open t sl.field sl.team sl.offset hoff _ h.2

theorem skipField_open (off : Nat) (hoff : off < 256) (vals : List Bytes) (h : ∀ v ∈ vals, okItem v = true) :
    DecodesAll skipField ([UInt8.ofNat off] ++ encOpenValues vals) () := by
  unfold skipField
  refine DecodesAll.bind (decodes_u8 off hoff) ?_ rfl
  intro b hr
  rw [Par.bind_ok (show remainingLength b = .ok (b.remaining, b) from rfl)]
  exact loopBrk_open (fun _ _ => ()) vals (fun _ v hv => skipStep_value v (h v hv)) () _ (open_fuel hr) b hr

def encOpenExtraBody (e : Extra) : Bytes := cstr e.name ++ ([UInt8.ofNat e.offset] ++ encOpenValues e.values)

theorem readSection_open_extra (t : Tables) (e : Extra) (h : wfExtra e = true) :
    DecodesAll (readSection t) (encOpenExtraBody e) t := by
  obtain ⟨hh, hk, hoff, hvals⟩ := wfExtra_facts e h
  unfold readSection encOpenExtraBody
  refine DecodesAll.bind (decodes_readCStr _ hh.noNul hh.utf8) ?_ rfl
  have hk' : knownFields.contains (List.takeWhile (fun x => x != 0x5F) e.name) = false := hk
  simp only [hh.isEmpty, Bool.false_eq_true, ↓reduceIte, afterName, head_splitOn, hk', Bool.not_false]
  exact DecodesAll.bind_pure (skipField_open e.offset hoff e.values hvals) (fun _ => rfl)

/-- `Gs3.round_of_decodes` is the same round with a closed section and bytes after it. -/
theorem round_of_decodesAll {ms id : Bytes} (hh : HeadOk ms id) (rest : Bytes) (t t' : Tables)
    (hd : DecodesAll (readSection t) (cstr id ++ rest) t')
    (b : Buf) (fuel : Nat) (hr : b.rest = ms ++ (cstr id ++ rest)) (hf : b.remaining < fuel) :
    ∃ b', whileRemaining sectionStep fuel t b = .ok (t', b') := by
  obtain ⟨x, r, hxr, hx⟩ := hh.first
  obtain ⟨xr, hbody⟩ : ∃ xr, cstr id ++ rest = x :: xr := ⟨_, by rw [hxr]; rfl⟩
  obtain ⟨b1, fuel1, heq1, hr1, hf1⟩ := markers_skip ms hh.markers t b fuel _ hr hf
  have hhead : b1.rest = x :: xr := by rw [hr1, hbody]
  have hlen1 : b1.remaining = xr.length + 1 := by simp [Buf.remaining, hhead]
  cases fuel1 with
  | zero => omega
  | succ fuel1 =>
    have hne : (b1.remaining == 0) = false := by simp [hlen1]
    obtain ⟨b2, hb2, hr2⟩ := hd b1 hr1
    have hstep : sectionStep t b1 = .ok (t', b2) := by
      rw [sectionStep_cons t b1 x _ hhead]
      simp only [hx, ↓reduceIte]
      exact hb2
    cases fuel1 with
    | zero => omega
    | succ fuel2 =>
      have h0 : (b2.remaining == 0) = true := by simp [Buf.remaining, hr2]
      refine ⟨b2, ?_⟩
      rw [heq1]
      simp only [whileRemaining, hne, Bool.false_eq_true, ↓reduceIte, hstep, h0]

theorem open_round (st : State) (s : Section) (hs : SectionOk st s) (t : Tables) (b : Buf) (fuel : Nat)
    (hr : b.rest = encOpen st s) (hf : b.remaining < fuel) :
    ∃ b', whileRemaining sectionStep fuel t b = .ok (applySection st t s, b') := by
  cases s with
  | slice sl =>
    refine round_of_decodesAll (fieldId_facts st sl hs).1 _ t _ (readSection_open st t sl hs) b fuel ?_ hf
    simp [hr, encOpen, encOpenBody, encOpenValues, List.append_assoc]
  | extra e =>
    refine round_of_decodesAll (wfExtra_facts e hs).1 _ t _ (readSection_open_extra t e hs) b fuel ?_ hf
    simp [hr, encOpen, encOpenExtraBody, encOpenValues, List.append_assoc]

theorem sectionsCut_run (st : State) : ∀ (ss : List Section), (∀ s ∈ ss, SectionOk st s) → ∀ (t : Tables) (b : Buf) (fuel : Nat),
    b.rest = encSectionsCut st ss → b.remaining < fuel →
    ∃ b', whileRemaining sectionStep fuel t b = .ok (ss.foldl (applySection st) t, b') := by
  intro ss
  induction ss with
  | nil =>
    intro _ t b fuel hr hf
    cases fuel with
    | zero => omega
    | succ fuel =>
      have : (b.remaining == 0) = true := by simp [Buf.remaining, hr, encSectionsCut]
      exact ⟨b, by simp [whileRemaining, this]⟩
  | cons s r ih =>
    intro hok t b fuel hr hf
    cases r with
    | nil =>
      simp only [encSectionsCut] at hr
      obtain ⟨b1, hb1⟩ := open_round st s (hok s (by simp)) t b fuel hr hf
      exact ⟨b1, by rw [hb1]; rfl⟩
    | cons s' r' =>
      simp only [encSectionsCut] at hr
      obtain ⟨b1, fuel1, heq, hr1, hf1⟩ := section_round st s (hok s (by simp)) t b fuel (encSectionsCut st (s' :: r')) hr hf
      obtain ⟨b2, hb2⟩ := ih (fun x hx => hok x (by simp [hx])) (applySection st t s) b1 fuel1 hr1 hf1
      exact ⟨b2, by rw [heq, hb2]; rfl⟩

theorem readSectionsC_run (st : State) (cut : Bool) (ss : List Section) (h : ∀ s ∈ ss, SectionOk st s) (t : Tables) :
    (readSections t).run (encPacketSections st cut ss) = .ok ((slicesOf ss).foldl (applySlice st) t) := by
  cases cut with
  | false => exact readSectionsX_run st ss h t
  | true =>
    simp only [encPacketSections, ↓reduceIte]
    unfold Par.run readSections
    have hrem : remainingLength (Buf.new (encSectionsCut st ss)) = .ok ((encSectionsCut st ss).length, Buf.new (encSectionsCut st ss)) := rfl
    rw [Par.bind_ok hrem]
    obtain ⟨b', hb'⟩ := sectionsCut_run st ss h t (Buf.new (encSectionsCut st ss)) ((encSectionsCut st ss).length + 1) rfl
      (by simp [Buf.remaining])
    rw [hb', foldl_applySection]

theorem readSections_cut_eq_closed (st : State) (ss : List Section) (h : ∀ s ∈ ss, SectionOk st s) (t : Tables) :
    (readSections t).run (encSectionsCut st ss) = (readSections t).run (encSections st ss) := by
  have h1 := readSectionsC_run st true ss h t
  have h2 := readSectionsC_run st false ss h t
  simp only [encPacketSections, ↓reduceIte, Bool.false_eq_true] at h1 h2
  rw [h1, h2]

theorem readAllSectionsC_run (st : State) (cut : List Bool) : ∀ (layout : List (List Section)) (i : Nat),
    (∀ s ∈ layout.flatten, SectionOk st s) →
    ∀ (t : Tables), readAllSections t (sectionBytesFrom st cut i layout) = .ok ((slicesOf layout.flatten).foldl (applySlice st) t) := by
  intro layout
  induction layout with
  | nil => intro _ _ t; rfl
  | cons ss r ih =>
    intro i h t
    simp only [sectionBytesFrom, readAllSections, List.flatten_cons, slicesOf_append, List.foldl_append]
    rw [readSectionsC_run st _ ss (fun s hs => h s (by simp [hs])) t]
    exact ih (i + 1) (fun s hs => h s (by simp only [List.flatten_cons, List.mem_append]; exact Or.inr hs)) _

theorem wfC_parts (cfg : ConfigC) (st : State) (h : wfC cfg st = true) :
    wfVars st = true ∧ st.players.all wfPlayer = true ∧ st.teams.all wfTeam = true ∧ st.players.length < 2 ^ 32
    ∧ (st.pids.all fun l => l.length == st.players.length && l.all okItem) = true
    ∧ cfg.layout.flatten.all (wfSection st) = true ∧ covered st (slicesOf cfg.layout.flatten) = true
    ∧ cfg.layout.isEmpty = false ∧ (cfg.layout.drop 1).all (fun ss => !ss.isEmpty) = true ∧ cfg.layout.length ≤ 128
    ∧ -(2 ^ 31 : Int) ≤ cfg.challenge ∧ cfg.challenge < 2 ^ 31
    ∧ (dataPacketsC cfg st).all (fun d => d.length ≤ PACKET_SIZE) = true := by
  simpa only [wfC, Bool.and_eq_true, decide_eq_true_eq, Bool.not_eq_true', and_assoc] using h

theorem wfC_layout (cfg : ConfigC) (st : State) (h : wfC cfg st = true) : LayoutOk cfg.closed.base st := by
  obtain ⟨_, hp, ht, _, hpid, hsec, hcov, _⟩ := wfC_parts cfg st h
  exact (layoutOk_of_parts cfg.closed st hp ht hpid hsec hcov).1

theorem wfC_sections (cfg : ConfigC) (st : State) (h : wfC cfg st = true) : ∀ s ∈ cfg.layout.flatten, SectionOk st s := by
  obtain ⟨_, hp, ht, _, hpid, hsec, hcov, _⟩ := wfC_parts cfg st h
  exact (layoutOk_of_parts cfg.closed st hp ht hpid hsec hcov).2

theorem parsePlayersAndTeamsC_spec (cfg : ConfigC) (st : State) (h : wfC cfg st = true) :
    parsePlayersAndTeams (sectionBytesFrom st cfg.cut 0 cfg.layout) = .ok (st.players, st.teams) := by
  refine parsePlayersAndTeams_of_run cfg.closed.base st (wfC_layout cfg st h) _ ?_
  rw [readAllSectionsC_run st cfg.cut cfg.layout 0 (wfC_sections cfg st h) Tables.init]
  have hflat : cfg.closed.base.layout.flatten = slicesOf cfg.layout.flatten := flatten_map_slicesOf cfg.layout
  rw [hflat]

theorem wfC_vars (cfg : ConfigC) (st : State) (h : wfC cfg st = true) : VarsOk st := by
  obtain ⟨hv, _, _, hlisted, _⟩ := wfC_parts cfg st h
  exact varsOk_of st hv hlisted

theorem sectionBytesFrom_length (st : State) (cut : List Bool) : ∀ (layout : List (List Section)) (i : Nat),
    (sectionBytesFrom st cut i layout).length = layout.length := by
  intro layout
  induction layout with
  | nil => intro i; rfl
  | cons ss r ih => intro i; simp [sectionBytesFrom, ih]

theorem payloadsC_eq (cfg : ConfigC) (st : State) (hne : cfg.layout.isEmpty = false) :
    ∃ first rest, sectionBytesFrom st cfg.cut 0 cfg.layout = first :: rest
      ∧ payloadsC cfg st = (encVars st.vars ++ first) :: rest := by
  unfold payloadsC
  cases hl : cfg.layout with
  | nil => rw [hl] at hne; cases hne
  | cons a r => exact ⟨_, _, rfl, rfl⟩

theorem buildResponseC_spec (cfg : ConfigC) (st : State) (h : wfC cfg st = true) :
    buildResponse (payloadsC cfg st) = .ok (expected st) := by
  obtain ⟨_, _, _, _, _, _, _, hne, _⟩ := wfC_parts cfg st h
  obtain ⟨first, rest, hsb, he⟩ := payloadsC_eq cfg st hne
  rw [he]
  exact buildResponse_of st (wfC_vars cfg st h) first rest (hsb ▸ parsePlayersAndTeamsC_spec cfg st h)

theorem buildVarsC_spec (cfg : ConfigC) (st : State) (h : wfC cfg st = true) :
    buildVars (payloadsC cfg st) = .ok st.vars := by
  unfold payloadsC
  cases sectionBytesFrom st cfg.cut 0 cfg.layout with
  | nil => simpa using buildVars_of st (wfC_vars cfg st h) [] []
  | cons first rest => exact buildVars_of st (wfC_vars cfg st h) _ _

theorem payloadsC_ne_nil (cfg : ConfigC) (st : State) : payloadsC cfg st ≠ [] := by
  unfold payloadsC; split <;> simp

theorem payloadsC_length (cfg : ConfigC) (st : State) (hne : cfg.layout.isEmpty = false) :
    (payloadsC cfg st).length = cfg.layout.length := by
  obtain ⟨first, rest, hsb, he⟩ := payloadsC_eq cfg st hne
  rw [he, ← sectionBytesFrom_length st cfg.cut cfg.layout 0, hsb]
  rfl

theorem encOpen_ne_nil (st : State) (s : Section) : encOpen st s ≠ [] := by
  cases s <;> simp [encOpen, cstr]

theorem encPacketSections_ne_nil (st : State) (cut : Bool) (ss : List Section) (h : ss ≠ []) :
    encPacketSections st cut ss ≠ [] := by
  cases ss with
  | nil => exact absurd rfl h
  | cons s r =>
    cases cut with
    | false =>
      simp only [encPacketSections, Bool.false_eq_true, ↓reduceIte, encSections, List.map_cons, List.flatten_cons, ne_eq,
        List.append_eq_nil_iff, not_and]
      intro h0
      exact absurd h0 (encSection_ne_nil st s)
    | true =>
      simp only [encPacketSections, ↓reduceIte]
      cases r with
      | nil => simpa [encSectionsCut] using encOpen_ne_nil st s
      | cons s' r' =>
        simp only [encSectionsCut, ne_eq, List.append_eq_nil_iff, not_and]
        intro h0
        exact absurd h0 (encSection_ne_nil st s)

theorem mem_sectionBytesFrom (st : State) (cut : List Bool) : ∀ (layout : List (List Section)) (i : Nat) (p : Bytes),
    p ∈ sectionBytesFrom st cut i layout → ∃ c ss, ss ∈ layout ∧ p = encPacketSections st c ss := by
  intro layout
  induction layout with
  | nil => intro i p hp; simp [sectionBytesFrom] at hp
  | cons ss r ih =>
    intro i p hp
    simp only [sectionBytesFrom, List.mem_cons] at hp
    rcases hp with rfl | hp
    · exact ⟨_, ss, by simp, rfl⟩
    · obtain ⟨c, ss', hss', hp'⟩ := ih (i + 1) p hp
      exact ⟨c, ss', by simp [hss'], hp'⟩

theorem wfC_wire (cfg : ConfigC) (st : State) (h : wfC cfg st = true) :
    (payloadsC cfg st).length ≤ 128 ∧ (∀ p ∈ payloadsC cfg st, p ≠ []) ∧ (∀ d ∈ dataPacketsC cfg st, d.length ≤ PACKET_SIZE)
    ∧ -(2 ^ 31 : Int) ≤ cfg.challenge ∧ cfg.challenge < 2 ^ 31 := by
  obtain ⟨_, _, _, _, _, _, _, hne, hrest, hlen, hlo, hhi, hsize⟩ := wfC_parts cfg st h
  refine ⟨by rw [payloadsC_length cfg st hne]; exact hlen, ?_,
    fun d hd => of_decide_eq_true (List.all_eq_true.mp hsize d hd), hlo, hhi⟩
  unfold payloadsC
  cases hl : cfg.layout with
  | nil => rw [hl] at hne; cases hne
  | cons first rest =>
    rw [hl, List.drop_succ_cons, List.drop_zero, List.all_eq_true] at hrest
    intro p hp
    rcases List.mem_cons.mp hp with rfl | hp
    · exact List.append_ne_nil_of_left_ne_nil (List.append_ne_nil_of_right_ne_nil _ (List.cons_ne_nil _ _)) _
    · obtain ⟨c, ss, hss, rfl⟩ := mem_sectionBytesFrom st cfg.cut rest _ p hp
      refine encPacketSections_ne_nil st c ss fun h0 => ?_
      subst h0
      exact absurd (hrest [] hss) (by decide)

/-- The whole exchange against the SPEC's server whose packets may end inside value lists: `post` is
applied to the payloads, the client has sent exactly the two requests. -/
theorem exchangeC_spec (cfg : ConfigC) (st : State) (h : wfC cfg st = true) (port r : Nat) {α : Type}
    (post : List Bytes → Res α) (arrival : List Bytes) (harr : arrival.Perm (dataPacketsC cfg st)) :
    (exchange port r DEFAULT_PAYLOAD false post
        (Net.init [.opened ((handshakeReply cfg.challenge :: arrival).map .data)] [])).1 = post (payloadsC cfg st)
    ∧ sentOf (exchange port r DEFAULT_PAYLOAD false post
        (Net.init [.opened ((handshakeReply cfg.challenge :: arrival).map .data)] [])).2.log = requestsC cfg := by
  obtain ⟨hcount, hpay, hsize, hlo, hhi⟩ := wfC_wire cfg st h
  exact exchange_wire cfg.challenge hlo hhi cfg.unknown (payloadsC cfg st) (payloadsC_ne_nil cfg st) hcount hpay hsize
    port r post arrival harr

/-! ### `wfC` extends `wfX`: a reply that closes every value list -/

theorem sectionBytesFrom_nil (st : State) : ∀ (layout : List (List Section)) (i : Nat),
    sectionBytesFrom st [] i layout = layout.map (encSections st) := by
  intro layout
  induction layout with
  | nil => intro i; rfl
  | cons ss r ih => intro i; simp [sectionBytesFrom, encPacketSections, ih]

theorem payloadsC_toC (cfg : ConfigX) (st : State) : payloadsC cfg.toC st = payloadsX cfg st := by
  unfold payloadsC payloadsX ConfigX.toC
  simp only [sectionBytesFrom_nil]
  cases cfg.layout with
  | nil => rfl
  | cons first rest => rfl

theorem wfC_toC (cfg : ConfigX) (st : State) : wfC cfg.toC st = wfX cfg st := by
  have hdp : dataPacketsC cfg.toC st = dataPacketsX cfg st := by
    simp only [dataPacketsC, dataPacketsX, payloadsC_toC]
    rfl
  unfold wfC wfX
  rw [hdp]
  rfl

end Gd.Gs3
