import GdVerif.Lemmas.Reader
/-
  More of the decoding logic: decoding what is all that remains of the packet (`DecodesEnd`), re-association of
  encodings, lists of items.
-/
namespace Gd

/-- `p` decodes the *whole remaining packet* `e` to `x` -/
def DecodesEnd (p : Par α) (e : Bytes) (x : α) : Prop :=
  ∀ (b : Buf), b.rest = e → ∃ b', p b = .ok (x, b') ∧ b'.data = b.data

theorem Decodes.toEnd {p : Par α} {e : Bytes} {x : α} (h : Decodes p e x) : DecodesEnd p e x := by
  intro b hr
  obtain ⟨b', h1, _, h3⟩ := h b [] (by simpa using hr)
  exact ⟨b', h1, h3⟩

theorem DecodesEnd.bind {p : Par α} {f : α → Par β} {e e1 e2 : Bytes} {x : α} {y : β}
    (h1 : Decodes p e1 x) (h2 : DecodesEnd (f x) e2 y) (he : e = e1 ++ e2) : DecodesEnd (p >>= f) e y := by
  subst he
  intro b hr
  obtain ⟨b1, hp, hr1, hd1⟩ := h1 b e2 hr
  obtain ⟨b2, hf, hd2⟩ := h2 b1 hr1
  exact ⟨b2, by rw [Par.bind_ok hp, hf], by rw [hd2, hd1]⟩

theorem DecodesEnd.bind_pure {p : Par α} {f : α → Par β} {e : Bytes} {x : α} {y : β}
    (h1 : DecodesEnd p e x) (h2 : ∀ b, f x b = .ok (y, b)) : DecodesEnd (p >>= f) e y := by
  intro b hr
  obtain ⟨b1, hp, hd1⟩ := h1 b hr
  exact ⟨b1, by rw [Par.bind_ok hp, h2], hd1⟩

theorem decodesEnd_remainingBytes (e : Bytes) : DecodesEnd remainingBytes e e :=
  fun b hr => ⟨b, hr ▸ rfl, rfl⟩

theorem DecodesEnd.run {p : Par α} {e : Bytes} {x : α} (h : DecodesEnd p e x) : p.run e = .ok x := by
  obtain ⟨b', hp, _⟩ := h (Buf.new e) rfl
  simp [Par.run, hp]

theorem DecodesEnd.at {p : Par α} {e : Bytes} {x : α} {b b1 : Buf} (h : DecodesEnd p e x) (hr : b1.rest = e)
    (hd : b1.data = b.data) : ∃ b', p b1 = .ok (x, b') ∧ b'.data = b.data := by
  obtain ⟨b', hp, hd'⟩ := h b1 hr
  exact ⟨b', hp, hd'.trans hd⟩

/-- Re-association at the head only: `repeat with_reducible refine Decodes.assoc ?_` turns a left-nested encoding
into the right-nested one the parser walks through (reducible, so that a head `cstr s` is not taken apart). -/
theorem Decodes.assoc {p : Par α} {a b c : Bytes} {x : α} (h : Decodes p (a ++ (b ++ c)) x) :
    Decodes p (a ++ b ++ c) x := by
  rwa [List.append_assoc]

theorem DecodesEnd.assoc {p : Par α} {a b c : Bytes} {x : α} (h : DecodesEnd p (a ++ (b ++ c)) x) :
    DecodesEnd p (a ++ b ++ c) x := by
  rwa [List.append_assoc]

theorem Decodes.bind_last {p : Par α} {f : α → Par β} {e : Bytes} {x : α} {y : β}
    (h1 : Decodes p e x) (h2 : Decodes (f x) [] y) : Decodes (p >>= f) e y :=
  Decodes.bind' h1 h2 (List.append_nil e).symm

theorem Decodes.lift_ok (v : α) : Decodes (Par.lift (.ok v)) [] v := Decodes.pure v

theorem Decodes.of_eq {p : Par α} {e e' : Bytes} {x x' : α} (h : Decodes p e x) (he : e' = e) (hx : x' = x) :
    Decodes p e' x' := by subst he; subst hx; exact h

theorem decodes_repeatN {item : Par α} (enc : α → Bytes) (xs : List α)
    (h : ∀ x ∈ xs, Decodes item (enc x) x) : Decodes (repeatN item xs.length) (xs.map enc).flatten xs := by
  induction xs with
  | nil => exact Decodes.pure _
  | cons x r ih =>
    simp only [List.length_cons, repeatN, List.map_cons, List.flatten_cons]
    refine Decodes.bind (h x (by simp)) ?_
    refine Decodes.bind' (e1 := (r.map enc).flatten) (e2 := []) (ih fun y hy => h y (by simp [hy])) (Decodes.pure _) (by simp)

/-- the fuel only has to exceed the bytes left: every entry is at least one byte -/
theorem whileRemaining_decodes {σ α : Type} (body : σ → Par σ) (enc : α → Bytes) (f : σ → α → σ) (xs : List α)
    (hne : ∀ x ∈ xs, enc x ≠ []) (hdec : ∀ st, ∀ x ∈ xs, Decodes (body st) (enc x) (f st x)) :
    ∀ (fuel : Nat) (st : σ) (b : Buf), b.rest = (xs.map enc).flatten → b.remaining < fuel →
      ∃ b', whileRemaining body fuel st b = .ok (xs.foldl f st, b') ∧ b'.data = b.data := by
  induction xs with
  | nil =>
    intro fuel st b hr hf
    cases fuel with
    | zero => exact absurd hf (Nat.not_lt_zero _)
    | succ k => exact ⟨b, by simp [whileRemaining, Buf.remaining, hr], rfl⟩
  | cons x r ih =>
    intro fuel st b hr hf
    cases fuel with
    | zero => exact absurd hf (Nat.not_lt_zero _)
    | succ k =>
      rw [List.map_cons, List.flatten_cons] at hr
      have hpos : 0 < (enc x).length := List.length_pos_iff.mpr (hne x (List.mem_cons_self ..))
      obtain ⟨b1, hb, hr1, hd1⟩ := hdec st x (List.mem_cons_self ..) b _ hr
      have hrem : b.remaining = (enc x).length + b1.remaining := by
        simp only [Buf.remaining, hr, hr1, List.length_append]
      obtain ⟨b2, hw, hd2⟩ := ih (fun y hy => hne y (List.mem_cons_of_mem _ hy))
        (fun st y hy => hdec st y (List.mem_cons_of_mem _ hy)) k (f st x) b1 hr1 (by omega)
      have hne0 : (b.remaining == 0) = false := beq_eq_false_iff_ne.mpr (by omega)
      refine ⟨b2, ?_, by rw [hd2, hd1]⟩
      simp only [whileRemaining, hne0, Bool.false_eq_true, ↓reduceIte, hb, List.foldl_cons]
      exact hw

/-- the loop with the fuel the parsers give it, on a datagram body that is entries to its end -/
theorem whileRemaining_decodesEnd {σ α : Type} (body : σ → Par σ) (enc : α → Bytes) (f : σ → α → σ) (xs : List α)
    (hne : ∀ x ∈ xs, enc x ≠ []) (hdec : ∀ st, ∀ x ∈ xs, Decodes (body st) (enc x) (f st x)) (st : σ) :
    DecodesEnd (fun b => whileRemaining body (b.remaining + 1) st b) (xs.map enc).flatten (xs.foldl f st) :=
  fun b hr => whileRemaining_decodes body enc f xs hne hdec (b.remaining + 1) st b hr (Nat.lt_succ_self _)

end Gd
