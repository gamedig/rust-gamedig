import GdVerif.Lemmas.Gs1Response
import GdVerif.Lemmas.QSteps
import GdVerif.Lemmas.QFlags
import GdVerif.Spec.Gs1Faults
/-
  The whole GameSpy 1 query with faults injected (C10 end to end), in the logic `Steps` of `Lemmas/QSteps.lean`.
  The retried unit is `get_server_values_impl`: the request, then the receive loop over the parts.

  `runOn` is the receive loop as a function of the queue (outcome, what is left of the queue); `steps_recvLoop` says the
  model's loop IS that function, for every queue; the rest is pure reasoning about `runOn` with the part-by-part lemmas
  of `Lemmas/Gs1.lean` (`step_new`, `Inv.done_iff`).

  The query on a script without faults, parts in any order (C04, C08), is the last section: the plan without failures.
-/
namespace Gd.Gs1
open Gd Gd.Gs Gd.Gs1.Spec Gd.Faults

/-- the `while` loop on a queue: its outcome and what it leaves queued.  It stops at the first silence (or at the end of
the queue) with the receive error, at the first rejected datagram with that error, and — without looking at the queue —
as soon as all parts are there. -/
def runOn : LoopSt → List Delivery → Res (Map Bytes) × List Delivery
  | st, [] => (if st.done then .ok (canon st.vals) else .err .packetReceive, [])
  | st, .silence :: q => if st.done then (.ok (canon st.vals), .silence :: q) else (.err .packetReceive, q)
  | st, .data d :: q =>
    if st.done then (.ok (canon st.vals), .data d :: q)
    else match processPacket st (d.take PACKET_SIZE) with
      | .ok st' => runOn st' q
      | .err k => (.err k, q)
      | .crash => (.crash, q)

theorem runOn_done {st : LoopSt} (h : st.done = true) (q : List Delivery) : runOn st q = (.ok (canon st.vals), q) := by
  cases q with
  | nil => simp [runOn, h]
  | cons d q => cases d <;> simp [runOn, h]

theorem steps_recvLoop (s : Sock) (hudp : s.tcp = false) (fs : List Bool) (sn : List (Bytes × Bool)) :
    ∀ (q : List Delivery) (fuel : Nat) (st : LoopSt), q.length < fuel →
      Steps s (recvLoop s fuel st) (runOn st q).1 ⟨q, fs, sn⟩ ⟨(runOn st q).2, fs, sn⟩ := by
  intro q
  induction q with
  | nil =>
    intro fuel st hf
    cases fuel with
    | zero => omega
    | succ f =>
      unfold recvLoop
      cases hd : st.done with
      | true => simpa [runOn, hd] using Steps.pure s (canon st.vals) ⟨[], fs, sn⟩
      | false =>
        simp only [Bool.false_eq_true, ↓reduceIte, runOn, hd]
        exact Steps.bind_err (steps_recv_empty s hudp _ fs sn)
  | cons d q ih =>
    intro fuel st hf
    cases fuel with
    | zero => omega
    | succ f =>
      unfold recvLoop
      cases hd : st.done with
      | true =>
        rw [runOn_done hd]
        simpa using Steps.pure s (canon st.vals) ⟨d :: q, fs, sn⟩
      | false =>
        cases d with
        | silence =>
          simp only [Bool.false_eq_true, ↓reduceIte, runOn, hd]
          exact Steps.bind_err (steps_recv_silence s _ q fs sn)
        | data d =>
          simp only [Bool.false_eq_true, ↓reduceIte, runOn, hd]
          refine Steps.bind (steps_recv_take s hudp PACKET_SIZE d q fs sn) ?_
          cases hp : processPacket st (d.take PACKET_SIZE) with
          | ok st' =>
            exact Steps.bind (Steps.lift s _ _) (ih f st' (by simpa using hf))
          | err k => exact Steps.bind_err (Steps.lift s _ _)
          | crash => exact Steps.bind_crash (Steps.lift s _ _)

theorem steps_attempt (s : Sock) (hudp : s.tcp = false) (q : List Delivery) (fs : List Bool)
    (sn : List (Bytes × Bool)) :
    Steps s (getServerValuesImpl s) (runOn LoopSt.init q).1 ⟨q, false :: fs, sn⟩
      ⟨(runOn LoopSt.init q).2, fs, sn ++ [(statusRequest, false)]⟩ := by
  refine Steps.congr (f := send s statusRequest >>= fun _ => fun w => recvLoop s (queued s w + 1) LoopSt.init w) ?_ rfl
  refine Steps.bind (steps_send_ok s _ q fs sn) ?_
  exact Steps.fuelled (g := fun n => recvLoop s n LoopSt.init)
    (fun n hn => steps_recvLoop s hudp fs _ q n LoopSt.init hn)

theorem steps_attempt_fault (s : Sock) (q : List Delivery) (fs : List Bool) (sn : List (Bytes × Bool)) :
    Steps s (getServerValuesImpl s) (.err .packetSend) ⟨q, true :: fs, sn⟩ ⟨q, fs, sn ++ [(statusRequest, true)]⟩ := by
  refine Steps.congr (f := send s statusRequest >>= fun _ => fun w => recvLoop s (queued s w + 1) LoopSt.init w) ?_ rfl
  exact Steps.bind_err (steps_send_fault s _ q fs sn)

def dataN (y : Style) (total : Nat) (a : NPart) : Delivery := .data (encN y total a)

theorem runOn_parts {y : Style} {P : List NPart} (hP : PartsOk y P) (hne : P ≠ [])
    (hsz : ∀ a ∈ P, (encN y P.length a).length ≤ PACKET_SIZE) (tail : List Delivery) :
    ∀ (rest seen : List NPart) (st : LoopSt) (more : List NPart), Inv y P seen st → (seen ++ rest ++ more).Perm P →
      ∃ st', Inv y P (seen ++ rest) st' ∧ runOn st (rest.map (dataN y P.length) ++ tail) = runOn st' tail := by
  intro rest
  induction rest with
  | nil =>
    intro seen st more hinv _
    exact ⟨st, by simpa using hinv, rfl⟩
  | cons a r ih =>
    intro seen st more hinv hp
    have haP : a ∈ P := hp.mem_iff.mp (by simp)
    have hnd : ((seen ++ a :: r ++ more).map (·.1)).Nodup := by
      have : (P.map (·.1)).Nodup := by rw [hP.nums]; exact List.nodup_range'
      exact (hp.map _).nodup_iff.mpr this
    have hnew : a.1 ∉ seen.map (·.1) := by
      rw [List.append_assoc, List.map_append, List.nodup_append] at hnd
      intro hx
      exact hnd.2.2 _ hx _ (by simp) rfl
    have hnotdone : st.done = false := by
      have h2 := hp.length_eq
      simp only [List.length_append, List.length_cons] at h2
      exact hinv.not_done hP hne (by omega)
    obtain ⟨st', hst, hinv'⟩ := step_new hP hinv haP hnew
    have htake : (encN y P.length a).take PACKET_SIZE = encN y P.length a :=
      List.take_of_length_le (hsz a haP)
    obtain ⟨st'', hinv'', hrun⟩ := ih (seen ++ [a]) st' more hinv' (by simpa using hp)
    refine ⟨st'', by simpa using hinv'', ?_⟩
    simp only [List.map_cons, List.cons_append, dataN, runOn, hnotdone, Bool.false_eq_true, ↓reduceIte, htake, hst]
    exact hrun

theorem runOn_complete {y : Style} {P : List NPart} (hP : PartsOk y P) (hne : P ≠ [])
    (hsz : ∀ a ∈ P, (encN y P.length a).length ≤ PACKET_SIZE) (arr : List NPart) (hp : arr.Perm P) (q : List Delivery) :
    runOn LoopSt.init (arr.map (dataN y P.length) ++ q) = (.ok (canon (allOf P)), q) := by
  obtain ⟨st', hinv, hrun⟩ := runOn_parts hP hne hsz q arr [] LoopSt.init [] (Inv.init y P) (by simpa using hp)
  rw [hrun]
  simp only [List.nil_append] at hinv
  have hd := (hinv.done_iff hP hne).mpr hp
  rw [runOn_done hd, hinv.vals]
  exact congrArg (fun m => (Res.ok m, q)) (canon_perm hP.distinct_all (hp.flatMap_right _))

theorem runOn_incomplete {y : Style} {P : List NPart} (hP : PartsOk y P) (hne : P ≠ [])
    (hsz : ∀ a ∈ P, (encN y P.length a).length ≤ PACKET_SIZE) (got more : List NPart) (hp : (got ++ more).Perm P)
    (hmore : more ≠ []) (tail : List Delivery) :
    ∃ st', st'.done = false ∧ runOn LoopSt.init (got.map (dataN y P.length) ++ tail) = runOn st' tail := by
  obtain ⟨st', hinv, hrun⟩ := runOn_parts hP hne hsz tail got [] LoopSt.init more (Inv.init y P) (by simpa using hp)
  refine ⟨st', ?_, hrun⟩
  simp only [List.nil_append] at hinv
  have h2 := hp.length_eq
  have : 0 < more.length := List.length_pos_iff.mpr hmore
  simp only [List.length_append] at h2
  exact hinv.not_done hP hne (by omega)

theorem take_findByte (m : Bytes) : m.take (findByte 0 m) = textOf m := Gd.take_findByte 0 m

theorem processPacket_malformed (st : LoopSt) (m : Bytes) (h : malformed m = true) :
    processPacket st m = .err .packetBad := by
  unfold processPacket Par.run readCStr readStringWith utf8Dec
  simp only [Buf.new, take_findByte]
  unfold malformed at h
  cases hv : validUtf8 (textOf m) with
  | false => simp
  | true =>
    have he : (textOf m).isEmpty = true := by simpa [hv] using h
    simp [he]

theorem selects_parts {y : Style} {st : State} (got : List Bytes) (h : selects got (script y st) = true) :
    ∃ gotP moreP : List NPart, moreP ≠ [] ∧ (gotP ++ moreP).Perm (partsOf y st)
      ∧ got.map Delivery.data = gotP.map (dataN y (partsOf y st).length) := by
  obtain ⟨more, hne, hp⟩ := selects_perm got _ h
  rw [script_eq] at hp
  obtain ⟨P', hperm, e⟩ := perm_map_inv _ hp
  refine ⟨P'.take got.length, P'.drop got.length, ?_, by rw [List.take_append_drop]; exact hperm, ?_⟩
  · intro hd
    have hl := congrArg List.length e
    have : P'.length ≤ got.length := by simpa using List.drop_eq_nil_iff.mp hd
    have : 0 < more.length := List.length_pos_iff.mpr hne
    simp only [List.length_append, List.length_map] at hl
    omega
  · have := congrArg (List.take got.length) e
    rw [List.take_left' rfl, ← List.map_take] at this
    calc got.map Delivery.data
        = ((P'.take got.length).map (encN y (partsOf y st).length)).map Delivery.data := by rw [← this]
      _ = (P'.take got.length).map (dataN y (partsOf y st).length) := by rw [List.map_map]; rfl

theorem Attempt.error_timeout (a : Attempt) : a.error.isTimeout = true := attemptError_timeout _

theorem request_eq : statusRequest = request := statusRequest_eq

theorem steps_attempt_fail (s : Sock) (hudp : s.tcp = false) {y : Style} {st : State} (hW : Wf y st) (a : Attempt)
    (ha : a.wf (script y st) = true) (q : List Delivery) (fs : List Bool) (sn : List (Bytes × Bool)) :
    Steps s (getServerValuesImpl s) (.err a.error) ⟨a.deliveries ++ q, a.faults ++ fs, sn⟩ ⟨q, fs, sn ++ a.sends⟩ := by
  cases a with
  | noSend =>
    simpa [Attempt.deliveries, Attempt.faults, Attempt.sends, Attempt.sendFault, Attempt.error, attemptError,
      request_eq] using steps_attempt_fault s q fs sn
  | lost got =>
    have hP := partsOk_partsOf hW
    have hsz := partsOf_size hW
    obtain ⟨gotP, moreP, hne, hp, e⟩ := selects_parts got ha
    obtain ⟨st', hnd, hrun⟩ := runOn_incomplete hP (partsOf_ne_nil y st) hsz gotP moreP hp hne (.silence :: q)
    have h := steps_attempt s hudp ((Attempt.lost got).deliveries ++ q) fs sn
    have hq : (Attempt.lost got).deliveries ++ q = gotP.map (dataN y (partsOf y st).length) ++ .silence :: q := by
      simp [Attempt.deliveries, e]
    rw [hq, hrun] at h
    simp only [runOn, hnd, Bool.false_eq_true, ↓reduceIte] at h
    rw [← hq] at h
    simpa [Attempt.faults, Attempt.sends, Attempt.sendFault, Attempt.error, attemptError, request_eq] using h

theorem steps_attempt_valid (s : Sock) (hudp : s.tcp = false) {y : Style} {st : State} (hW : Wf y st)
    (arrival : List Bytes) (harr : arrival.Perm (script y st)) (q : List Delivery) (fs : List Bool)
    (sn : List (Bytes × Bool)) :
    Steps s (getServerValuesImpl s) (.ok (expectedVars y st)) ⟨arrival.map .data ++ q, false :: fs, sn⟩
      ⟨q, fs, sn ++ [(request, false)]⟩ := by
  have hP := partsOk_partsOf hW
  have hsz := partsOf_size hW
  rw [script_eq] at harr
  obtain ⟨arrP, hperm, rfl⟩ := perm_map_inv _ harr
  have h := steps_attempt s hudp ((arrP.map (encN y (partsOf y st).length)).map .data ++ q) fs sn
  have hq : (arrP.map (encN y (partsOf y st).length)).map Delivery.data = arrP.map (dataN y (partsOf y st).length) := by
    rw [List.map_map]; rfl
  rw [hq, runOn_complete hP (partsOf_ne_nil y st) hsz arrP hperm q, allOf_partsOf] at h
  rw [hq]
  simpa [request_eq, expectedVars] using h

theorem steps_attempt_malformed (s : Sock) (hudp : s.tcp = false) {y : Style} {st : State} (hW : Wf y st)
    (got : List Bytes) (m : Bytes) (hgot : selects got (script y st) = true) (hm : malformed m = true)
    (hl : m.length ≤ PACKET_SIZE) (q : List Delivery) (fs : List Bool) (sn : List (Bytes × Bool)) :
    Steps s (getServerValuesImpl s) (.err .packetBad) ⟨(got.map .data ++ [.data m]) ++ q, false :: fs, sn⟩
      ⟨q, fs, sn ++ [(request, false)]⟩ := by
  have hP := partsOk_partsOf hW
  have hsz := partsOf_size hW
  obtain ⟨gotP, moreP, hne, hp, e⟩ := selects_parts got hgot
  obtain ⟨st', hnd, hrun⟩ := runOn_incomplete hP (partsOf_ne_nil y st) hsz gotP moreP hp hne (.data m :: q)
  have h := steps_attempt s hudp ((got.map .data ++ [.data m]) ++ q) fs sn
  have hq : (got.map Delivery.data ++ [.data m]) ++ q = gotP.map (dataN y (partsOf y st).length) ++ .data m :: q := by
    simp [e]
  rw [hq, hrun] at h
  have htake : m.take PACKET_SIZE = m := List.take_of_length_le hl
  simp only [runOn, hnd, Bool.false_eq_true, ↓reduceIte, htake, processPacket_malformed st' m hm] at h
  rw [← hq] at h
  simpa [request_eq] using h

/-- the retried unit on the script of a plan: the outcome C10 prescribes, exactly the plan's deliveries and flags
consumed, exactly its requests sent -/
theorem steps_unit (s : Sock) (hudp : s.tcp = false) {y : Style} {st : State} (hW : Wf y st) (retries : Nat)
    (arrival : List Bytes) (harr : arrival.Perm (script y st)) (plan : Plan)
    (hplan : wfPlan retries (script y st) plan = true) (q : List Delivery) (fs : List Bool) (sn : List (Bytes × Bool)) :
    Steps s (retryOnTimeout retries (getServerValuesImpl s)) (outcome (expectedVars y st) plan)
      ⟨faultyScript plan arrival ++ q, faultyFaults plan ++ fs, sn⟩ ⟨q, fs, sn ++ faultySends plan⟩ := by
  obtain ⟨fails, ending⟩ := plan
  simp only [wfPlan, Bool.and_eq_true, List.all_eq_true] at hplan
  obtain ⟨hfails, hend⟩ := hplan
  have hstep : ∀ a : Attempt, a.wf (script y st) = true → ∀ q fs sn,
      Steps s (getServerValuesImpl s) (.err a.error) ⟨a.deliveries ++ q, a.faults ++ fs, sn⟩ ⟨q, fs, sn ++ a.sends⟩ :=
    fun a ha q fs sn => steps_attempt_fail s hudp hW a ha q fs sn
  cases ending with
  | valid =>
    simp only [decide_eq_true_eq] at hend
    have h := Steps.retry_recovers_of (f := getServerValuesImpl s) (fun a => a.wf (script y st) = true)
      Attempt.deliveries Attempt.faults Attempt.sends Attempt.error Attempt.error_timeout hstep
      (R := .ok (expectedVars y st)) (fun k hk => by cases hk) (arrival.map .data ++ q) q ([false] ++ fs) fs
      [(request, false)] (fun sn => steps_attempt_valid s hudp hW arrival harr q fs sn) fails retries sn hfails hend
    simpa [faultyScript, faultyFaults, faultySends, Ending.deliveries, Ending.faults, Ending.sends, outcome,
      List.append_assoc] using h
  | gaveUp =>
    simp only [beq_iff_eq] at hend
    have h := Steps.retry_exhausted_of (f := getServerValuesImpl s) (fun a => a.wf (script y st) = true)
      Attempt.deliveries Attempt.faults Attempt.sends Attempt.error Attempt.error_timeout hstep q fs retries fails sn
      hfails hend
    simpa [faultyScript, faultyFaults, faultySends, Ending.deliveries, Ending.faults, Ending.sends, outcome] using h
  | malformed got m =>
    simp only [Bool.and_eq_true, decide_eq_true_eq] at hend
    obtain ⟨⟨⟨hk, hgot⟩, hm⟩, hl⟩ := hend
    have h := Steps.retry_recovers_of (f := getServerValuesImpl s) (fun a => a.wf (script y st) = true)
      Attempt.deliveries Attempt.faults Attempt.sends Attempt.error Attempt.error_timeout hstep
      (R := .err .packetBad) (fun k hk => by cases hk; rfl) ((got.map .data ++ [.data m]) ++ q) q ([false] ++ fs) fs
      [(request, false)] (fun sn => steps_attempt_malformed s hudp hW got m hgot hm hl q fs sn) fails retries sn
      hfails hk
    simpa [faultyScript, faultyFaults, faultySends, Ending.deliveries, Ending.faults, Ending.sends, outcome,
      List.append_assoc] using h

theorem queryVars_faulty {y : Style} {st : State} (hW : Wf y st) (port retries : Nat) (arrival : List Bytes)
    (harr : arrival.Perm (script y st)) (plan : Plan) (hplan : wfPlan retries (script y st) plan = true)
    (restQ : List Delivery) (restF : List Bool) :
    (queryVars port retries (Net.init [.opened (faultyScript plan arrival ++ restQ)] (faultyFaults plan ++ restF))).1
      = faultyVars y st plan
    ∧ sentOf (queryVars port retries
        (Net.init [.opened (faultyScript plan arrival ++ restQ)] (faultyFaults plan ++ restF))).2.log
      = faultySends plan := by
  have h := openUdp_outcome port (fun s => retryOnTimeout retries (getServerValuesImpl s)) _ _ _ _
    (steps_unit ⟨0, port, false⟩ rfl hW retries arrival harr plan hplan restQ restF [])
  exact h

/-- `query` does no I/O after `query_vars` -/
theorem query_snd (port retries : Nat) (w : Net) : (query port retries w).2 = (queryVars port retries w).2 := by
  unfold query
  rw [Q.bind_apply]
  cases hq : queryVars port retries w with
  | mk res w' => cases res <;> rfl

theorem query_faulty {y : Style} {st : State} (hW : Wf y st) (port retries : Nat) (arrival : List Bytes)
    (harr : arrival.Perm (script y st)) (plan : Plan) (hplan : wfPlan retries (script y st) plan = true)
    (restQ : List Delivery) (restF : List Bool) :
    (query port retries (Net.init [.opened (faultyScript plan arrival ++ restQ)] (faultyFaults plan ++ restF))).1
      = faultyExpected st plan
    ∧ sentOf (query port retries
        (Net.init [.opened (faultyScript plan arrival ++ restQ)] (faultyFaults plan ++ restF))).2.log
      = faultySends plan := by
  obtain ⟨h1, h2⟩ := queryVars_faulty hW port retries arrival harr plan hplan restQ restF
  rw [query_snd, query_fst, h1]
  refine ⟨?_, h2⟩
  unfold faultyVars faultyExpected outcome
  cases plan.ending with
  | valid => simpa [expectedVars] using buildResponse_canon hW
  | gaveUp => rfl
  | malformed got m => rfl

theorem faultySends_eq (plan : Plan) :
    faultySends plan = plan.fails.map (fun a => (request, a.sendFault)) ++ plan.ending.sends := by
  unfold faultySends
  rw [show plan.fails.flatMap Attempt.sends = plan.fails.map (fun a => (request, a.sendFault)) from
    flatMap_singleton _ _]

theorem faultySends_length (plan : Plan) : (faultySends plan).length = plan.attempts := by
  rw [faultySends_eq]
  cases h : plan.ending <;> simp [Plan.attempts, Ending.sends, h]

theorem lastError_class (fails : List Attempt) (h : fails ≠ []) :
    lastError Attempt.error fails = .packetReceive ∨ lastError Attempt.error fails = .packetSend :=
  lastError_recv_or_send _ (fun a => attemptError_class a.sendFault) fails

/-! ### the query without faults: the plan without failures

`query_vars` cannot tell flags that are all `false` from no flags (`FlagBlind`), so its result on a script without
flags is the one `queryVars_faulty` gives for the plan that has no failed attempt and ends with the valid reply. -/

theorem flagBlind_recvLoop (s : Sock) : ∀ (fuel : Nat) (st : LoopSt), FlagBlind (recvLoop s fuel st)
  | 0, _ => fun _ h => ⟨rfl, h⟩
  | fuel + 1, st => by
    unfold recvLoop
    exact FlagBlind.ite (FlagBlind.pure _) (FlagBlind.bind (FlagBlind.recv _ _) fun _ =>
      FlagBlind.bind (FlagBlind.lift _) fun st' => flagBlind_recvLoop s fuel st')

theorem flagBlind_queryVars (port retries : Nat) : FlagBlind (queryVars port retries) := by
  unfold queryVars
  refine FlagBlind.bind (FlagBlind.openSock _ _) fun s =>
    FlagBlind.retry (FlagBlind.bind (FlagBlind.send _ _) fun _ => ?_) retries
  exact FlagBlind.fuelled (s := s) fun n => flagBlind_recvLoop s n LoopSt.init

theorem queryVars_any_order {y : Style} {st : State} (h : Wf y st) (port retries : Nat) (arr : List Bytes)
    (hp : arr.Perm (script y st)) :
    (queryVars port retries (Net.init (scriptOf arr) [])).1 = .ok (canon (allPairs y st)) := by
  have hf := (queryVars_faulty h port retries arr hp ⟨[], .valid⟩ (by simp [wfPlan]) [] []).1
  simp only [List.append_nil] at hf
  exact ((flagBlind_queryVars port retries).init _ [false] (by simp)).1.trans hf

theorem query_perm_expected {y : Style} {st : State} (h : Wf y st) (port retries : Nat) (arr : List Bytes)
    (hp : arr.Perm (script y st)) :
    (query port retries (Net.init (scriptOf arr) [])).1 = .ok (expected st) := by
  rw [query_fst, queryVars_any_order h port retries arr hp]
  exact buildResponse_canon h

end Gd.Gs1
