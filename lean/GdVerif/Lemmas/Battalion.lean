import GdVerif.Lemmas.ValveWhole
import GdVerif.Lemmas.Valve
import GdVerif.Lemmas.GsMap
import GdVerif.Lemmas.GsText
import GdVerif.Spec.Battalion
/-
  Battalion 1944: crash freedom, conformance, and the rule overrides against the SPEC.
-/
namespace Gd.Battalion
open Gd Gd.Valve Gd.Valve.Spec

theorem stepNum_ne (k : Bytes) (set : ServerInfo → Nat → ServerInfo) (x : ServerInfo × Rules) :
    stepNum k set x ≠ .crash := by
  unfold stepNum
  split
  · split <;> simp
  · simp

theorem overrides_ne (x : ServerInfo × Rules) : overrides x ≠ .crash := by
  unfold overrides
  exact Res.bind_ne_crash (stepNum_ne _ _ _) fun _ => Res.bind_ne_crash (stepNum_ne _ _ _) fun _ => by simp

theorem applyOverrides_ne (r : Valve.Response) : applyOverrides r ≠ .crash := by
  unfold applyOverrides
  split
  · exact Res.bind_ne_crash (overrides_ne _) fun _ => by simp
  · simp

theorem query_apply (ext : Ext) (port : Nat) (w : Net) :
    query ext port w
      = ((Valve.query ext port ENGINE Gather.default 0 w).1 >>= applyOverrides >>= fun r => pure (Games.gameView r),
         (Valve.query ext port ENGINE Gather.default 0 w).2) := by
  unfold query
  rw [Q.bind_apply]
  cases hq : Valve.query ext port ENGINE Gather.default 0 w with
  | mk res w' =>
    cases res with
    | ok r =>
      simp only
      rw [Q.bind_apply]
      cases ha : applyOverrides r <;> simp [Q.lift, ha, bind, Res.bind]
    | err k => rfl
    | crash => rfl

theorem query_safe (ext : Ext) (port : Nat) (w : Net) :
    (query ext port w).1 ≠ .crash
    ∧ ∃ added, (query ext port w).2.log = w.log ++ added ∧ ∀ e ∈ added, QueryEvOk port w.conns.length e := by
  obtain ⟨h1, h2⟩ := Valve.query_safe ext port ENGINE Gather.default 0 w
  rw [query_apply]
  exact ⟨Res.bind_ne_crash (Res.bind_ne_crash h1 applyOverrides_ne) fun _ => by simp, h2⟩

theorem parseUnsigned_okNum (v : Bytes) (h : Battalion.Spec.okNum v = true) :
    parseUnsigned 8 v = some (Battalion.Spec.decimal v) := by
  simp only [Battalion.Spec.okNum, Bool.and_eq_true, Bool.not_eq_true', decide_eq_true_eq] at h
  obtain ⟨⟨hne, hall⟩, hlt⟩ := h
  have hd : digitsVal v < 2 ^ 8 := hlt
  rw [Gs.parseUnsigned_digits 8 v (by intro e; subst e; simp at hne) hall, if_pos hd]
  rfl

theorem get_eq_mapGet (rs : Rules) (k : Bytes) : get rs k = Gs.mapGet rs k := by
  induction rs with
  | nil => rfl
  | cons p r ih =>
    rw [Gs.mapGet_cons, ← ih]
    unfold get
    rw [List.find?_cons]
    cases p.1 == k <;> rfl

theorem get_dropKeys (ks : List Bytes) (rs : Rules) {k : Bytes} (hk : k ∉ ks) : get (Gs.dropKeys ks rs) k = get rs k := by
  rw [get_eq_mapGet, get_eq_mapGet, Gs.mapGet_dropKeys ks rs hk]

theorem stepNum_eq (k : Bytes) (set : ServerInfo → Nat → ServerInfo) (proj : ServerInfo → Nat)
    (hset : ∀ i, set i (proj i) = i) (i : ServerInfo) (ks : List Bytes) (rs : Rules) (hk : k ∉ ks)
    (h : (get rs k).all Battalion.Spec.okNum = true) :
    stepNum k set (i, Gs.dropKeys ks rs)
      = .ok (set i (((get rs k).map Battalion.Spec.decimal).getD (proj i)), Gs.dropKeys (ks ++ [k]) rs) := by
  unfold stepNum
  simp only [get_dropKeys ks rs hk, Valve.mapRemove_eq, Gs.mapRemove_dropKeys]
  cases hg : get rs k with
  | none => simp [Gs.dropKeys_absent ks ((get_eq_mapGet rs k).symm.trans hg), hset]
  | some v =>
    have hv : Battalion.Spec.okNum v = true := by simpa [hg] using h
    simp [parseUnsigned_okNum v hv]

theorem stepVal_eq {β : Type} (k : Bytes) (set : ServerInfo → β → ServerInfo) (f : Bytes → β) (proj : ServerInfo → β)
    (hset : ∀ i, set i (proj i) = i) (i : ServerInfo) (ks : List Bytes) (rs : Rules) (hk : k ∉ ks) :
    stepVal k (fun i v => set i (f v)) (i, Gs.dropKeys ks rs)
      = (set i (((get rs k).map f).getD (proj i)), Gs.dropKeys (ks ++ [k]) rs) := by
  unfold stepVal
  simp only [get_dropKeys ks rs hk, Valve.mapRemove_eq, Gs.mapRemove_dropKeys]
  cases hg : get rs k with
  | none => simp [Gs.dropKeys_absent ks ((get_eq_mapGet rs k).symm.trans hg), hset]
  | some v => rfl

theorem keys_nodup : [kMaxPlayers, kPlayerCount, kHasPassword, kName, kGamemode].Nodup := by decide +kernel

theorem overrides_eq (i : ServerInfo) (rs : Rules)
    (h1 : (get rs kMaxPlayers).all Battalion.Spec.okNum = true)
    (h2 : (get rs kPlayerCount).all Battalion.Spec.okNum = true) :
    overrides (i, rs)
      = .ok ({ i with
                playersMaximum := ((get rs kMaxPlayers).map Battalion.Spec.decimal).getD i.playersMaximum,
                playersOnline := ((get rs kPlayerCount).map Battalion.Spec.decimal).getD i.playersOnline,
                hasPassword := ((get rs kHasPassword).map (· == asciiBytes "Y")).getD i.hasPassword,
                name := (get rs kName).getD i.name,
                gameMode := (get rs kGamemode).getD i.gameMode },
             rs.filter fun p => !Battalion.Spec.batKeys.contains p.1) := by
  -- each step finds its rule among what the earlier steps left because the keys are distinct
  have distinct : ∀ {ks : List Bytes} {k : Bytes},
      ks ++ [k] <+: [kMaxPlayers, kPlayerCount, kHasPassword, kName, kGamemode] → k ∉ ks :=
    keys_nodup.not_mem_of_prefix
  have start : overrides (i, rs) = overrides (i, Gs.dropKeys [] rs) := by rw [Gs.dropKeys_nil]
  rw [start]
  unfold overrides
  rw [stepNum_eq kMaxPlayers _ (·.playersMaximum) (fun _ => rfl) i [] rs (distinct ⟨_, rfl⟩) h1, Res.bind_ok,
    stepNum_eq kPlayerCount _ (·.playersOnline) (fun _ => rfl) _ _ rs (distinct ⟨_, rfl⟩) h2, Res.bind_ok]
  simp only []
  rw [stepVal_eq kHasPassword (fun i b => { i with hasPassword := b }) (· == asciiBytes "Y") (·.hasPassword)
      (fun _ => rfl) _ _ rs (distinct ⟨_, rfl⟩),
    stepVal_eq kName (fun i v => { i with name := v }) (fun v => v) (·.name) (fun _ => rfl) _ _ rs (distinct ⟨_, rfl⟩),
    stepVal_eq kGamemode (fun i v => { i with gameMode := v }) (fun v => v) (·.gameMode) (fun _ => rfl) _ _ rs
      (distinct ⟨_, rfl⟩)]
  simp only [Valve.mapRemove_eq, Gs.mapRemove_dropKeys, Option.map_id']
  rfl

theorem get_eq_rule (rs : Rules) (name : String) : get rs (asciiBytes name) = Battalion.Spec.rule rs name := rfl

/-- overriding what a Valve client is entitled to (engine app 489940, default gathering) and converting it
yields what the user of the Battalion 1944 query is entitled to -/
theorem overrides_expected (cfg : Config) (st : State) (h : Battalion.Spec.wf cfg st = true) :
    (Valve.Spec.expected (Battalion.Spec.batConfig cfg) st >>= applyOverrides >>= fun r => pure (Games.gameView r))
      = Battalion.Spec.expected st := by
  simp only [Battalion.Spec.wf, Bool.and_eq_true] at h
  obtain ⟨⟨_, h1⟩, h2⟩ := h
  unfold Valve.Spec.expected Battalion.Spec.expected
  simp only [Battalion.Spec.batConfig, Battalion.Spec.batEngine, appIdOk, Engine.new, Gather.default]
  by_cases happ : st.info.appid = 489940
  · have hov := overrides_eq st.info st.rules h1 h2
    have hao : applyOverrides ⟨st.info, some st.players, some st.rules⟩
        = (overrides (st.info, st.rules) >>= fun x => pure ⟨x.1, some st.players, some x.2⟩) := rfl
    simp only [happ, expectedRules, Engine.new, Games.gameView]
    simp [bind, Res.bind, happ, hao, hov, kMaxPlayers, kPlayerCount, kHasPassword, kName, kGamemode, get_eq_rule]
  · have hne : (489940 == st.info.appid) = false := by
      simp only [beq_eq_false_iff_ne, ne_eq]; exact fun h => happ h.symm
    simp [happ, hne, bind, Res.bind]

/-- the whole query against a conforming Battalion 1944 server that answers each request with one datagram -/
theorem query_single (ext : Ext) (port : Nat) (cfg : Config) (st : State) (h : Battalion.Spec.wf cfg st = true)
    (hl1 : (reply 0x49 (encSourceInfo cfg.upper st.info)).length ≤ PACKET_SIZE)
    (hl2 : (reply 0x44 (encPlayers st.players)).length ≤ PACKET_SIZE)
    (hl3 : (reply 0x45 (encRules st.rules)).length ≤ PACKET_SIZE) :
    (query ext port (Net.init [.opened (singleScript cfg.upper st)] [])).1 = Battalion.Spec.expected st := by
  have hwf := h
  simp only [Battalion.Spec.wf, Valve.Spec.wf, Battalion.Spec.batConfig, Battalion.Spec.batEngine, Engine.new,
    Bool.and_eq_true, decide_eq_true_eq, List.all_eq_true] at h
  obtain ⟨⟨⟨⟨⟨⟨⟨hinfo, hpn⟩, hpl⟩, hrn⟩, hrl⟩, hrd⟩, _⟩, _⟩ := h
  have hq := Valve.query_single ext port ENGINE (by decide) 0 cfg.upper st hinfo hpn
    (fun p hp => by simpa [ENGINE, Engine.new] using hpl p hp) hrn (fun r hr => by simpa using hrl r hr) hrd hl1 hl2 hl3
  rw [query_apply, hq, ← overrides_expected cfg st hwf, expected_default (Battalion.Spec.batConfig cfg) st rfl]
  rfl

end Gd.Battalion
