import GdVerif.Lemmas.ValveSilent
import GdVerif.Lemmas.Gs3Block
import GdVerif.Proto.Ffow
import GdVerif.Proto.TheShip
import GdVerif.Proto.Battalion
import GdVerif.Proto.Jc2m
import GdVerif.Proto.Mindustry
import GdVerif.Proto.Savage2
/-
  Blocking steps of the small games' queries that can run into their timeout, and their silent
  servers.
-/
namespace Gd

/-- the shape of Savage 2's query and of one Mindustry attempt -/
abbrev openExchange (port : Nat) (req : Bytes) (size : Option Nat) (p : Par α) : Q α :=
  openSock false port >>= fun s => send s req >>= fun _ => recv s size >>= fun d => parse p d

theorem block_openExchange (port : Nat) (req : Bytes) (size : Option Nat) (p : Par α) :
    Block 0 1 (openExchange port req size p) :=
  Block.bind_same (Block.openSock false port) fun s => Block.bind_same (Block.send s req) fun _ =>
    Block.bind_free (Block.recv s size) (fun d => Block.parse p d) (by omega)

theorem silent_openExchange (port : Nat) (req : Bytes) (size : Option Nat) (p : Par α) (w : Net) (hf : w.faults = [])
    (hp : PendingSilent false 1 w.pending) : SilentOutcome w (openExchange port req size p w) 1 1 :=
  SilentRun.openSock (k := 1) (b := 1) (fun s _ =>
    SilentAttempt.seq (k2 := 0) (SilentSends.send s req) fun _ => (SilentAttempt.recv s size).bind_left _) port w hf hp

/-! ### FFOW: one Valve-style request -/

theorem Ffow.block_query (ext : Valve.Ext) (port r : Nat) : Block r (r + 1) (Ffow.query ext port r) := by
  unfold Ffow.query Ffow.queryBody
  have h := Block.bind (Block.openSock false port) fun s =>
    Block.bind (Block.retrySharp (Valve.block_requestImpl ext s (.goldSrc true) 0 Ffow.KIND Ffow.lsq) r) fun d =>
      Block.parse Ffow.parseResponse d
  exact h.weaken (by omega) (by omega)

theorem Ffow.silent_query (ext : Valve.Ext) (port r : Nat) (w : Net) (hf : w.faults = [])
    (hp : PendingSilent false (r + 1) w.pending) :
    SilentOutcome w (Ffow.query ext port r w) (r + 1) (r + 1) := by
  unfold Ffow.query Ffow.queryBody
  exact SilentRun.openSock (fun s _ =>
    ((Valve.silent_requestImpl ext s (.goldSrc true) 0 Ffow.KIND Ffow.lsq).retry1 r).bind_left _) port w hf hp

/-! ### The Ship, Battalion 1944: the Valve query -/

theorem TheShip.block_query (ext : Valve.Ext) (port r : Nat) :
    Block (3 * r + 2) (3 * r + 2) (TheShip.query ext port r) := by
  unfold TheShip.query
  have h := Block.bind (Valve.block_query_sharp ext port TheShip.ENGINE Valve.Gather.default r) fun v =>
    Block.lift (TheShip.convert v)
  exact h.weaken (by omega) (by omega)

theorem TheShip.silent_query (ext : Valve.Ext) (port r : Nat) (w : Net) (hf : w.faults = [])
    (hp : PendingSilent false (r + 1) w.pending) :
    SilentOutcome w (TheShip.query ext port r w) (r + 1) (r + 1) := by
  unfold TheShip.query
  exact SilentOutcome.bind_left (Valve.silent_query ext port TheShip.ENGINE Valve.Gather.default r w hf hp) _

theorem Battalion.block_query (ext : Valve.Ext) (port : Nat) : Block 2 2 (Battalion.query ext port) := by
  unfold Battalion.query
  have h := Block.bind (Valve.block_query_sharp ext port Battalion.ENGINE Valve.Gather.default 0) fun v =>
    Block.bind (Block.lift (Battalion.applyOverrides v)) fun v' => Block.pure (Games.gameView v')
  exact h.weaken (by omega) (by omega)

theorem Battalion.silent_query (ext : Valve.Ext) (port : Nat) (w : Net) (hf : w.faults = [])
    (hp : PendingSilent false 1 w.pending) :
    SilentOutcome w (Battalion.query ext port w) 1 1 := by
  unfold Battalion.query
  exact SilentOutcome.bind_left (Valve.silent_query ext port Battalion.ENGINE Valve.Gather.default 0 w hf hp) _

/-! ### JC2M: the GameSpy 3 exchange, single-packet mode -/

theorem Jc2m.block_query (port : Option Nat) (r : Nat) : Block r (r + 1) (Jc2m.query port r) := by
  unfold Jc2m.query
  have h := Block.bind (Block.openSock false (port.getD Jc2m.DEFAULT_PORT)) fun s =>
    Block.bind (Gs3.block_getServerPackets s r Jc2m.PAYLOAD true) fun p => Block.lift (Jc2m.buildResponse p)
  exact h.weaken (by omega) (by omega)

theorem Jc2m.silent_query (port : Option Nat) (r : Nat) (w : Net) (hf : w.faults = [])
    (hp : PendingSilent false (r + 1) w.pending) :
    SilentOutcome w (Jc2m.query port r w) (r + 1) (r + 1) := by
  unfold Jc2m.query
  exact SilentRun.openSock (fun s _ => (Gs3.silent_getServerPackets s r _ _).bind_left _) _ w hf hp

/-! ### Mindustry: every attempt creates its own socket -/

theorem Mindustry.block_attempt (port : Nat) : Block 0 1 (Mindustry.attempt port) :=
  block_openExchange port Mindustry.ping (some Mindustry.MAX_BUFFER_SIZE) Mindustry.parseServerData

theorem Mindustry.block_query (port r : Nat) : Block r (r + 1) (Mindustry.query port r) :=
  Block.retrySharp (Mindustry.block_attempt port) r

theorem Mindustry.silent_attempt (port : Nat) (w : Net) (hf : w.faults = []) (hp : PendingSilent false 1 w.pending) :
    SilentOutcome w (Mindustry.attempt port w) 1 1 :=
  silent_openExchange port Mindustry.ping (some Mindustry.MAX_BUFFER_SIZE) Mindustry.parseServerData w hf hp

/-- `r + 1` silent peers, one per attempt: `r + 1` sockets, pings and timeouts -/
theorem Mindustry.silent_query (port : Nat) : ∀ (r : Nat) (w : Net), w.faults = [] →
    AllSilent 1 (List.replicate (r + 1) false) w.pending →
    SilentOutcomeN w (Mindustry.query port r w) .packetReceive (r + 1) (r + 1) (r + 1) := by
  intro r
  induction r with
  | zero =>
    intro w hf hp
    exact (Mindustry.silent_attempt port w hf hp.1).toN
  | succ r ih =>
    intro w hf hp
    have o1 := Mindustry.silent_attempt port w hf hp.1
    have o2 := ih (Mindustry.attempt port w).2 o1.faults (by rw [o1.pending]; exact hp.2)
    have e : Mindustry.query port (r + 1) w = Mindustry.query port r (Mindustry.attempt port w).2 :=
      retryOnTimeout_again (Prod.ext o1.result rfl) rfl r
    rw [e]
    have h := o1.toN.append o2
    have e1 : 1 + (r + 1) = r + 1 + 1 := by omega
    rw [e1] at h
    exact h

/-! ### Savage 2: one exchange, never retried -/

theorem Savage2.block_query (port : Nat) : Block 0 1 (Savage2.query port) :=
  block_openExchange port Savage2.request none Savage2.parseResponse

theorem Savage2.silent_query (port : Nat) (w : Net) (hf : w.faults = []) (hp : PendingSilent false 1 w.pending) :
    SilentOutcome w (Savage2.query port w) 1 1 :=
  silent_openExchange port Savage2.request none Savage2.parseResponse w hf hp

end Gd
