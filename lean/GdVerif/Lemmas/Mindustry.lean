import GdVerif.Lemmas.SmallLogic
import GdVerif.Lemmas.SmallCost
import GdVerif.Lemmas.ValveSafe
import GdVerif.Spec.Mindustry
/-
  Mindustry: crash freedom, wire conformance and field-by-field decoding of the model against the SPEC.
-/
namespace Gd.Mindustry
open Gd Gd.Mindustry.Spec

theorem gameModeOf_ne (n : Nat) : gameModeOf n ≠ .crash := by
  unfold gameModeOf; split <;> simp

theorem safe_optional {p : Par α} (hp : Safe p) : Safe (optional p) := by
  intro b
  have := hp b
  unfold optional
  cases h : p b with
  | ok x => obtain ⟨a, b'⟩ := x; rw [h] at this; simpa [Post] using this
  | err k => simp [Post]
  | crash => rw [h] at this; exact this.elim

theorem safe_parseServerData : Safe parseServerData := by
  unfold parseServerData
  exact Safe.bind safe_readLenStr fun _ => Safe.bind safe_readLenStr fun _ =>
    Safe.bind (safe_readSigned _ _) fun _ => Safe.bind (safe_readSigned _ _) fun _ =>
    Safe.bind (safe_readSigned _ _) fun _ => Safe.bind safe_readLenStr fun _ => Safe.bind safe_readU8 fun _ =>
    Safe.bind (Safe.lift_ne _ (gameModeOf_ne _)) fun _ => Safe.bind (safe_readSigned _ _) fun _ =>
    Safe.bind safe_readLenStr fun _ => Safe.bind (safe_optional safe_readLenStr) fun _ => Safe.pure _

/-- what a Mindustry query may do to the transport: open UDP sockets to the given port, send the
two-byte ping to it, receive into the 500-byte buffer -/
def EvOk (port : Nat) : Ev → Prop
  | .opened _ tcp p _ => tcp = false ∧ p = port
  | .send _ p data _ => p = port ∧ data = ping
  | .recv _ size _ => size = some MAX_BUFFER_SIZE

theorem logSafe_attempt (port : Nat) : LogSafe (EvOk port) (attempt port) := by
  refine LogSafe.ofOpen false port (fun _ _ => ⟨rfl, rfl⟩) ?_
  intro s hp _
  exact QSafe.bind (QSafe.send s _ _ fun _ => ⟨hp, rfl⟩) fun _ =>
    QSafe.bind (QSafe.recv s _ _ fun _ => rfl) fun _ => QSafe.parse _ _ safe_parseServerData _

theorem logSafe_query (port retries : Nat) : LogSafe (EvOk port) (query port retries) :=
  LogSafe.retry (logSafe_attempt port) retries

theorem sendBound_query (port retries : Nat) : SendBound (retries + 1) (query port retries) :=
  SendBound.iff_sends.2 (sends_query port retries)

theorem okStr_iff (s : Bytes) : okStr s = true ↔ s.length < 256 ∧ (0 : UInt8) ∉ s ∧ validUtf8 s = true := by
  simp [okStr, List.contains_iff_mem, and_assoc]

theorem decodes_lenStr (s : Bytes) (h : okStr s = true) : Decodes readLenStr (lenStr s) s := by
  obtain ⟨hl, h0, hv⟩ := (okStr_iff s).mp h
  exact decodes_readLenStr s hl h0 hv

theorem decodes_be32 (i : Int) (h : okInt i = true) : Decodes (readSigned .big 4) (be32 i) i := by
  simp only [okInt, Bool.and_eq_true, decide_eq_true_eq] at h
  exact decodes_signed .big 4 (by omega) i (by simpa using h.1) (by simpa using h.2)

theorem ordinal_lt (m : GameMode) : ordinal m < 256 := by cases m <;> decide

theorem gameModeOf_ordinal (m : GameMode) : gameModeOf (ordinal m) = .ok m := by cases m <;> rfl

theorem decodesEnd_optStr_with (t : Bytes → Bytes) (o : Option Bytes)
    (h : ∀ s, o = some s → Decodes readLenStr (lenStr s) (t s)) :
    DecodesEnd (optional readLenStr) (optStr o) (o.map t) := by
  intro b hr
  cases o with
  | none =>
    obtain ⟨k, hk⟩ := readLenStr_at_end b hr
    exact ⟨b, by simp [optional, hk], rfl⟩
  | some s =>
    obtain ⟨b', hp, _, hd⟩ := h s rfl b [] (by simpa [optStr] using hr)
    exact ⟨b', by simp [optional, hp], hd⟩

/-- The walk over the reply, with what the reader makes of the five strings left open: the strict reading (`wf`) and
the one that ends a text at U+0000 (`wfCut`) differ only there. -/
theorem decodesEnd_serverData_with (st : State) (name map vt desc : Bytes) (mode : Option Bytes)
    (hname : Decodes readLenStr (lenStr st.name) name) (hmap : Decodes readLenStr (lenStr st.map) map)
    (hpl : okInt st.totalPlayers = true) (hwave : okInt st.wave = true) (hbuild : okInt st.build = true)
    (hvt : Decodes readLenStr (lenStr st.versionType) vt) (hlim : okInt st.playerLimit = true)
    (hdesc : Decodes readLenStr (lenStr st.description) desc)
    (hmode : DecodesEnd (optional readLenStr) (optStr st.modeName) mode) :
    DecodesEnd parseServerData (encode st)
      (expected { st with name := name, map := map, versionType := vt, description := desc, modeName := mode }) := by
  unfold parseServerData encode
  simp only [List.append_assoc]
  refine DecodesEnd.bind hname ?_ rfl
  refine DecodesEnd.bind hmap ?_ rfl
  refine DecodesEnd.bind (decodes_be32 _ hpl) ?_ rfl
  refine DecodesEnd.bind (decodes_be32 _ hwave) ?_ rfl
  refine DecodesEnd.bind (decodes_be32 _ hbuild) ?_ rfl
  refine DecodesEnd.bind hvt ?_ rfl
  refine DecodesEnd.bind (decodes_u8 _ (ordinal_lt _)) ?_ rfl
  refine DecodesEnd.bind (e1 := []) (by rw [gameModeOf_ordinal]; exact Decodes.lift_ok _) ?_ rfl
  refine DecodesEnd.bind (decodes_be32 _ hlim) ?_ rfl
  refine DecodesEnd.bind hdesc ?_ rfl
  exact DecodesEnd.bind_pure hmode (fun _ => rfl)

theorem decodesEnd_serverData (st : State) (h : wf st = true) :
    DecodesEnd parseServerData (encode st) (expected st) := by
  simp only [wf, Bool.and_eq_true, decide_eq_true_eq] at h
  obtain ⟨⟨⟨⟨⟨⟨⟨⟨⟨hname, hmap⟩, hpl⟩, hwave⟩, hbuild⟩, hvt⟩, hlim⟩, hdesc⟩, hmode⟩, _⟩ := h
  have hm := decodesEnd_optStr_with (fun s => s) st.modeName fun s hs =>
    decodes_lenStr s (by simpa [hs] using hmode)
  rw [Option.map_id'] at hm
  exact decodesEnd_serverData_with st _ _ _ _ _ (decodes_lenStr _ hname) (decodes_lenStr _ hmap) hpl hwave hbuild
    (decodes_lenStr _ hvt) hlim (decodes_lenStr _ hdesc) hm

/-! ### strings that contain U+0000: the text ends there, the cursor still moves past the declared length -/

/-- what the reader makes of a string: the bytes before the first NUL -/
def cutNul (s : Bytes) : Bytes := s.take (findByte 0 s)

def cutState (st : State) : State :=
  { st with name := cutNul st.name, map := cutNul st.map, versionType := cutNul st.versionType,
            description := cutNul st.description, modeName := st.modeName.map cutNul }

def okStrCut (s : Bytes) : Bool := s.length < 256 && validUtf8 (cutNul s)

/-- `wf` without the exclusion of U+0000 -/
def wfCut (st : State) : Bool :=
  okStrCut st.name && okStrCut st.map && okInt st.totalPlayers && okInt st.wave && okInt st.build &&
  okStrCut st.versionType && okInt st.playerLimit && okStrCut st.description && st.modeName.all okStrCut &&
  (encode st).length ≤ 500

theorem decodes_lenStr_cut (s : Bytes) (h : okStrCut s = true) : Decodes readLenStr (lenStr s) (cutNul s) := by
  simp only [okStrCut, Bool.and_eq_true, decide_eq_true_eq] at h
  exact decodes_readLenStr_cut s h.1 h.2

theorem decodesEnd_serverData_cut (st : State) (h : wfCut st = true) :
    DecodesEnd parseServerData (encode st) (expected (cutState st)) := by
  simp only [wfCut, Bool.and_eq_true, decide_eq_true_eq] at h
  obtain ⟨⟨⟨⟨⟨⟨⟨⟨⟨hname, hmap⟩, hpl⟩, hwave⟩, hbuild⟩, hvt⟩, hlim⟩, hdesc⟩, hmode⟩, _⟩ := h
  exact decodesEnd_serverData_with st _ _ _ _ _ (decodes_lenStr_cut _ hname) (decodes_lenStr_cut _ hmap) hpl hwave
    hbuild (decodes_lenStr_cut _ hvt) hlim (decodes_lenStr_cut _ hdesc)
    (decodesEnd_optStr_with cutNul st.modeName fun s hs => decodes_lenStr_cut s (by simpa [hs] using hmode))

theorem attempt_script (port : Nat) (d : Bytes) (hd : d.length ≤ MAX_BUFFER_SIZE) :
    attempt port (Net.init [.opened [.data d]] [])
      = (parseServerData.run d, ⟨[], [[]], [], [.opened 0 false port false, .send 0 port ping false,
          .recv 0 (some MAX_BUFFER_SIZE) (some d.length)]⟩) := by
  have ht : d.take 500 = d := List.take_of_length_le hd
  simp [attempt, openSock, Net.init, send, recv, setAt, parse, Q.lift, MAX_BUFFER_SIZE, ht, bind, Q.bind']

/-- the whole query against a conforming server: the first attempt succeeds, whatever the retry count -/
theorem query_script (st : State) (h : wf st = true) (port retries : Nat) :
    query port retries (Net.init [.opened [.data (encode st)]] [])
      = (.ok (expected st), ⟨[], [[]], [], [.opened 0 false port false, .send 0 port ping false,
          .recv 0 (some MAX_BUFFER_SIZE) (some (encode st).length)]⟩) := by
  have hlen : (encode st).length ≤ MAX_BUFFER_SIZE := by
    simp only [wf, Bool.and_eq_true, decide_eq_true_eq] at h
    exact h.2
  have hq := attempt_script port (encode st) hlen
  rw [(decodesEnd_serverData st h).run] at hq
  exact retryOnTimeout_ok hq retries

end Gd.Mindustry
