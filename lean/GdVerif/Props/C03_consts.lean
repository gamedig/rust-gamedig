import GdVerif.Gen.Consts
import GdVerif.Lemmas.Consts
import GdVerif.Spec.Minecraft
/-
  C03 — the constants of the Minecraft reply parsers: SOURCE = MODEL = SPEC (tie by TRANSLATION).

  Bedrock: reply id, nonce and magic words, the index of each response field in the status string, the game-mode
  names; legacy: reply id, the 1.6 marker, the version texts of the groups without a version field.
  `Gd.Gen.Consts.*` is regenerated from games/minecraft/** on every run.
-/
open Gd Gd.Gen Gd.ConstsAux

/-- `GameMode::from_bedrock`: the five names, each giving its variant; anything else is rejected by the same test -/
theorem C03_consts_mc_bedrock_game_modes :
    Consts.mc_bedrock_game_modes.map (fun p => resMap mcGameModeName (Mc.GameMode.fromBedrock (asciiBytes p.1)))
      = Consts.mc_bedrock_game_modes.map (fun p => .ok p.2)
    ∧ (Consts.mc_bedrock_game_modes.map (·.2)).length = 5 ∧ (Consts.mc_bedrock_game_modes.map (·.2)).Nodup
    ∧ Mc.GameMode.fromBedrock (asciiBytes "survival") = .err .unknownEnumCast := by decide +kernel

/-- SPEC: the name a server writes for a game mode is the source's for that variant -/
theorem C03_consts_mc_bedrock_spec_game_modes (g : Mc.GameMode) :
    (Mc.Spec.gameModeName g, mcGameModeName g) ∈ Consts.mc_bedrock_game_modes.map (fun p => (asciiBytes p.1, p.2)) := by
  have h : Consts.mc_bedrock_game_modes.map (fun p => (asciiBytes p.1, p.2))
      = [.survival, .creative, .hardcore, .spectator, .adventure].map fun g => (Mc.Spec.gameModeName g, mcGameModeName g) := rfl
  rw [h]
  exact List.mem_map_of_mem (by cases g <;> decide)

/-- `get_info_impl`: `0x1c`, the nonce, 8 bytes skipped, the two magic words -/
theorem C03_consts_mc_bedrock_reply_checks :
    Mc.bedrockParse = (do
      let t ← readU8
      if t != num Consts.mc_bedrock_reply_checks "id" then Par.fail .packetBad
      else do
        let nonce ← readUnsigned .little 8
        if nonce != num Consts.mc_bedrock_reply_checks "nonce" then Par.fail .packetBad
        else do
          moveCursor (num Consts.mc_bedrock_reply_checks "server_id_skip" : Nat)
          let m1 ← readUnsigned .little 8
          if m1 != num Consts.mc_bedrock_reply_checks "magic_low" then Par.fail .packetBad
          else do
            let m2 ← readUnsigned .little 8
            if m2 != num Consts.mc_bedrock_reply_checks "magic_high" then Par.fail .packetBad
            else do
              let remainingLen ← Mc.bedrockLength
              Mc.bedrockBody remainingLen) := rfl

/-- the nonce and the magic the client checks are the ones it sent (time stamp and RakNet magic of the request) and
the SPEC's -/
theorem C03_consts_mc_bedrock_magic :
    natLE 8 (num Consts.mc_bedrock_reply_checks "nonce") = Mc.Spec.clientTime
    ∧ natLE 8 (num Consts.mc_bedrock_reply_checks "magic_low") ++ natLE 8 (num Consts.mc_bedrock_reply_checks "magic_high")
        = Mc.Spec.raknetMagic
    ∧ (Consts.mc_bedrock_request.drop 1).take 8 = Mc.Spec.clientTime
    ∧ ((Consts.mc_bedrock_request.drop 9).take 16) = Mc.Spec.raknetMagic := by decide +kernel

/-- the status string: at least 6 fields; field `i` of `edition;name;protocol;version;online;max;id;map;mode` goes to
the response field the source takes `status[i]` for (a status with the numbers 0 … 8 in its fields) -/
theorem C03_consts_mc_bedrock_field_indices :
    num Consts.mc_bedrock_reply_checks "min_fields" = 6
    ∧ Mc.bedrockStatus (asciiBytes "a;b;c;d;4;5") = .ok
        { edition := asciiBytes "a", name := asciiBytes "b", versionName := asciiBytes "d", protocolVersion := asciiBytes "c",
          playersMaximum := 5, playersOnline := 4, id := none, map := none, gameMode := none, serverType := .bedrock }
    ∧ Mc.bedrockStatus (asciiBytes "a;b;c;d;4") = .err .packetBad
    ∧ Consts.mc_bedrock_field_indices
      = [("edition", 0), ("name", 1), ("version_name", 3), ("protocol_version", 2), ("players_maximum", 5),
         ("players_online", 4), ("id", 6), ("map", 7), ("game_mode", 8)]
    ∧ resMap (fun r => (r.id, r.map, r.gameMode)) (Mc.bedrockStatus (asciiBytes "a;b;c;d;4;5;six;seven;Creative"))
      = .ok (some (asciiBytes "six"), some (asciiBytes "seven"), some .creative) := by decide +kernel

/-- legacy replies start with `0xFF` -/
theorem C03_consts_mc_legacy_reply_id (dataLen : Nat) :
    Mc.legacyHeader dataLen = (do
      let t ← readU8
      if t != num Consts.mc_legacy_reply_ids "v1_6" then Par.fail .protocolFormat
      else do
        let l ← readUnsigned .big 2
        let length := l * 2
        Par.lift (errorByExpectedSize (length + 3) dataLen))
    ∧ Consts.mc_legacy_reply_ids.map (·.2) = List.replicate 3 (num Consts.mc_legacy_reply_ids "v1_6") := ⟨rfl, rfl⟩

/-- the 1.6 marker `§1\0` (UTF-16BE) -/
theorem C03_consts_mc_legacy16_marker : Mc.marker16 = Consts.mc_legacy16_marker := rfl

/-- the version texts of the 1.4 and beta 1.8 groups -/
theorem C03_consts_mc_legacy_versions (dataLen : Nat) :
    Mc.legacy14Parse dataLen = (do
      Mc.legacyHeader dataLen
      let is16 ← Mc.isProtocol16
      if is16 then Mc.legacy16Response
      else Mc.legacySplitResponse .v1_4 (asciiBytes ((Consts.mc_legacy_versions.lookup "v1_4").getD "")))
    ∧ Mc.legacyB18Parse dataLen = (do
      Mc.legacyHeader dataLen
      Mc.legacySplitResponse .vb1_8 (asciiBytes ((Consts.mc_legacy_versions.lookup "vb1_8").getD "")))
    ∧ Consts.mc_legacy_versions.map (·.1) = ["v1_4", "vb1_8"] := ⟨rfl, rfl, rfl⟩

example : Consts.mc_bedrock_game_modes.length = 5 := rfl
