import GdVerif.Lemmas.SmallBlock
/-
  C12 (blocking steps that can run into their timeout) — Mindustry.  Every attempt creates its own
  socket, so up to `retries + 1` sockets exist; a failed socket creation is not a timeout-class error
  and ends the query.
-/
open Gd Gd.Mindustry

/-- At most `retries + 1` blocking steps run into their timeout, whatever the server does: one per
attempt (its socket creation, its send or its receive). -/
theorem C12_mindustry_blocking_bound (port retries : Nat) (script : List ConnScript) (faults : List Bool) :
    nBlocked (query port retries (Net.init script faults)).2.log ≤ retries + 1 := by
  have := (block_query port retries).total script faults
  omega
/-- A silent server (every one of the `retries + 1` sockets is created and its receive times out): the receive-class error after exactly `retries + 1` attempts — `retries + 1` sockets, pings and timed-out receives. -/
theorem C12_mindustry_silent_server (port retries : Nat) (script : List ConnScript)
    (h : AllSilent 1 (List.replicate (retries + 1) false) script) :
    (query port retries (Net.init script [])).1 = .err .packetReceive
      ∧ nSends (query port retries (Net.init script [])).2.log = retries + 1
      ∧ nBlocked (query port retries (Net.init script [])).2.log = retries + 1
      ∧ nRecvOk (query port retries (Net.init script [])).2.log = 0
      ∧ nOpened (query port retries (Net.init script [])).2.log = retries + 1 :=
  (silent_query port retries (Net.init script []) rfl h).counts

/-- the hypothesis is satisfiable -/
example : AllSilent 1 (List.replicate (2 + 1) false) [.opened [.silence], .opened [.silence, .data [1]], .opened []] :=
  ⟨True.intro, True.intro, rfl, True.intro⟩

example : nBlocked (query 6567 2 (Net.init [.opened [.silence], .opened [.silence], .opened []] [])).2.log = 3 := by decide +kernel
/-- a socket that cannot be created ends the query with one blocked step -/
example : nBlocked (query 6567 2 (Net.init [.opened [.silence], .refused, .opened []] [])).2.log = 2 := by decide +kernel
