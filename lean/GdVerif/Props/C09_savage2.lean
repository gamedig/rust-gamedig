import GdVerif.Lemmas.Savage2
/-
  C09 — requests are the protocol's and go to the right port: Savage 2.
-/
open Gd Gd.Savage2

/-- The request is the single byte `01` (node-gamedig: `udpSend('\x01')`), the default port is 11235. -/
theorem C09_savage2_request_bytes : request = Spec.infoRequest ∧ DEFAULT_PORT = Spec.defaultPort := by decide

/-- Whatever the server does: one UDP socket to the given port, every datagram sent on it goes to that port and
is exactly `01`, every receive uses the default buffer; nothing else is done to the transport, and at most one
datagram is sent (the protocol does not retry). -/
theorem C09_savage2_conforms (port : Nat) (script : List ConnScript) (faults : List Bool) :
    (∀ e ∈ (query port (Net.init script faults)).2.log,
      match e with
      | .opened c tcp p _ => c = 0 ∧ tcp = false ∧ p = port
      | .send c p data _ => c = 0 ∧ p = port ∧ data = [0x01]
      | .recv c size _ => c = 0 ∧ size = none)
    ∧ countSends (query port (Net.init script faults)).2.log ≤ 1 := by
  refine ⟨?_, (sendBound_query port).run script faults⟩
  intro e he
  have := log_of_init (query_safe port (Net.init script faults)).2 e he
  cases e with
  | opened c tcp p r => exact this
  | send c p d f => exact this
  | recv c s g => exact this

/-- Against any single-datagram reply the log is exactly `open, send 01, receive`. -/
theorem C09_savage2_exchange (port : Nat) (d : Bytes) (hd : d.length ≤ 1024) :
    (query port (Net.init [.opened [.data d]] [])).2.log
      = [.opened 0 false port false, .send 0 port Spec.infoRequest false, .recv 0 none (some d.length)] := by
  rw [query_script port d hd]
  rfl
