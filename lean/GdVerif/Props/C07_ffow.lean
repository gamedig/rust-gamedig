import GdVerif.Lemmas.Ffow
/-
  C07 — single-game protocols map every field: Frontlines: Fuel of War.

  MODEL: `GdVerif/Proto/Ffow.lean` on top of `Proto/Valve.lean` (tied to games/ffow by the checks on every run).
  SPEC:  `GdVerif/Spec/Ffow.lean` (written from node-gamedig's `protocols/ffow.js`; big endian).
-/
open Gd Gd.Ffow Gd.Ffow.Spec

/-- For every server state in the specification's domain (six strings of any length, all byte fields over
0–255, both 16-bit fields over 0–65535, every server type / environment letter in either case) the parser returns
each field of the reply in the correspondingly named response field; the two-byte game port and the average-fps
byte are skipped, and `time_left` is the big-endian value. -/
theorem C07_ffow_decode (upper : Bool) (st : State) (h : wf st = true) :
    parseResponse.run (encode upper st) = .ok (expected st) :=
  (decodesEnd_response upper st h).run

/-- The whole query against a conforming server (`FFFFFFFF 49` + body in one datagram), for every port, retry
count and behaviour of the external decoders. -/
theorem C07_ffow (ext : Valve.Ext) (upper : Bool) (st : State) (h : wf st = true)
    (hlen : (replyPacket upper st).length ≤ 6144) (port retries : Nat) :
    (query ext port retries (Net.init [.opened [.data (replyPacket upper st)]] [])).1 = .ok (expected st) := by
  exact (query_script_fst ext port retries upper st hlen).trans (C07_ffow_decode upper st h)

/-- The byte order is the reference's: `01 2C` is 300 seconds (and 300 is sent as `01 2C`). -/
theorem C07_ffow_time_left_big_endian :
    Spec.be 2 300 = [0x01, 0x2C] ∧ (readUnsigned .big 2).run [0x01, 0x2C] = .ok 300 := by decide

-- non-vacuity
example :
    let st : State := ⟨2, [70], [109], [], [99], [100], [49], 5476, 3, 32, .dedicated, .windows, true, false, 60, 1, 5, 300⟩
    wf st = true ∧ (query ⟨fun _ => none, fun _ => 0⟩ 5478 0 (Net.init [.opened [.data (replyPacket true st)]] [])).1 = .ok (expected st) := by
  decide +kernel

