import GdVerif.Lemmas.Mindustry
/-
  C01 — hostile replies never crash or hang a query: Mindustry (`games::mindustry::query`).
-/
open Gd

/-- For EVERY script (any number of sockets, each refused or delivering any datagrams / silences, any send
faults), port and retry count the Mindustry query returns a response or an error, never a crash.  The model
is a total function (no fuel anywhere: one datagram per attempt, at most `retries + 1` attempts). -/
theorem C01_mindustry (port retries : Nat) (script : List ConnScript) (faults : List Bool) :
    (Mindustry.query port retries (Net.init script faults)).1 ≠ .crash :=
  ((Mindustry.logSafe_query port retries).run script faults).1

/-- The reply parser alone, on any bytes. -/
theorem C01_mindustry_parser (data : Bytes) : Mindustry.parseServerData.run data ≠ .crash :=
  Mindustry.safe_parseServerData.run_ne_crash data

/-- It also cannot hang: at most `retries + 1` datagrams are ever sent, whatever the server does. -/
theorem C01_mindustry_bounded (port retries : Nat) (script : List ConnScript) (faults : List Bool) :
    countSends (Mindustry.query port retries (Net.init script faults)).2.log ≤ retries + 1 :=
  (Mindustry.sendBound_query port retries).run script faults

-- non-vacuity: the witness of the decoder defect of DESIGN §5 (length byte 0xC8 with two bytes present) is in the quantifier
example : (Mindustry.query 6567 0 (Net.init [.opened [.data [0xC8, 0x41, 0x42]]] [])).1 = .err .packetBad := by
  decide
