import GdVerif.Proto.Valve
/-
  C10 — Retries: at most r+1 attempts, only after timeouts, same result.

  MODEL: `retryOnTimeout` in `GdVerif/Net.lean` (utils.rs `retry_on_timeout`) and the places the
  protocol models call it (the *units*).  An attempt is a run of the unit `f : Q α` on the
  current transport state; its outcome and the state it leaves are `f w`.

  The statements here are about the combinator alone and in terms of their own: `retryCounting` is `retryOnTimeout` with
  the attempts counted (`C10_counting_faithful`), `TimeoutChain` a run of failed attempts.  The proofs about whole queries
  (`C10_<family>_*`) use the run equations `retryOnTimeout_done / _again` of `Lemmas/QLogic.lean` through the rules
  `Ends.retry_recovers / retry_exhausted` of `Lemmas/QSteps.lean`.
-/
open Gd

/-- A chain of `n` consecutive attempts that all end in a timeout-class error, from state `w` to
state `w'`. -/
inductive TimeoutChain (f : Q α) : Nat → Net → Net → Prop
  | nil (w : Net) : TimeoutChain f 0 w w
  | cons {n : Nat} {w w1 w' : Net} {k : ErrKind} (h : f w = (.err k, w1)) (hk : k.isTimeout = true)
      (rest : TimeoutChain f n w1 w') : TimeoutChain f (n + 1) w w'

/-- `retryOnTimeout` instrumented with the number of attempts it makes -/
def retryCounting : Nat → Q α → Net → (Res α × Net) × Nat
  | 0, f, w => (f w, 1)
  | r + 1, f, w =>
    match f w with
    | (.err k, w') => if k.isTimeout then
        let (x, n) := retryCounting r f w'
        (x, n + 1)
      else ((.err k, w'), 1)
    | x => (x, 1)

/-- the instrumentation does not change the result -/
theorem C10_counting_faithful (r : Nat) (f : Q α) (w : Net) :
    (retryCounting r f w).1 = retryOnTimeout r f w := by
  induction r generalizing w with
  | zero => rfl
  | succ r ih =>
    simp only [retryCounting, retryOnTimeout]
    cases hf : f w with
    | mk res w' =>
      cases res with
      | ok a => rfl
      | crash => rfl
      | err k =>
        simp only
        split
        · rw [← ih w']
        · rfl

/-- Never more than `r + 1` attempts, whatever the unit does. -/
theorem C10_at_most_r_plus_one (r : Nat) (f : Q α) (w : Net) : (retryCounting r f w).2 ≤ r + 1 := by
  induction r generalizing w with
  | zero => simp [retryCounting]
  | succ r ih =>
    simp only [retryCounting]
    cases hf : f w with
    | mk res w' =>
      cases res with
      | ok a => simp
      | crash => simp
      | err k =>
        simp only
        split
        · have := ih w'; simp only; omega
        · simp

/-- After `L ≤ r` timed-out attempts, an attempt that does not time out (a valid reply, or a
malformed one) ends the unit with exactly that attempt's outcome after exactly `L + 1` attempts:
the result is the first non-timeout attempt's, and a malformed reply is never retried. -/
theorem C10_first_non_timeout_decides (r L : Nat) (f : Q α) (w wL w' : Net) (res : Res α)
    (hL : L ≤ r) (chain : TimeoutChain f L w wL) (hfin : f wL = (res, w'))
    (hnt : ∀ k, res = .err k → k.isTimeout = false) :
    retryCounting r f w = ((res, w'), L + 1) := by
  induction chain generalizing r with
  | nil w0 =>
    cases r with
    | zero => simp [retryCounting, hfin]
    | succ r =>
      simp only [retryCounting, hfin]
      cases res with
      | ok a => rfl
      | crash => rfl
      | err k => simp [hnt k rfl]
  | cons h hk rest ih =>
    rename_i n w0 w1 wl k
    cases r with
    | zero => omega
    | succ r =>
      simp only [retryCounting, h, hk, ↓reduceIte]
      rw [ih r (by omega) hfin]

/-- If the first `r + 1` attempts all time out, the unit fails with the last attempt's
timeout-class error after exactly `r + 1` attempts. -/
theorem C10_all_timeouts (r : Nat) (f : Q α) (w wr w' : Net) (k : ErrKind)
    (chain : TimeoutChain f r w wr) (hlast : f wr = (.err k, w')) (hk : k.isTimeout = true) :
    retryCounting r f w = ((.err k, w'), r + 1) := by
  induction chain with
  | nil w0 => simp [retryCounting, hlast]
  | cons h hk' rest ih =>
    simp only [retryCounting, h, hk', ↓reduceIte]
    rw [ih hlast]

/-- Timeout-class means exactly: nothing received, or could not send. -/
theorem C10_timeout_class (k : ErrKind) : k.isTimeout = true ↔ (k = .packetReceive ∨ k = .packetSend) := by
  cases k <;> simp [ErrKind.isTimeout]

/-- The retry count may be any natural number (in particular `usize::MAX`): there is no crash
branch in the combinator itself — a crash can only come from the unit. -/
theorem C10_no_crash_of_its_own (r : Nat) (f : Q α) (w : Net) (hf : ∀ w, (f w).1 ≠ .crash) :
    (retryOnTimeout r f w).1 ≠ .crash := by
  induction r generalizing w with
  | zero => exact hf w
  | succ r ih =>
    simp only [retryOnTimeout]
    cases h : f w with
    | mk res w' =>
      cases res with
      | ok a => simp
      | crash => exact absurd (by rw [h]) (hf w)
      | err k =>
        simp only
        split
        · exact ih w'
        · simp

/-- Valve: each request (with all its challenge rounds) is one retried unit. -/
theorem C10_valve_unit (ext : Valve.Ext) (s : Sock) (r : Nat) (engine : Valve.Engine) (protocol : Nat)
    (req : Valve.Request) :
    Valve.requestData ext s r engine protocol req
      = retryOnTimeout r (Valve.requestImpl ext s engine protocol req.kind req.defaultPayload) := rfl

-- non-vacuity: a unit that times out twice and then answers, with r = 2
example :
    let f : Q Nat := do let d ← recv ⟨0, 1, false⟩ none; pure d.length
    let w : Net := ⟨[], [[.silence, .silence, .data [1, 2, 3]]], [], []⟩
    (retryCounting 2 f w).1.1 = .ok 3 ∧ (retryCounting 2 f w).2 = 3 ∧ (retryCounting 1 f w).1.1 = .err .packetReceive := by
  decide
