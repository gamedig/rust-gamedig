import GdVerif.Lemmas.Unreal2Safe
import GdVerif.Spec.Unreal2
/-
  C09 (Unreal 2) — requests are the protocol's and go to the right port.  The format has no
  challenge; the three requests are `79 00 00 00 <kind>`.
-/
open Gd Gd.Unreal2

/-- The three requests are byte for byte the format's. -/
theorem C09_unreal2_request_bytes :
    requestBytes .serverInfo = Spec.request 0 ∧ requestBytes .mutatorsAndRules = Spec.request 1
    ∧ requestBytes .players = Spec.request 2
    ∧ Spec.request 0 = [0x79, 0, 0, 0, 0] ∧ Spec.request 1 = [0x79, 0, 0, 0, 1] ∧ Spec.request 2 = [0x79, 0, 0, 0, 2] := by
  decide +kernel

/-- Whatever the server does (any script, any send faults), everything the Unreal 2 query does to the
transport is: open one UDP socket to the port it was given; send one of the three requests to that
port from that socket; receive into the fixed 1024-byte buffer on that socket.  Nothing else. -/
theorem C09_unreal2_conforms (port : Nat) (g : Gather) (retries : Nat) (script : List ConnScript) (faults : List Bool) :
    ∀ e ∈ (query port g retries (Net.init script faults)).2.log,
      match e with
      | .opened c tcp p _ => c = 0 ∧ tcp = false ∧ p = port
      | .send c p data _ => c = 0 ∧ p = port ∧ ∃ kind : PacketKind, data = requestBytes kind
      | .recv c size _ => c = 0 ∧ size = some 1024 := by
  intro e he
  have := log_of_init (query_safe port g retries (Net.init script faults)).2 e he
  cases e with
  | opened c tcp p r => exact this
  | send c p d f => exact this
  | recv c s gt => exact this

/-- One attempt of a request: exactly the request's five bytes go out, then one datagram is awaited. -/
theorem C09_unreal2_attempt (s : Sock) (kind : PacketKind) :
    requestImpl s kind = (send s [0x79, 0, 0, 0, UInt8.ofNat kind.code] >>= fun _ => recv s (some 1024)) := rfl

/-- the log of a whole query satisfies `P` when opening the socket does and the body does -/
theorem query_log_all (P : Ev → Prop) (port : Nat) (g : Gather) (r : Nat)
    (hbody : ∀ s : Sock, s.tcp = false → QSafe s P (queryBody s g r)) (hopen : ∀ c tcp p rf, P (.opened c tcp p rf)) (w : Net) :
    ∃ added, (query port g r w).2.log = w.log ++ added ∧ ∀ e ∈ added, P e :=
  (openThen_safe false port (fun _ => P) (fun _ _ => hopen _ _ _ _) (fun s _ ht => hbody s ht) w).2

/-- A skipped section sends nothing: with both toggles on Skip the only request on the wire is the
server-info request (re-sent only after timeouts). -/
theorem C09_unreal2_skip_sends_info_only (port : Nat) (retries : Nat) (script : List ConnScript) (faults : List Bool) :
    ∀ e ∈ (query port ⟨.skip, .skip⟩ retries (Net.init script faults)).2.log,
      ∀ c p data f, e = .send c p data f → data = requestBytes .serverInfo := by
  let P : Ev → Prop := fun e => ∀ c p data f, e = Ev.send c p data f → data = requestBytes .serverInfo
  have hinfo : ∀ s : Sock, QSafe s P (queryBody s ⟨.skip, .skip⟩ retries) := by
    intro s
    unfold queryBody queryServerInfo requestData requestImpl
    refine QSafe.bind (QSafe.bind (QSafe.retry (QSafe.bind (QSafe.send s _ _ ?_) fun _ => QSafe.recv s _ _ ?_) _) fun _ =>
      QSafe.parse _ _ (Safe.bind (safe_consumeHeaders _) fun _ => safe_parseServerInfo) _) fun _ =>
      QSafe.bind (QSafe.pure _ _ _) fun _ => QSafe.bind (QSafe.pure _ _ _) fun _ => QSafe.pure _ _ _
    · intro failed c p data f h; cases h; rfl
    · intro got c p data f h; cases h
  exact log_of_init (P := fun _ => P) (query_log_all P port ⟨.skip, .skip⟩ retries (fun s _ => hinfo s)
    (fun _ _ _ _ c p data f h => by cases h) (Net.init script faults))

example : Allowed (requestBytes .players) := ⟨.players, rfl⟩
