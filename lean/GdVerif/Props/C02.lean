import GdVerif.Lemmas.Valve
/-
  C02 — Valve A2S replies are decoded field for field.

  MODEL: `GdVerif/Proto/Valve.lean` (tied to protocols/valve by `props/c02.py` on every run).
  SPEC:  `GdVerif/Spec/Valve.lean` (encoders written from Valve's "Server queries" page).
-/
open Gd Gd.Valve Gd.Valve.Spec

/-- `A2S_INFO`, Source layout: for every server state in the specification's domain (all 32
extra-data flag combinations, either case of the type bytes, The Ship fields exactly when the
engine is The Ship's), parsing the specified encoding returns the state, field for field. -/
theorem C02_info_source (engine : Engine) (upper : Bool) (i : ServerInfo)
    (h : wfSourceInfo engine i = true) :
    (parseSourceInfo engine).run (encSourceInfo upper i) = .ok i :=
  (decodesEnd_sourceInfo engine upper i h).run

/-- `A2S_INFO`, obsolete GoldSrc layout (with and without mod data). -/
theorem C02_info_goldsrc (address : Bytes) (i : ServerInfo) (h : wfGoldSrcInfo address i = true) :
    parseGoldSrcInfo.run (encGoldSrcInfo address i) = .ok i :=
  (decodes_goldSrcInfo address i h).run

/-- `A2S_PLAYER`: every player (0–255 of them), in order, with The Ship's extra fields exactly
when the engine is The Ship's. -/
theorem C02_players (engine : Engine) (ps : List ServerPlayer) (hl : ps.length < 256)
    (h : ∀ p ∈ ps, wfPlayer (engine == Engine.new 2400) p = true) :
    (parsePlayers engine).run (encPlayers ps) = .ok ps :=
  (decodes_players engine ps hl h).run

/-- `A2S_RULES`: every rule (0–65535, distinct names) under its name; for Risk of Rain 2 the rule
`Test` is dropped, as documented. -/
theorem C02_rules (engine : Engine) (rs : Rules) (hl : rs.length < 65536)
    (h : ∀ r ∈ rs, okStr r.1 = true ∧ okStr r.2 = true) (hd : distinctKeys rs = true) :
    (parseRules engine).run (encRules rs) = .ok (expectedRules engine rs) :=
  (decodes_rules engine rs hl h hd).run

/-- The extra-data block alone, for all 32 flag subsets: the app id is taken from the low 24 bits
of the GameID when that is present and from the 16-bit field otherwise. -/
theorem C02_extra_data (a16 : Nat) (e : ExtraData) (hw : wfExtra e = true) :
    (parseExtra a16).run (encExtra e)
      = .ok (some e, match e.gameId with
          | some gid => gid % 2 ^ 24
          | none => a16) :=
  (decodesEnd_extra a16 (some e) hw).run

-- non-vacuity: a concrete state with all five extra-data fields satisfies the hypotheses and decodes
example :
    let i : ServerInfo := ⟨17, [84, 70, 50], [99, 112], [116, 102], [84, 70], 440, 3, 24, 1,
      .dedicated, .linux, false, true, none, [49], some ⟨some 27015, some 5, some 27020, some [116, 118],
        some [97, 44, 98], some (440 + 2 ^ 24 * 9)⟩, false, none⟩
    wfSourceInfo (Engine.new 440) i = true ∧ (parseSourceInfo (Engine.new 440)).run (encSourceInfo false i) = .ok i := by
  decide +kernel
