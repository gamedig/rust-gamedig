import GdVerif.Lemmas.MasterSound
import GdVerif.Props.C16
/-
  C09 — requests are the protocol's and go to the right port: the Valve master-server service.

  What the Rust does about the address: `valve_master_server::{query, query_singular}` take no address; they open ONE
  UDP socket to `default_master_address()` = 208.64.201.194:27011 (hl2master.steampowered.com) and every datagram is
  sent through that socket, i.e. to that address.  The model's events carry the port (`masterPort`); the IP is
  compared by the harness on every case (`@WRONGIP` in the trace if an operation names another address).
-/
open Gd Gd.Master

/-- The port is 27011, the first request is seeded with the text `0.0.0.0:0`, and a request is
`'1' region seed-ip ':' seed-port NUL filter` (Master Server Query Protocol). -/
theorem C09_master_literals (region : Nat) (fb : Bytes) :
    masterPort = 27011
    ∧ constructPayload region fb zeroIp 0 = [0x31, UInt8.ofNat region] ++ asciiBytes "0.0.0.0:0" ++ [0] ++ fb := by
  refine ⟨rfl, ?_⟩
  have e1 : zeroIp ++ [58] ++ natDec 0 = asciiBytes "0.0.0.0:0" := by decide +kernel
  simp only [constructPayload, List.append_assoc] at e1 ⊢
  rw [← e1]
  rfl

/-- Whatever the server does (any script, any send faults), for every region and filter set: every event the
complete query logs is on the one UDP socket it opened (number 0), which is addressed to port 27011; every datagram
sent is the request for that region and those filter bytes, seeded with `0.0.0.0:0` or with the text `a.b.c.d:port`
of an address; every receive uses the 1400-byte buffer; nothing else is done to the transport. -/
theorem C09_master_conforms (region : Nat) (fs : Option SearchFilters) (script : List ConnScript) (faults : List Bool) :
    ∀ e ∈ (Master.query region fs (Net.init script faults)).2.log,
      match e with
      | .opened c tcp p _ => c = 0 ∧ tcp = false ∧ p = 27011
      | .send c p data _ => c = 0 ∧ p = 27011 ∧
          (data = constructPayload region (filterBytesOf fs) zeroIp 0
           ∨ ∃ a : Addr, data = constructPayload region (filterBytesOf fs) (ipText a.1) a.2)
      | .recv c size _ => c = 0 ∧ size = some 1400 := by
  intro e he
  have := (query_safe region fs script faults).2 e he
  cases e with
  | opened c tcp p r => exact this
  | send c p d f => exact this
  | recv c s g => exact this

/-- The single-page query: the same socket and port; the only datagram it ever sends is the request seeded with
`0.0.0.0:0`. -/
theorem C09_master_singular_conforms (region : Nat) (fs : Option SearchFilters) (script : List ConnScript)
    (faults : List Bool) :
    ∀ e ∈ (Master.querySingular region fs (Net.init script faults)).2.log,
      match e with
      | .opened c tcp p _ => c = 0 ∧ tcp = false ∧ p = 27011
      | .send c p data _ => c = 0 ∧ p = 27011 ∧ data = constructPayload region (filterBytesOf fs) zeroIp 0
      | .recv c size _ => c = 0 ∧ size = some 1400 := by
  intro e he
  have hok := (querySingular_safe region fs script faults).2 e he
  cases e with
  | opened c tcp p r => exact hok
  | recv c s g => exact hok
  | send c p d f =>
    refine ⟨hok.1, hok.2.1, ?_⟩
    rw [querySingular_log] at he
    unfold singularLog at he
    cases hfc : firstConn script with
    | none => rw [hfc] at he; simp at he
    | some ds =>
      rw [hfc] at he
      simp only [List.mem_cons, reduceCtorEq, false_or] at he
      obtain ⟨failed, h | ⟨got, h⟩⟩ := firstRound msock region (filterBytesOf fs) ds faults zeroIp 0
      all_goals
        rw [h] at he
        simp only [List.mem_cons, List.not_mem_nil, or_false, reqEv, replyEv, Ev.send.injEq, reduceCtorEq] at he
        exact he.2.2.1

/-- The WHOLE log of the complete query, for every script and fault vector, is `queryLog`: the socket is opened
(or refused: then nothing is sent); then request/reply rounds — the first request seeded with `0.0.0.0:0`, each
follow-up request seeded with `nextSeed` of the datagram just received; the run ends at a failed send, at a receive
that times out, or at a reply that calls for no follow-up.  Nothing else is sent. -/
theorem C09_master_log (region : Nat) (fs : Option SearchFilters) (script : List ConnScript) (faults : List Bool) :
    (Master.query region fs (Net.init script faults)).2.log = queryLog region (filterBytesOf fs) script faults :=
  query_log region fs script faults

/-- The single-page query logs the first round of the complete query and nothing more. -/
theorem C09_master_singular_log (region : Nat) (fs : Option SearchFilters) (script : List ConnScript)
    (faults : List Bool) :
    (Master.querySingular region fs (Net.init script faults)).2.log
      = singularLog region (filterBytesOf fs) script faults :=
  querySingular_log region fs script faults

/-- What `nextSeed` is: a follow-up request is made exactly when the datagram received decodes as a page whose last
address is neither the terminator `0.0.0.0:0` nor the seed of the request it answers — and it is seeded with that
last address. -/
theorem C09_master_seed_is_last (ip : Bytes) (port : Nat) (data : Bytes) (a : Addr) :
    nextSeed ip port data = some a ↔
      ∃ page, parsePage.run data = .ok page ∧ page.getLast? = some a
        ∧ ¬(ipText a.1 = zeroIp ∧ a.2 = 0) ∧ ¬(ipText a.1 = ip ∧ a.2 = port) :=
  nextSeed_iff ip port data a

/-- The same at the level of bytes (the parser accepts exactly the protocol's page encoding, `parsePage_sound` /
`C16_page_decodes`): a follow-up request is made exactly when the datagram received IS `FF FF FF FF 66 0A` followed by
the 6-byte encodings of a non-empty list of entries whose last address is neither `0.0.0.0:0` nor the seed of the
request it answers — and it is seeded with that last address. -/
theorem C09_master_seed_is_last_of_datagram (ip : Bytes) (port : Nat) (data : Bytes) (a : Addr) :
    nextSeed ip port data = some a ↔
      ∃ es, data = encPage es ∧ (∀ x ∈ es, WFAddr x) ∧ es.getLast? = some a
        ∧ ¬(ipText a.1 = zeroIp ∧ a.2 = 0) ∧ ¬(ipText a.1 = ip ∧ a.2 = port) :=
  nextSeed_spec ip port data a

/-- Every request of a query, read back by the reference grammar of the Master Server Query Protocol, denotes the
region, the seed text `a.b.c.d:port` and exactly the filters of each group — for every iteration order of the three
hash maps (C16's theorem at the seeds the paging loop uses). -/
theorem C09_master_request_reads_back (region : Nat) (hr : region < 256) (a : Addr) (P A O : FMap)
    (hP : ∀ f ∈ P, f.WF) (hA : ∀ f ∈ A, f.WF) (hO : ∀ f ∈ O, f.WF) (hAl : A.length < 2 ^ 64) (hOl : O.length < 2 ^ 64) :
    Spec.parse (constructPayload region (toBytesOrdered P A O) (ipText a.1) a.2)
      = some ⟨region, ipText a.1 ++ [58] ++ natDec a.2, P.filterMap Filter.kv, A.filterMap Filter.kv,
          O.filterMap Filter.kv⟩ :=
  C16_request_denotes region hr (ipText a.1) (ipText_no_nul a.1) a.2 P A O hP hA hO hAl hOl

/-- Tie to C16's seeding theorem: on every well-formed history of reply pages the rounds are exactly C16's
`pagingLog` over `seedsFrom` — one request per page, each follow-up seeded with the last address of the page before. -/
theorem C09_master_rounds_on_history (region : Nat) (fs : Option SearchFilters) (h : History)
    (hfin : ∀ a ∈ h.final, WFAddr a) (hfl : h.final.length ≤ 231) (hnt : h.terminated = false → h.final = [])
    (hwf : wfPages zeroIp 0 h.pages) (rest : List Delivery) :
    roundsLog msock region (filterBytesOf fs)
        (h.pages.map (fun p => Delivery.data (encPage p)) ++ .data (encPage h.finalPage) :: rest) [] zeroIp 0
      = pagingLog region (filterBytesOf fs) (seedsFrom zeroIp 0 h.pages) (h.pages ++ [h.finalPage]) := by
  have h1 := C16_paging_complete region fs h hfin hfl hnt hwf rest
  have h2 := query_log region fs [.opened (h.pages.map (fun p => Delivery.data (encPage p))
    ++ .data (encPage h.finalPage) :: rest)] []
  rw [h1] at h2
  simp only [world, queryLog, firstConn, List.cons_append, List.nil_append, List.cons.injEq, true_and] at h2
  exact h2.symm

-- non-vacuity: two pages and the terminator; the second request is seeded with the last address of the first page
example : (Master.query 255 none (Net.init [.opened [
      .data [0xFF, 0xFF, 0xFF, 0xFF, 0x66, 0x0A, 1, 2, 3, 4, 0x69, 0x87, 5, 6, 7, 8, 0, 80],
      .data [0xFF, 0xFF, 0xFF, 0xFF, 0x66, 0x0A, 9, 9, 9, 9, 0x69, 0x88, 0, 0, 0, 0, 0, 0]]] [])).2.log
    = [.opened 0 false 27011 false,
       .send 0 27011 ([0x31, 0xFF] ++ asciiBytes "0.0.0.0:0" ++ [0, 0]) false, .recv 0 (some 1400) (some 18),
       .send 0 27011 ([0x31, 0xFF] ++ asciiBytes "5.6.7.8:80" ++ [0, 0]) false, .recv 0 (some 1400) (some 18)] := by
  rw [asciiBytes_ofList, asciiBytes_ofList]
  decide +kernel

-- a failing send ends the query with that one event; a refused socket sends nothing
example : (Master.query 0 none (Net.init [.opened [.data [0xFF, 0xFF, 0xFF, 0xFF, 0x66, 0x0A]]] [true])).2.log
    = [.opened 0 false 27011 false, .send 0 27011 ([0x31, 0] ++ asciiBytes "0.0.0.0:0" ++ [0, 0]) true] := by
  rw [asciiBytes_ofList]
  decide +kernel
example : (Master.query 0 none (Net.init [.refused] [])).2.log = [.opened 0 false 27011 true] := by decide +kernel

-- `nextSeed` on a page ending with a fresh address / with the terminator
example : nextSeed zeroIp 0 [0xFF, 0xFF, 0xFF, 0xFF, 0x66, 0x0A, 1, 2, 3, 4, 0x69, 0x87] = some ((1, 2, 3, 4), 27015) := by
  decide +kernel
example : nextSeed zeroIp 0 [0xFF, 0xFF, 0xFF, 0xFF, 0x66, 0x0A, 1, 2, 3, 4, 0x69, 0x87, 0, 0, 0, 0, 0, 0] = none := by
  decide +kernel
