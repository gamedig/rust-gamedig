import GdVerif.Lemmas.Http
/-
  C18 — no accepted configuration can panic: the HTTP client's use of the timeout settings.

  MODEL: `GdVerif/Proto/Http.lean: new` (`AgentBuilder::timeout_read / timeout_write / timeout_connect` are called with the
  durations of the settings, each only when the settings carry it; nothing else is done with a duration).  Tied on every
  run: the real client with durations of every magnitude (1 ns write, years, `u64::MAX` seconds + 999 999 999 ns, none, mixed)
  against a loopback listener that answers (`http-plan`, generator `httpdur`), and which duration bounds which wait is
  measured by the C12 cases (read: a mute peer; connect: a listener that does not answer the connection attempt; the write
  timeout cannot be made to elapse on a loopback socket — a request head always fits the send buffer —, it is covered by the
  theorem only).
-/
open Gd Gd.Http

/-- THE DURATIONS REACH THE AGENT UNCHANGED, EACH AT ITS OWN PLACE, for every settings value (any durations whatever, zero
and beyond `u64` included: the statement does not even need them to be accepted ones), address, host name, protocol and
headers: the agent's read timeout is the settings' read duration, its write timeout the write duration, its connect timeout
the connect duration; a duration the settings leave out stays at the builder's own value (none for read and write, `ureq`'s
30 s for connect); no deadline for the whole request is set (nothing is added up). -/
theorem C18_http_durations_reach_the_agent (idna : Bytes → Option Bytes) (ua : Bytes) (address : SocketAddr)
    (t : Settings.Timeout) (hs : HttpSettings) (client : Client) (h : Http.new idna ua address (some t) hs = .ok client) :
    client.agent.timeoutRead = t.read
    ∧ client.agent.timeoutWrite = t.write
    ∧ client.agent.timeoutConnect = (match t.connect with | some c => some c | none => some ⟨30, 0⟩)
    ∧ client.agent.timeoutOverall = none := by
  obtain ⟨_, _, hov, hr, hw, _⟩ := new_ok h
  exact ⟨hr, hw, new_ok_connect h, hov⟩

/-- Without settings: the defaults (4 s each), again each at its own place. -/
theorem C18_http_default_durations (idna : Bytes → Option Bytes) (ua : Bytes) (address : SocketAddr)
    (hs : HttpSettings) (client : Client) (h : Http.new idna ua address none hs = .ok client) :
    client.agent.timeoutRead = Settings.default.read ∧ client.agent.timeoutWrite = Settings.default.write
    ∧ client.agent.timeoutConnect = Settings.default.connect ∧ client.agent.timeoutOverall = none := by
  obtain ⟨_, _, hov, hr, hw, hc, _⟩ := new_ok h
  exact ⟨hr, hw, hc, hov⟩

/-- NOTHING IS COMPUTED FROM THE DURATIONS: whether a client is built, its URL, its headers, its resolver and its user agent
are the same for any two timeout settings … -/
theorem C18_http_durations_are_inert (idna : Bytes → Option Bytes) (ua : Bytes) (address : SocketAddr)
    (ts ts' : Option Settings.Timeout) (hs : HttpSettings) :
    match Http.new idna ua address ts hs, Http.new idna ua address ts' hs with
    | .ok c, .ok c' => c.address = c'.address ∧ c.headers = c'.headers ∧ c.agent.userAgent = c'.agent.userAgent
        ∧ (∀ n, c.agent.resolver n = c'.agent.resolver n)
    | .err k, .err k' => k = k'
    | _, _ => False := by
  unfold Http.new
  simp only []
  cases hpu : parseUrl idna hs.protocol
      (asciiBytes "//" ++ (match hs.hostname with | some h => h | none => ipHostText address.ip) ++ [58] ++ natDec address.port) with
  | ok u => exact ⟨rfl, rfl, rfl, fun _ => rfl⟩
  | err k => rfl
  | crash => exact absurd hpu (parseUrl_total idna _ _).1

/-- … and what a request does — the request made, its result, the steps that time out — depends on the client's URL and headers
and on the wire only, not on the agent's timeouts. -/
theorem C18_http_requests_ignore_durations {α : Type} (c c' : Client) (ha : c.address = c'.address) (hh : c.headers = c'.headers)
    (w : Wire) (json : Bytes → Option α) (method path : Bytes) (headers : List (Bytes × Bytes)) :
    c.requestJson w json method path headers = c'.requestJson w json method path headers
    ∧ c.request w method path headers = c'.request w method path headers := by
  constructor <;> simp [Client.requestJson, Client.request, Client.makeRequest, ha, hh]

/-- NO PANIC, whatever the settings (accepted or not), address, host name, path, headers, wire behaviour and deserialiser:
building the client, `get_json`, `get` and the Eco query end with a value or an error. -/
theorem C18_http_no_panic {α : Type} (idna : Bytes → Option Bytes) (ua : Bytes) (address : SocketAddr)
    (ts : Option Settings.Timeout) (hs : HttpSettings) (w : Wire) (json : Bytes → Option α) (jsonEco : Bytes → Option Eco.Info)
    (method path : Bytes) (headers : List (Bytes × Bytes)) (port : Option Nat) (extra : Option Eco.RequestSettings) :
    Http.new idna ua address ts hs ≠ .crash
    ∧ (∀ client : Client, (client.requestJson w json method path headers).2.1 ≠ .crash
        ∧ (client.request w method path headers).2.1 ≠ .crash)
    ∧ (Eco.query idna ua w jsonEco address.ip port ts extra).2.1 ≠ .crash := by
  refine ⟨(new_total idna ua address ts hs).1, fun client => ⟨requestJson_no_crash client w json method path headers, request_no_crash client w method path headers⟩, ?_⟩
  simp only [Eco.query]
  have hnew := new_total idna ua ⟨address.ip, port.getD Eco.DEFAULT_PORT⟩ ts (extra.getD {}).toHttp
  split
  · rename_i client hn
    have := requestJson_no_crash client w jsonEco GET (asciiBytes Eco.PATH) []
    cases hr : (client.requestJson w jsonEco GET (asciiBytes Eco.PATH) []).2.1 with
    | ok v => simp [Res.bind]
    | err k => simp [Res.bind]
    | crash => exact absurd hr this
  · simp
  · rename_i hn
    exact absurd hn hnew.1

-- non-vacuity: settings with extreme durations are accepted by `TimeoutSettings::new`, the client is built and carries them
example :
    let big : Settings.Duration := ⟨18446744073709551615, 999999999⟩
    let ns : Settings.Duration := ⟨0, 1⟩
    Settings.new (some big) (some ns) none 0 = .ok ⟨none, some big, some ns, 0⟩
    ∧ ((Http.new (fun _ => none) [] ⟨.v4 127 0 0 1, 3001⟩ (some ⟨none, some big, some ns, 0⟩) {}).toOption.map
        fun c => (c.agent.timeoutRead, c.agent.timeoutWrite, c.agent.timeoutConnect, c.agent.timeoutOverall))
      = some (some big, some ns, some ⟨30, 0⟩, none) := by
  decide +kernel
