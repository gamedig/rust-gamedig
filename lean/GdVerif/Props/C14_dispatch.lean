import GdVerif.Props.C14
import GdVerif.Lemmas.Dispatch
/-
  C14 for the whole dispatch — every arm of `games::query::query_with_timeout_and_extra_settings`
  (`Proto/Dispatch.lean`), over the GENERATED tables (`Gen.gameDefs`, `Gen.gameMods`: regenerated from
  games/definitions.rs and the game modules on every run, so every theorem below is re-checked against what
  the source says now).

  (a) generic path = the protocol's own query function with the row's parameters;
  (b) generic path = the game's module, derived from the table agreement `C14_tables_agree`;
  (c) destination port of every logged open / send.
  Eco's HTTP client is a parameter of this model (`Ext.ecoFetch`; `Proto/Http.lean` models it separately and is not
  connected to it by a theorem): (a) and (b) hold for every behaviour of it, (c) for every behaviour that talks to the
  port it is given (`EcoSafe`).
-/
open Gd Gd.Dispatch Gd.Gen

/-! ### the tables, as far as the dispatch needs them -/

/-- Every row of both generated tables is modelled: every definition is a `Game` (a protocol arm of the dispatch
model), every module row is a `Module` (a kind of module of the model). -/
theorem C14_dispatch_rows_modelled :
    (gameDefs.all fun d => (Game.ofRow d).isSome) = true ∧ (gameMods.all fun m => (Module.ofRow m).isSome) = true :=
  ⟨gameDefs_modelled, by decide +kernel⟩

/-- The default ports in every module row are the ones the module's model applies: for the `game_query_mod!`
rows by construction, for the hand-written modules this compares the number the translator read in the module's
source (`port.unwrap_or(n)`, `port_or_java_default`, `port_or_bedrock_default`) with the literal of its model. -/
theorem C14_dispatch_module_ports : (gameMods.all modPortsOk) = true := by decide +kernel

/-- Every definition of an arm that hands the optional port on to the game's own function (`ownDefaultPort`) has the row
of its hand-written module in the module table.  (`m.hand` comes first: only a hand-written row can be that module's.) -/
theorem C14_dispatch_own_module :
    (gameDefs.all fun d => ((protocolOf d.tag).bind ownDefaultPort).isNone
      || gameMods.any fun m => m.hand && sameGame d m) = true := by
  decide +kernel

/-- what `C14_tables_agree` says about one pair of rows -/
theorem C14_dispatch_rows_agree {d m : GameRow} (hd : d ∈ gameDefs) (hm : m ∈ gameMods) (hs : sameGame d m = true) :
    rowsAgree d m = true := by
  have h := List.all_eq_true.mp (List.all_eq_true.mp C14_tables_agree d hd) m hm
  simp only [hs, Bool.not_true, Bool.false_or, Bool.and_eq_true] at h
  simp only [rowsAgree, Bool.and_eq_true]
  exact ⟨h.1.1.1.1, h.2⟩

/-- For every definition: when the arm hands the optional port on, the default its callee applies IS the row's
default port — derived from the table agreement and the module rows, not assumed. -/
theorem C14_dispatch_own_default {d : GameRow} (hd : d ∈ gameDefs) {game : Game} (hg : Game.ofRow d = some game)
    (p : Nat) (hp : ownDefaultPort game.protocol = some p) : p = d.port := by
  have hproto := (Game.ofRow_eq_some hg).1
  have h := List.all_eq_true.mp C14_dispatch_own_module d hd
  simp only [hproto, Option.bind_some, hp, Option.isNone_some, Bool.false_or, List.any_eq_true, Bool.and_eq_true] at h
  obtain ⟨m, hm, hhand, hs⟩ := h
  -- the two rows have the same port and tag
  have hrows := C14_dispatch_rows_agree hd hm hs
  simp only [rowsAgree, Bool.and_eq_true, beq_iff_eq] at hrows
  rw [hrows.1]
  exact ownDefault_eq_port hhand (hrows.2 ▸ hproto) hp (List.all_eq_true.mp C14_dispatch_module_ports m hm)

/-! ### (a) generic path = protocol path -/

/-- For every row of the definitions table: the definition-driven query and the protocol's own query function
called with the row's parameters (the row's default port when none is given, its engine and request settings; the
caller's timeout and extra settings) are the same computation on EVERY transport state — same result, same log
(sockets, destination ports, request bytes in order, receives) — port given or omitted, any retry count, any extra
settings, any behaviour of the external decoders and of the HTTP client. -/
theorem C14_dispatch_generic_eq_protocol {d : GameRow} (hd : d ∈ gameDefs) {game : Game} (hg : Game.ofRow d = some game)
    (ext : Ext) (port : Option Nat) (timeout : Option Settings.Timeout) (extra : Option Extra) (w : Net) :
    generic ext game port timeout extra w
      = protocolQuery ext game.protocol game.requestSettings extra (port.getD d.port) timeout w := by
  have hdp := (Game.ofRow_eq_some hg).2.1
  rw [generic_eq_protocol ext game port timeout extra
    (fun _ p hp => (C14_dispatch_own_default hd hg p hp).trans hdp.symm), hdp]

/-- The same for ANY definition one could add to the table, as long as the default of an arm that hands the
optional port on is the definition's. -/
theorem C14_dispatch_generic_eq_protocol_any (ext : Ext) (game : Game) (port : Option Nat)
    (timeout : Option Settings.Timeout) (extra : Option Extra)
    (hport : port = none → ∀ p, ownDefaultPort game.protocol = some p → p = game.defaultPort) (w : Net) :
    generic ext game port timeout extra w
      = protocolQuery ext game.protocol game.requestSettings extra (port.getD game.defaultPort) timeout w := by
  rw [generic_eq_protocol ext game port timeout extra hport]

/-! ### (b) generic path = module path -/

/-- For every pair (definition row, module row) of the generated tables that belong to the same game: the
definition-driven query with no extra settings and default timeouts, seen through the documented conversion
(`game::Response::new_from_valve_response` for the Valve game modules, nothing otherwise), and the module's `query`
are the same computation on EVERY transport state, port given or omitted.  Derived from `C14_tables_agree`.
Two exclusions, both recorded findings: `battalion1944` (its module post-processes the rules), and the Minecraft
auto-detect function when the port is omitted (its Bedrock probe has its own default, see below). -/
theorem C14_dispatch_generic_eq_module {d m : GameRow} (hd : d ∈ gameDefs) (hm : m ∈ gameMods) (hs : sameGame d m = true)
    {game : Game} {mo : Module} (hg : Game.ofRow d = some game) (hmo : Module.ofRow m = some mo)
    (hb : mo ≠ .battalion1944) (port : Option Nat) (hauto : mo = .minecraft none → port ≠ none)
    (ext : Ext) (w : Net) :
    Games.mapQ Response.view (generic ext game port none none) w = moduleQuery ext mo port w := by
  rw [generic_eq_module ext d m (C14_dispatch_rows_agree hd hm hs) (List.all_eq_true.mp C14_dispatch_module_ports m hm)
    game mo hg hmo hb port (fun h1 h2 => absurd h2 (hauto h1))]

/-- Minecraft auto-detect, port omitted: the paths agree exactly when the module's Bedrock probe has the same
default as its other probes (`port2 = port` in the module's row) — which the generated row refutes. -/
theorem C14_dispatch_minecraft_auto_rows :
    (gameMods.all fun m => !(m.tag == .minecraft .auto) || !(m.port2 == m.port)) = true := by decide +kernel

/-! ### (c) destination port -/

/-- For every row of the definitions table, every script, fault vector, timeout and extra settings: every socket the
definition-driven query opens and every datagram / stream write it sends goes to the given port, or to the ROW's
default port when none is given — for all arms (for the arms that hand the port on, because their own default is
the row's: `C14_dispatch_own_default`). -/
theorem C14_dispatch_destination_port {d : GameRow} (hd : d ∈ gameDefs) {game : Game} (hg : Game.ofRow d = some game)
    (ext : Ext) (heco : EcoSafeFor ext game.protocol) (port : Option Nat) (timeout : Option Settings.Timeout)
    (extra : Option Extra) (script : List ConnScript) (faults : List Bool) :
    ∀ e ∈ (generic ext game port timeout extra (Net.init script faults)).2.log,
      match e with
      | .opened _ _ p _ => p = port.getD d.port
      | .send _ p _ _ => p = port.getD d.port
      | .recv _ _ _ => True := by
  have hdp : destPort game port = port.getD d.port := by
    have hdef := (Game.ofRow_eq_some hg).2.1
    unfold destPort
    cases hown : ownDefaultPort game.protocol with
    | none => simp [hdef]
    | some p => simp [C14_dispatch_own_default hd hg p hown]
  intro e he
  have := log_of_init (P := fun _ => _) (generic_logSafe ext game heco port timeout extra (Net.init script faults)).2 e he
  rw [hdp] at this
  cases e <;> exact this

/-! ### non-vacuity: concrete rows of the generated table -/

-- the rows are there, with the parameters the theorems use
example : (⟨"teamfortress2", "Team Fortress 2", 27015, "valve", "S:440", "ttT", true, 27015, false,
    .valve (.source 440 none) .try_ .try_ true⟩ : GameRow) ∈ gameDefs := by decide +kernel
example : (gameDefs.find? (·.id == "minecraft")).bind Game.ofRow
    = some ⟨25565, .proprietary (.minecraft none), valveIntoExtra Valve.Gather.default⟩ := by decide +kernel
example : (gameDefs.find? (·.id == "q3a")).bind Game.ofRow
    = some ⟨27960, .quake .three, valveIntoExtra Valve.Gather.default⟩ := by decide +kernel
example : (gameDefs.find? (·.id == "aapg")).bind Game.ofRow
    = some ⟨27020, .valve (Valve.Engine.new 203290), valveIntoExtra ⟨.enforce, .skip, true⟩⟩ := by decide +kernel
example : (gameMods.find? (·.id == "savage2")).bind Module.ofRow = some .savage2 := by decide +kernel
example : (gameMods.find? (·.id == "battalion1944")).bind Module.ofRow = some .battalion1944 := by decide +kernel
example : (gameMods.find? (·.id == "ut2004")).bind Module.ofRow = some (.unreal2 7778) := by decide +kernel

-- the extra-settings rule of the Valve arm: the caller's settings replace the definition's (aapg enforces players
-- and skips rules; a caller who sets nothing gets the protocol's defaults, not the definition's)
example (ext : Ext) (w : Net) :
    generic ext ⟨27020, .valve (Valve.Engine.new 203290), valveIntoExtra ⟨.enforce, .skip, true⟩⟩ none none
        (some ⟨none, none, none, none, none⟩) w
      = boxed .valve (Valve.query ext.valve 27020 (Valve.Engine.new 203290) Valve.Gather.default 0) w := rfl
example (ext : Ext) (w : Net) :
    generic ext ⟨27020, .valve (Valve.Engine.new 203290), valveIntoExtra ⟨.enforce, .skip, true⟩⟩ (some 1) none none w
      = boxed .valve (Valve.query ext.valve 1 (Valve.Engine.new 203290) ⟨.enforce, .skip, true⟩ 0) w := rfl

-- Savage 2, port omitted, a silent server: one datagram to the row's port 11235, whichever path
example (ext : Ext) :
    (generic ext ⟨11235, .proprietary .savage2, valveIntoExtra Valve.Gather.default⟩ none none none
      (Net.init [.opened [.silence]] [])).2.log
      = [.opened 0 false 11235 false, .send 0 11235 [0x01] false, .recv 0 none none] := rfl
example (ext : Ext) :
    (moduleQuery ext .savage2 none (Net.init [.opened [.silence]] [])).2.log
      = [.opened 0 false 11235 false, .send 0 11235 [0x01] false, .recv 0 none none] := rfl

/-! ### the two recorded findings, in the model -/

/-- the driver-independent stand-ins used by the closed examples below (no decoder, no HTTP client is reached) -/
def C14_dispatch_noExt : Ext :=
  ⟨⟨fun _ => none, fun _ => 0⟩, ⟨fun _ => none, fun _ => []⟩, fun _ _ _ => Q.fail .socketConnect⟩

/-- Minecraft auto-detect with the port omitted (finding `paths-differ:generic-vs-module:minecraft:port`): under the
same scripted server (Java stream closed at once, Bedrock silent, legacy refused / closed / refused) both paths fail
with `AutoQuery` after the same requests, but the generic path sends its Bedrock probe to the definition's port 25565
and the module to Bedrock's own default 19132. -/
theorem C14_dispatch_minecraft_auto_port_omitted :
    let script : List ConnScript := [.opened [], .opened [.silence, .silence], .refused, .opened [], .refused]
    let game : Game := ⟨25565, .proprietary (.minecraft none), valveIntoExtra Valve.Gather.default⟩
    ((generic C14_dispatch_noExt game none none none (Net.init script [])).2.log.filterMap fun e =>
        match e with | .opened _ false p _ => some p | _ => none) = [25565]
    ∧ ((moduleQuery C14_dispatch_noExt (.minecraft none) none (Net.init script [])).2.log.filterMap fun e =>
        match e with | .opened _ false p _ => some p | _ => none) = [19132] := by
  decide +kernel

/-- Battalion 1944 (finding `paths-differ:generic-vs-module:battalion1944:result`): the module is the generic path
of the `battalion1944` row followed by the `bat_*` rule overrides (`Battalion.applyOverrides`), which the generic
path does not have. -/
theorem C14_dispatch_battalion (ext : Ext) (port : Option Nat) (w : Net) :
    moduleQuery ext .battalion1944 port w
      = (generic ext ⟨7780, .valve (Valve.Engine.new 489940), valveIntoExtra Valve.Gather.default⟩ port none none
          >>= fun r => match r with
            | .valve v => Q.lift (Battalion.applyOverrides v) >>= fun v' => pure (.valveGame (Games.gameView v'))
            | other => pure other) w := by
  have h : valveQuery ext.valve (port.getD 7780) (Valve.Engine.new 489940)
      ((none.orElse fun _ => some (valveIntoExtra Valve.Gather.default)).map Extra.toValve) none
      = Valve.query ext.valve (port.getD Battalion.DEFAULT_PORT) Battalion.ENGINE Valve.Gather.default 0 := rfl
  simp only [moduleQuery, generic, boxed, Games.mapQ, Battalion.query, h, bind, Q.bind']
  cases Valve.query ext.valve (port.getD Battalion.DEFAULT_PORT) Battalion.ENGINE Valve.Gather.default 0 w with
  | mk res w' =>
    cases res with
    | ok a => cases hov : Battalion.applyOverrides a <;> simp [Q.lift, Q.bind', hov, pure, Q.pure']
    | err k => rfl
    | crash => rfl

example : (gameDefs.find? (·.id == "battalion1944")).bind Game.ofRow
    = some ⟨7780, .valve (Valve.Engine.new 489940), valveIntoExtra Valve.Gather.default⟩ := by decide +kernel

-- … and the overrides do change a response that carries `bat_*` rules
example :
    let r : Valve.Response := ⟨⟨17, [83], [109], [], [103], 489940, 1, 2, 0, .dedicated, .linux, false, true, none, [49], none, false, none⟩,
      none, some [(asciiBytes "bat_name_s", [78]), (asciiBytes "x", [121])]⟩
    (Battalion.applyOverrides r >>= fun v => pure (Games.gameView v)) ≠ Res.ok (Games.gameView r) := by
  decide +kernel

/-! ### the Valve-only model of `Proto/Games.lean` (theorems `C14_paths_agree`, `C14_destination_port` of `Props/C14.lean`)
is the Valve arm of this one: the theorems above are the general results, those two their Valve instance -/

theorem C14_dispatch_valve_arm (ext : Ext) (d : Games.ValveParams) (port : Option Nat) (retries : Nat) (w : Net) :
    generic ext ⟨d.port, .valve d.engine, valveIntoExtra d.gather⟩ port (some ⟨none, none, none, retries⟩) none w
      = boxed .valve (Games.genericQuery ext.valve d port retries) w
    ∧ moduleQuery ext (.valve d.port d.engine d.gather) port w
      = boxed .valveGame (Games.moduleQuery ext.valve d port) w :=
  ⟨rfl, rfl⟩

/-! ### the theorems instantiated on concrete rows of the generated tables -/

-- teamfortress2 (a `game_query_mod!` module): (b) with the port omitted
example (ext : Ext) (w : Net) :
    Games.mapQ Response.view
        (generic ext ⟨27015, .valve (Valve.Engine.new 440), valveIntoExtra Valve.Gather.default⟩ none none none) w
      = moduleQuery ext (.valve 27015 (Valve.Engine.new 440) Valve.Gather.default) none w :=
  C14_dispatch_generic_eq_module
    (d := ⟨"teamfortress2", "Team Fortress 2", 27015, "valve", "S:440", "ttT", true, 27015, false,
      .valve (.source 440 none) .try_ .try_ true⟩)
    (m := ⟨"teamfortress2", "Team Fortress 2", 27015, "valve", "S:440", "ttT", true, 27015, false,
      .valve (.source 440 none) .try_ .try_ true⟩)
    (by decide +kernel) (by decide +kernel) (by decide +kernel) (by decide) (by decide) (by decide) none (by decide) ext w

-- ut2004 (the definition is `unrealtournament2004`, the module `ut2004`: same display name), a port given
example (ext : Ext) (w : Net) :
    Games.mapQ Response.view (generic ext ⟨7778, .unreal2, valveIntoExtra Valve.Gather.default⟩ (some 7777) none none) w
      = moduleQuery ext (.unreal2 7778) (some 7777) w :=
  C14_dispatch_generic_eq_module
    (d := ⟨"unrealtournament2004", "Unreal Tournament 2004", 7778, "unreal2", "-", "-", true, 7778, false, .unreal2⟩)
    (m := ⟨"ut2004", "Unreal Tournament 2004", 7778, "unreal2", "-", "-", true, 7778, false, .unreal2⟩)
    (by decide +kernel) (by decide +kernel) (by decide +kernel) (by decide) (by decide) (by decide) (some 7777) (by decide) ext w

-- savage2 (hand-written module, the arm hands the optional port on): (a) with the port omitted goes to the row's 11235,
-- (c) for any script
example (ext : Ext) (w : Net) :
    generic ext ⟨11235, .proprietary .savage2, valveIntoExtra Valve.Gather.default⟩ none none none w
      = boxed .savage2 (Savage2.query 11235) w :=
  C14_dispatch_generic_eq_protocol
    (d := ⟨"savage2", "Savage 2", 11235, "prop:Savage2", "-", "-", true, 11235, false, .savage2⟩)
    (by decide +kernel) (by decide) ext none none none w

example (ext : Ext) (script : List ConnScript) (faults : List Bool) :
    ∀ e ∈ (generic ext ⟨25565, .proprietary (.minecraft (some .java)), valveIntoExtra Valve.Gather.default⟩ none
        (some ⟨none, none, none, 3⟩) (some ⟨some [0x6D, 0x63], some 47, none, none, none⟩) (Net.init script faults)).2.log,
      match e with
      | .opened _ _ p _ => p = 25565
      | .send _ p _ _ => p = 25565
      | .recv _ _ _ => True :=
  C14_dispatch_destination_port
    (d := ⟨"minecraftjava", "Minecraft (java)", 25565, "prop:Minecraft(Some(Server::Java))", "-", "-", true, 25565, false,
      .minecraft .java⟩)
    (by decide +kernel) (by decide) ext (fun h => by cases h) none _ _ script faults
