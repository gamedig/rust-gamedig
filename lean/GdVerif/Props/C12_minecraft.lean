import GdVerif.Lemmas.McBlock
/-
  C12 (blocking steps that can run into their timeout) — Minecraft: Java and the legacy variants over
  TCP (the connect is a blocking step with its own timeout: a refused / timed-out connect is counted
  and ends the variant), Bedrock over UDP, `query_legacy` (three connections) and the auto-detecting
  `query` (up to five sockets).
-/
open Gd Gd.Mc

/-- Java: whatever the server does, at most `retries + 1` blocking steps run into their timeout (the
connect, or per attempt one of the three writes or the read). -/
theorem C12_minecraft_java_blocking_bound (ext : Ext) (port : Nat) (st : RequestSettings) (retries : Nat)
    (script : List ConnScript) (faults : List Bool) :
    nBlocked (queryJava ext port st retries (Net.init script faults)).2.log ≤ retries + 1 := by
  have := (block_queryJava ext port st retries).total script faults
  omega

theorem C12_minecraft_bedrock_blocking_bound (port retries : Nat) (script : List ConnScript) (faults : List Bool) :
    nBlocked (queryBedrock port retries (Net.init script faults)).2.log ≤ retries + 1 := by
  have := (block_queryBedrock port retries).total script faults
  omega

theorem C12_minecraft_legacy_specific_blocking_bound (g : LegacyGroup) (port retries : Nat) (script : List ConnScript)
    (faults : List Bool) :
    nBlocked (queryLegacySpecific g port retries (Net.init script faults)).2.log ≤ retries + 1 := by
  have := (block_queryLegacySpecific g port retries).total script faults
  omega

/-- `query_legacy`: three connections, `retries + 1` each. -/
theorem C12_minecraft_legacy_blocking_bound (port retries : Nat) (script : List ConnScript) (faults : List Bool) :
    nBlocked (queryLegacy port retries (Net.init script faults)).2.log ≤ 3 * (retries + 1) := by
  have := (block_queryLegacy port retries).total script faults
  omega

/-- Auto-detect: five sockets (Java, Bedrock, legacy 1.6 / 1.4 / beta 1.8), `retries + 1` each:
wall time ≤ 5 · (retries + 1) · timeout + the servers' own delays. -/
theorem C12_minecraft_auto_blocking_bound (ext : Ext) (port : Nat) (st : RequestSettings) (retries : Nat)
    (script : List ConnScript) (faults : List Bool) :
    nBlocked (queryAuto ext port st retries (Net.init script faults)).2.log ≤ 5 * (retries + 1) := by
  have := (block_queryAuto ext port st retries).total script faults
  omega

/-- Java against a peer that accepts the connection and never writes (its first `retries + 1` reads
time out; the rest of the script is arbitrary): the query fails with the receive-class error after
exactly `retries + 1` attempts of three writes and one timed-out read. -/
theorem C12_minecraft_java_silent_server (ext : Ext) (port : Nat) (st : RequestSettings) (retries : Nat)
    (hh : st.hostname.length < 2 ^ 31) (script : List ConnScript) (h : PendingSilent true (retries + 1) script) :
    (queryJava ext port st retries (Net.init script [])).1 = .err .packetReceive
      ∧ nSends (queryJava ext port st retries (Net.init script [])).2.log = 3 * (retries + 1)
      ∧ nBlocked (queryJava ext port st retries (Net.init script [])).2.log = retries + 1
      ∧ nRecvOk (queryJava ext port st retries (Net.init script [])).2.log = 0
      ∧ nOpened (queryJava ext port st retries (Net.init script [])).2.log = 1 :=
  (silent_queryJava ext port st retries hh (Net.init script []) rfl h).counts

theorem C12_minecraft_bedrock_silent_server (port retries : Nat) (script : List ConnScript)
    (h : PendingSilent false (retries + 1) script) :
    (queryBedrock port retries (Net.init script [])).1 = .err .packetReceive
      ∧ nSends (queryBedrock port retries (Net.init script [])).2.log = retries + 1
      ∧ nBlocked (queryBedrock port retries (Net.init script [])).2.log = retries + 1
      ∧ nRecvOk (queryBedrock port retries (Net.init script [])).2.log = 0
      ∧ nOpened (queryBedrock port retries (Net.init script [])).2.log = 1 :=
  (silent_queryBedrock port retries (Net.init script []) rfl h).counts

theorem C12_minecraft_legacy_specific_silent_server (g : LegacyGroup) (port retries : Nat) (script : List ConnScript)
    (h : PendingSilent true (retries + 1) script) :
    (queryLegacySpecific g port retries (Net.init script [])).1 = .err .packetReceive
      ∧ nSends (queryLegacySpecific g port retries (Net.init script [])).2.log = retries + 1
      ∧ nBlocked (queryLegacySpecific g port retries (Net.init script [])).2.log = retries + 1
      ∧ nRecvOk (queryLegacySpecific g port retries (Net.init script [])).2.log = 0
      ∧ nOpened (queryLegacySpecific g port retries (Net.init script [])).2.log = 1 :=
  (silent_queryLegacySpecific g port retries (Net.init script []) rfl h).counts

/-- `query_legacy` against three silent peers: every variant is tried (three connections,
`retries + 1` attempts each), then `AutoQuery`: the bound `3 · (retries + 1)` is attained. -/
theorem C12_minecraft_legacy_silent_server (port retries : Nat) (script : List ConnScript)
    (h : AllSilent (retries + 1) [true, true, true] script) :
    (queryLegacy port retries (Net.init script [])).1 = .err .autoQuery
      ∧ nSends (queryLegacy port retries (Net.init script [])).2.log = 3 * (retries + 1)
      ∧ nBlocked (queryLegacy port retries (Net.init script [])).2.log = 3 * (retries + 1)
      ∧ nRecvOk (queryLegacy port retries (Net.init script [])).2.log = 0
      ∧ nOpened (queryLegacy port retries (Net.init script [])).2.log = 3 :=
  (silent_queryLegacy port retries (Net.init script []) rfl h).counts

/-- Auto-detect against five silent peers (TCP, UDP, TCP, TCP, TCP): all five variants are tried, each
on its own socket with `retries + 1` attempts, then `AutoQuery`: `5 · (retries + 1)` timeouts — the
bound is attained — and `7 · (retries + 1)` packets. -/
theorem C12_minecraft_auto_silent_server (ext : Ext) (port : Nat) (st : RequestSettings) (retries : Nat)
    (hh : st.hostname.length < 2 ^ 31) (script : List ConnScript)
    (h : AllSilent (retries + 1) [true, false, true, true, true] script) :
    (queryAuto ext port st retries (Net.init script [])).1 = .err .autoQuery
      ∧ nSends (queryAuto ext port st retries (Net.init script [])).2.log = 7 * (retries + 1)
      ∧ nBlocked (queryAuto ext port st retries (Net.init script [])).2.log = 5 * (retries + 1)
      ∧ nRecvOk (queryAuto ext port st retries (Net.init script [])).2.log = 0
      ∧ nOpened (queryAuto ext port st retries (Net.init script [])).2.log = 5 :=
  (silent_queryAuto ext port st retries hh (Net.init script []) rfl h).counts

/-- the hypotheses are satisfiable: five scripts of `retries + 1` silences followed by anything -/
example (retries : Nat) (rest : List Delivery) (more : List ConnScript) :
    AllSilent (retries + 1) [true, false, true, true, true]
      (List.replicate 5 (.opened (List.replicate (retries + 1) .silence ++ rest)) ++ more) := by
  have hs := SilentFor.replicate true (retries + 1) rest
  have hu := SilentFor.replicate false (retries + 1) rest
  exact ⟨hs, hu, hs, hs, hs, True.intro⟩

example : (RequestSettings.default).hostname.length < 2 ^ 31 := by decide +kernel

/-- refused connects are counted: four refused TCP connects and a silent Bedrock peer, one retry -/
example : nBlocked (queryAuto ⟨fun _ => none, fun _ => []⟩ 25565 RequestSettings.default 1
    (Net.init [.refused, .opened [.silence, .silence], .refused, .refused, .refused] [])).2.log = 6 := by decide +kernel

/-- a closed TCP stream (nothing written, connection closed) is not a timeout: the read returns at once -/
example : nBlocked (queryJava ⟨fun _ => none, fun _ => []⟩ 25565 RequestSettings.default 3 (Net.init [.opened []] [])).2.log = 0 := by
  decide +kernel
