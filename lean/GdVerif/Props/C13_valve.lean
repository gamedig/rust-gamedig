import GdVerif.Lemmas.ValveSilent
/-
  C13 (requests sent) — Valve.
-/
open Gd Gd.Valve

/-- Whatever the server does, the Valve query sends at most one datagram per attempt of each of
its three requests (`3 · (retries + 1)`) plus one per datagram it successfully received (the
challenge echoes): the number of requests is bounded by the retry setting and the number of
datagrams received. -/
theorem C13_valve_send_bound (ext : Ext) (port : Nat) (engine : Engine) (g : Gather) (retries : Nat)
    (script : List ConnScript) (faults : List Bool) :
    nSends (query ext port engine g retries (Net.init script faults)).2.log
      ≤ 3 * (retries + 1) + nRecvOk (query ext port engine g retries (Net.init script faults)).2.log := by
  have := (cost_query ext port engine g retries).total script faults
  omega

/-- The same bound for a single request with its challenge rounds: one send per attempt plus one
per datagram received. -/
theorem C13_valve_request_bound (ext : Ext) (s : Sock) (r : Nat) (engine : Engine) (protocol : Nat) (req : Request)
    (w : Net) : ∃ added, (requestData ext s r engine protocol req w).2.log = w.log ++ added
      ∧ nSends added ≤ (r + 1) + nRecvOk added := by
  obtain ⟨added, hl, hc⟩ := cost_requestData ext s r engine protocol req w
  refine ⟨added, hl, ?_⟩
  cases hres : (requestData ext s r engine protocol req w).1 <;> rw [hres] at hc <;> simp only at hc <;> omega
