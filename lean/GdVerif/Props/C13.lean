import GdVerif.Gen.AllocSites
/-
  C13 (memory) — every allocation-size expression of the library, classified.

  `Gd.Gen.allocSiteIds` is regenerated from /repo on every run by tools/xlate.py: one id per
  allocation-size expression (`with_capacity`, `vec![x; n]`, `reserve`, `resize`, `read_to_end`,
  `take`, `repeat`), the id being a checksum of (file, function, expression, the defining `let` or
  parameter of every variable in it, every `if` guard on those variables before the site, the
  constants mentioned).  A new site, a changed size expression, a removed clamp or a removed guard
  gives an id this table does not know, and `C13_every_site_classified` no longer checks.

  The table below is the judgement, site by site, of how the reserved size can depend on a reply;
  `worst c r` is the largest number of bytes a site of class `c` can request in one call when the
  datagram / stream it works on has `r` bytes.  Element sizes are upper estimates of the Rust
  layouts (the counting allocator of the harness measures the real numbers on every run).
-/
namespace Gd.C13

/-- how a reserved size can depend on what the server sent -/
inductive SiteClass
  /-- a constant of the source: the replies have no influence -/
  | fixed (bytes : Nat)
  /-- a count read from a wire field of fixed width (`u8`, `u16`): at most `maxCount` elements of `elemBytes` -/
  | width (maxCount elemBytes : Nat)
  /-- a reply value clamped by a source constant before use -/
  | clamped (cap elemBytes : Nat)
  /-- at most `perByte` bytes for each byte of the datagram / stream the value was computed from
      (a length checked against the remaining bytes, a number of entries actually parsed, …) -/
  | proportional (perByte : Nat)
  /-- a reader drained into a growing vector behind `.take(limit)`: at most twice the limit (doubling growth) -/
  | drained (limit : Nat)
  /-- a reader drained to the end of the stream: grows with what arrives (doubling), nothing is announced -/
  | stream
  /-- the size is a parameter; every caller passes one of the listed constants (the call sites'
      buffer sizes are part of every transport trace compared with the model) -/
  | param (largest elemBytes : Nat)
  /-- in a private module and not called from any query entry point -/
  | unreachable
  deriving Repr, DecidableEq

def KiB : Nat := 1024
def MiB : Nat := 1024 * 1024

/-- largest single request of a site of this class when `r` bytes were received -/
def worst : SiteClass → Nat → Nat
  | .fixed b, _ => b
  | .width n e, _ => n * e
  | .clamped c e, _ => c * e
  | .proportional k, r => k * r
  | .drained l, _ => 2 * l
  | .stream, r => 2 * r
  | .param n e, _ => n * e
  | .unreachable, _ => 0

/-- (site id, class, where) — ids as generated from the current source -/
def table : List (Nat × SiteClass × String) := [
  (2927501853, .proportional 1,      "buffer.rs decode_string (UTF-16): position/2 u16 units, position ≤ bytes left in the packet"),
  (935956370,  .fixed 0,             "eco types.rs From<Root>: Vec::with_capacity(0)"),
  (3027686973, .width 65535 64,      "jc2m parse_players_and_teams: count is a u16, Player is two Strings and a u16"),
  (3237879920, .proportional 32,     "minecraft java: one Player (48 bytes) per element of the parsed JSON array, an element takes ≥ 2 bytes of text"),
  (3035055033, .proportional 1,      "minecraft get_string: length checked against remaining_length() before the reservation"),
  (2202733054, .stream,              "http.rs json_body: the JSON body drained into a vector that starts empty (the announced Content-Length is not used); grows with what arrives"),
  (4019801300, .stream,              "http.rs json_body: the reader's limit (1 GiB) only caps the above"),
  (966780026,  .unreachable,         "http.rs request(): HttpClient::get is not used by any query (Eco and the services use get_json / post_json)"),
  (717832595,  .unreachable,         "http.rs request(): same"),
  (1531723834, .unreachable,         "http.rs request(): same (Content-Length.min(1 GiB) would not be acceptable on a query path)"),
  (3066700723, .proportional 24,     "gs1 extract_players: min(maxplayers, number of entries) HashMaps of 48 bytes; an entry takes ≥ 2 bytes"),
  (1170217600, .proportional 64,     "gs1 extract_players: one Player per collected player table, index < number of entries"),
  (2056167894, .proportional 24,     "gs1 extract_players: index guarded by id < entries before the table grows"),
  (179333651,  .fixed 7,             "gs3 RequestPacket::to_bytes"),
  (1577837875, .proportional 64,     "gs2 data_as_table: one map slot per column head, a head takes ≥ 1 byte"),
  (1398393401, .fixed 0,             "unreal2 query: Players::with_capacity(0)"),
  (54424510,   .clamped 50 128,      "unreal2 query_players: announced count clamped to MAXIMUM_PLAYER_PREALLOCATION = 50"),
  (3909279960, .param 25 128,        "unreal2 Players::with_capacity: bots vector, capacity/2, callers pass ≤ 50"),
  (1041756046, .param 50 128,        "unreal2 Players::with_capacity: players vector, callers pass ≤ 50"),
  (2080138757, .drained (4 * MiB + 1), "valve get_payload: bzip2 output read behind take(min(announced, 4 MiB) + 1)"),
  (2449476907, .clamped (4 * MiB + 1) 1, "valve get_payload: the limit itself"),
  (2353612855, .width 255 64,        "valve get_server_players: count is a u8, ServerPlayer ≤ 64 bytes"),
  (1793280697, .width 131072 49,     "valve get_server_rules: count is a u16; hashbrown rounds 65535·8/7 up to 131072 slots of 48+1 bytes"),
  (1240062858, .width 255 32,        "valve receive: total is a u8, one Vec<u8> header (24 bytes) per further fragment"),
  (3037386628, .stream,              "socket.rs TCP receive: read_to_end of what the peer sends"),
  (2677017770, .param 65535 1,       "socket.rs TCP receive: initial capacity, callers pass None (1024) or a constant ≤ 65535 (C13_consts_receive_sizes)"),
  (4262317043, .param 65535 1,       "socket.rs UDP receive: buffer, callers pass None (1024) or a constant ≤ 65535 (C13_consts_receive_sizes)")]

def classOf (id : Nat) : Option SiteClass := (table.find? (fun e => e.1 == id)).map (fun e => e.2.1)

/-- the largest UDP datagram -/
def maxDatagram : Nat := 65535

/-- the part of a request that does not depend on the replies, and the bytes per received byte -/
def base : SiteClass → Nat
  | .proportional _ => 0
  | .stream => 0
  | c => worst c 0

def slope : SiteClass → Nat
  | .proportional k => k
  | .stream => 2
  | _ => 0

end Gd.C13

open Gd.C13

/-- **Every allocation site of the current source is classified** (the list is generated; 0 is its
end marker). -/
theorem C13_every_site_classified : ∀ id ∈ Gd.Gen.allocSiteIds, id = 0 ∨ (classOf id).isSome = true := by
  decide +kernel

/-- No site is classified twice. -/
theorem C13_table_ids_distinct : (table.map (·.1)).Nodup := by
  decide +kernel

/-- **Shape of the dependency.**  The request of every class is a constant plus a fixed number of
bytes per byte received — there is no class for "a value from the reply used as it is", so a site
that does that cannot be entered in the table at all — and for every classified site the constant is
at most 10 MiB and the factor at most 64. -/
theorem C13_worst_affine (c : SiteClass) (r : Nat) : worst c r = base c + slope c * r := by
  cases c <;> simp [worst, base, slope]

theorem C13_table_constants : ∀ e ∈ table, base e.2.1 ≤ 10 * MiB ∧ slope e.2.1 ≤ 64 := by
  decide +kernel

/-- **Single request.**  Whatever a reply contains, no classified site asks for more than 10 MiB
plus 64 bytes per byte received in the datagram or stream it is working on: the dependency on the
replies is at most linear in the bytes that actually arrived, with a fixed constant.  (10 MiB is a round bound
above the largest constant of the table, the bzip2 output of `get_payload` drained behind `take(4 MiB + 1)`:
2 · (4 MiB + 1); 64 is the largest factor, one GameSpy 1 `Player` / GameSpy 2 map slot per received byte.) -/
theorem C13_single_request_proportional :
    ∀ e ∈ table, ∀ r : Nat, worst e.2.1 r ≤ 10 * MiB + 64 * r := by
  intro e he r
  obtain ⟨hb, hs⟩ := C13_table_constants e he
  rw [C13_worst_affine]
  exact Nat.add_le_add hb (Nat.mul_le_mul_right r hs)

/-- **Single request, datagram protocols.**  For a reply datagram (at most 65535 bytes) every
classified site stays below the 16 MiB allowance for one request. -/
theorem C13_single_request_datagram :
    ∀ e ∈ table, ∀ r : Nat, r ≤ maxDatagram → worst e.2.1 r ≤ 16 * MiB := by
  intro e he r hr
  have := C13_single_request_proportional e he r
  simp only [maxDatagram] at hr
  simp only [MiB] at *
  omega

/-- non-vacuity: the generated list is not empty and names a site that takes its size from the wire -/
example : 1793280697 ∈ Gd.Gen.allocSiteIds ∧ classOf 1793280697 = some (.width 131072 49) := by decide +kernel

