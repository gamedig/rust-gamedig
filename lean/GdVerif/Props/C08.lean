import GdVerif.Lemmas.Reassembly
/-
  C08 — Multi-datagram responses do not depend on arrival order.

  MODEL: `Valve.sortChunks`/`Valve.assemble` (the reassembly of `ValveProtocol::receive` in
  the repaired tree: all packets sorted by number, numbers must be exactly 0..total).
  GameSpy 1 / 3 and Unreal 2: `Props/C08_gs1.lean`, `C08_gs3.lean`, `C08_unreal2.lean`.
-/
open Gd Gd.Valve

/-- Valve split packets, any number of fragments: for EVERY multiset of received fragments, every
arrival order yields the same reassembly result (the same payload, or the same error). No
hypothesis on the fragments is needed: with distinct numbers the sort is order-independent, and a
repeated number is rejected whatever the order. -/
theorem C08_valve_any_order (ext : Ext) (frs frs' : List SplitPacket) (h : frs'.Perm frs) :
    assemble ext (sortChunks frs') = assemble ext (sortChunks frs) :=
  assemble_any_order ext frs frs' h

/-- A duplicated fragment (two received fragments with the same number, at any positions) never
yields a payload: the reassembly is an error. -/
theorem C08_valve_duplicate_is_error (ext : Ext) (frs : List SplitPacket)
    (hdup : ¬ frs.Pairwise (fun a b => a.number ≠ b.number)) :
    assemble ext (sortChunks frs) = .err .packetBad :=
  assemble_duplicate ext frs hdup

/-- A fragment of another response among the received ones (different header, id or announced total — a late
duplicate of an earlier response, for instance) never yields a payload, whatever the arrival order. -/
theorem C08_valve_foreign_fragment_is_error (ext : Ext) (frs : List SplitPacket) (p q : SplitPacket)
    (hp : p ∈ frs) (hq : q ∈ frs) (hne : sameResponse p q = false) :
    assemble ext (sortChunks frs) = .err .packetBad :=
  assemble_foreign ext frs p q hp hq hne

/-- In-order (hence, by the theorem above, any-order) arrival of the uncompressed fragments of a
payload cut into chunks reassembles exactly the payload. -/
theorem C08_valve_reassembles_payload (ext : Ext) (header id total size : Nat) (c : Bytes) (cs : List Bytes)
    (frs' : List SplitPacket)
    (h : frs'.Perm ((Spec.enumFrom 0 (c :: cs)).map fun p => (⟨header, id, total, p.1, size, none, p.2⟩ : SplitPacket))) :
    assemble ext (sortChunks frs') = .ok (c :: cs).flatten :=
  assemble_enum ext (fun i ch => ⟨header, id, total, i, size, none, ch⟩) header id total (fun _ _ => rfl) (fun _ _ => rfl)
    (fun _ _ => rfl) (fun _ _ => rfl) (fun _ _ => rfl) c cs frs' h

-- non-vacuity: three fragments arriving as 2,0,1 reassemble (the hypotheses are satisfiable by a
-- genuinely out-of-order arrival)
example (ext : Ext) :
    let f := fun (n : Nat) (p : Bytes) => (⟨0xFFFFFFFE, 7, 3, n, 1248, none, p⟩ : SplitPacket)
    assemble ext (sortChunks [f 2 [5, 6], f 0 [1, 2], f 1 [3, 4]]) = .ok [1, 2, 3, 4, 5, 6] := by
  intro f
  exact C08_valve_reassembles_payload ext 0xFFFFFFFE 7 3 1248 [1, 2] [[3, 4], [5, 6]] _
    (List.perm_append_comm (l₁ := [f 2 [5, 6]]) (l₂ := [f 0 [1, 2], f 1 [3, 4]]))
