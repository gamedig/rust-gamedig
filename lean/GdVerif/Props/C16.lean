import GdVerif.Lemmas.Master
import GdVerif.Lemmas.MasterPaging
/-
  C16 — Master-server filters are encoded faithfully and paging is complete.

  MODEL: `GdVerif/Proto/Master.lean`.  SPEC: `GdVerif/Spec/Master.lean` — a reference reader of the
  Master Server Query Protocol request grammar.
-/
open Gd Gd.Master

/-- The request datagram, read back by the reference grammar, denotes exactly the region, the seed
address `ip:port` and the filters of each group, each as the key/value pair the protocol defines
for it — for ANY iteration order of the three hash maps (the groups are arbitrary lists here, so
every permutation is covered), any region byte and any seed. -/
theorem C16_request_denotes (region : Nat) (hr : region < 256) (ip : Bytes) (hip : (0 : UInt8) ∉ ip) (port : Nat)
    (P A O : FMap) (hP : ∀ f ∈ P, f.WF) (hA : ∀ f ∈ A, f.WF) (hO : ∀ f ∈ O, f.WF)
    (hAl : A.length < 2 ^ 64) (hOl : O.length < 2 ^ 64) :
    Spec.parse (constructPayload region (toBytesOrdered P A O) ip port)
      = some ⟨region, ip ++ [58] ++ natDec port, P.filterMap Filter.kv, A.filterMap Filter.kv, O.filterMap Filter.kv⟩ := by
  obtain ⟨fstr, hfb, hnul, hparse⟩ := parseFilter_toBytes P A O hP hA hO hAl hOl
  have hseed : (0 : UInt8) ∉ ip ++ [58] ++ natDec port := by simp [hip, natDec_no_nul]
  unfold constructPayload
  rw [hfb]
  have hshape : [0x31] ++ [UInt8.ofNat region] ++ ip ++ [58] ++ natDec port ++ [0] ++ (fstr ++ [0])
      = 0x31 :: UInt8.ofNat region :: ((ip ++ [58] ++ natDec port) ++ 0 :: (fstr ++ 0 :: [])) := by
    simp [List.append_assoc]
  rw [hshape]
  simp only [Spec.parse]
  rw [untilNul_append _ _ hseed]
  simp only
  rw [untilNul_append _ _ hnul]
  simp only [List.isEmpty_nil, Bool.not_true, Bool.false_eq_true, ↓reduceIte, hparse, Option.map_some]
  have : (UInt8.ofNat region).toNat = region := by simp [UInt8.toNat_ofNat', Nat.mod_eq_of_lt hr]
  rw [this]

/-- The absent filter set (`None`) is the empty filter string. -/
theorem C16_no_filters (region : Nat) (hr : region < 256) (ip : Bytes) (hip : (0 : UInt8) ∉ ip) (port : Nat) :
    Spec.parse (constructPayload region (filterBytesOf none) ip port)
      = some ⟨region, ip ++ [58] ++ natDec port, [], [], []⟩ := by
  have := C16_request_denotes region hr ip hip port [] [] [] (by simp) (by simp) (by simp) (by simp) (by simp)
  simpa [filterBytesOf, toBytesOrdered, specialToBytes] using this

/-! ### insertion: a later filter of the same kind replaces the earlier one, per group -/

/-- inserting keeps at most one filter per kind -/
theorem C16_insert_one_per_kind (m : FMap) (f : Filter) (h : (m.map Filter.kind).Nodup) :
    ((fmapInsert m f).map Filter.kind).Nodup := by
  rw [kinds_fmapInsert]
  split
  · exact h
  · rename_i hnew
    refine List.nodup_append.mpr ⟨h, List.pairwise_singleton _ _, fun a ha b hb e => ?_⟩
    rw [List.mem_singleton.mp hb] at e
    exact hnew (e ▸ ha)

/-- after inserting `f`, the map holds `f`, and exactly the old filters of the other kinds -/
theorem C16_insert_replaces (m : FMap) (f g : Filter) (h : (m.map Filter.kind).Nodup) :
    g ∈ fmapInsert m f ↔ (g = f ∨ (g ∈ m ∧ g.kind ≠ f.kind)) :=
  mem_fmapInsert m f g h

/-- the three insertion methods touch exactly their own group -/
theorem C16_groups_independent (s : SearchFilters) (f : Filter) :
    (s.insert f).nand = s.nand ∧ (s.insert f).nor = s.nor ∧ (s.insert f).filters = fmapInsert s.filters f
    ∧ (s.insertNand f).filters = s.filters ∧ (s.insertNand f).nor = s.nor ∧ (s.insertNand f).nand = fmapInsert s.nand f
    ∧ (s.insertNor f).filters = s.filters ∧ (s.insertNor f).nand = s.nand ∧ (s.insertNor f).nor = fmapInsert s.nor f :=
  ⟨rfl, rfl, rfl, rfl, rfl, rfl, rfl, rfl, rfl⟩

-- non-vacuity: a concrete filter set (one filter per group, a replaced duplicate) is read back
example :
    let s := ((((SearchFilters.new.insert (.runsMap (asciiBytes "de_dust"))).insert (.runsMap (asciiBytes "cp_a"))).insertNand
      (.isSecured true)).insertNor (.runsAppID 730))
    Spec.parse (constructPayload 3 s.toBytes (asciiBytes "1.2.3.4") 27015)
      = some ⟨3, asciiBytes "1.2.3.4:27015", [(asciiBytes "map", asciiBytes "cp_a")],
          [(asciiBytes "secure", [49])], [(asciiBytes "appid", asciiBytes "730")]⟩ := by
  repeat rw [asciiBytes_ofList]
  decide +kernel

/-- A reply page in the protocol's layout is decoded to exactly its entries (any number of them). -/
theorem C16_page_decodes (es : List Addr) (h : ∀ a ∈ es, WFAddr a) : parsePage.run (encPage es) = .ok es :=
  parsePage_encPage es h

/-- Complete paged query, for EVERY well-formed history of reply pages (any number of pages, each of
up to 232 entries; every non-final page non-empty and ending neither on the terminator nor on the
address it was seeded with; the final page ending with the terminator `0.0.0.0:0`, or empty):
the query returns all listed addresses in order without the terminator, sends exactly one request
per page, the first seeded with `0.0.0.0:0` and each follow-up with the last address of the previous
page, and stops. `rest` (whatever else the peer might still deliver) is left untouched. -/
theorem C16_paging_complete (region : Nat) (fs : Option SearchFilters) (h : History)
    (hfin : ∀ a ∈ h.final, WFAddr a) (hfl : h.final.length ≤ 231) (hnt : h.terminated = false → h.final = [])
    (hwf : wfPages zeroIp 0 h.pages) (rest : List Delivery) :
    query region fs (Net.init [.opened (h.pages.map (fun p => Delivery.data (encPage p))
        ++ .data (encPage h.finalPage) :: rest)] [])
      = (.ok (h.pages.flatten ++ h.final),
         world [] rest ([.opened 0 false masterPort false]
           ++ pagingLog region (filterBytesOf fs) (seedsFrom zeroIp 0 h.pages) (h.pages ++ [h.finalPage]))) := by
  unfold query
  simp only [bind, Q.bind', openSock, Net.init, List.length_nil, List.nil_append]
  have := pageLoop_history region (filterBytesOf fs) h.final h.terminated hfin hfl hnt h.pages zeroIp 0 []
    ((h.pages.map (fun p => Delivery.data (encPage p)) ++ .data (encPage h.finalPage) :: rest).length + 1)
    [] rest [.opened 0 false masterPort false] hwf (by simp; omega)
  simp only [History.finalPage, List.nil_append] at this ⊢
  simp only [world, msock] at this ⊢
  simpa using this

-- non-vacuity: a two-page history satisfies the hypotheses
example : wfPages zeroIp 0 [[((1, 2, 3, 4), 80), ((5, 6, 7, 8), 27015)]] := by
  refine ⟨by intro a ha; simp at ha; rcases ha with rfl | rfl <;> simp [WFAddr], by simp, ((5, 6, 7, 8), 27015), rfl, by decide, by decide, trivial⟩
