import GdVerif.Lemmas.McFaults
import GdVerif.Props.C03
/-
  C10 on WHOLE Minecraft Bedrock queries with faults injected.

  `Props/C10.lean` proves C10 for the combinator, `Props/C10_minecraft.lean` names the retried unit (ping + read + decode
  on one UDP socket).  Here the property is proved end to end for `queryBedrock` against the SPEC's server
  (`Spec/Minecraft.lean`), on the scripts of `props/families/mcbedrock.py: c10_build` (`props/mc_c10.py`): a plan
  (`Spec/FaultsN.lean: PlanN`, one request per attempt) lists the attempts that end in a timeout-class failure — the
  ping cannot be sent, or it goes out and no datagram comes back — and then the datagram that answers (the server's
  pong, or a malformed one), or nothing.  `PlanN.deliveries` / `PlanN.faults 1` are the two arguments of `Net.init`;
  what follows them (`restQ`, `restF`) is arbitrary.
-/
open Gd Gd.Mc Gd.Mc.Spec Gd.Faults

/-- THE GENERAL STATEMENT: for every plan in C10's domain (every failed attempt a failed send of the ping or a lost
reply; an answered unit had at most `retries` failures before and its answer fits the 1024-byte buffer, a unit given
up exactly `retries + 1`) whose answer, if the decoder rejects it, is rejected with an error that is not a timeout: the
result is the plan's outcome — the decoder applied to the answer, or the last failure's error — and the ping was sent
exactly as the plan says. -/
theorem C10_mcbedrock_query_faulty (port retries : Nat) (p : PlanN)
    (hp : p.wf retries 1 (fitsRead false none) = true)
    (hcheck : ∀ d e, p.answer = some d → bedrockParse.run d = .err e → e.isTimeout = false)
    (restQ : List Delivery) (restF : List Bool) :
    (queryBedrock port retries (Net.init [.opened (p.deliveries ++ restQ)] (p.faults 1 ++ restF))).1
      = p.outcome bedrockParse.run
    ∧ sentOf (queryBedrock port retries (Net.init [.opened (p.deliveries ++ restQ)] (p.faults 1 ++ restF))).2.log
      = p.sends [bedrockRequest] := by
  rw [queryBedrock_queryN]
  exact queryN_faulty false port retries [bedrockRequest] none bedrockParse.run p hp hcheck restQ restF

/-- (a) RECOVERY.  `fails` (any number ≤ `retries`, each a failed send or a lost reply) precede the server's pong:
the query returns exactly `expectedBedrock st` — by `C03_bedrock` the result with no faults —, and the ping was sent
`fails.length + 1` times. -/
theorem C10_mcbedrock_query_recovers (st : BedrockStatus) (h : wfBedrock st = true) (port retries : Nat)
    (fails : List AttemptN) (hfails : ∀ a ∈ fails, a.wf 1 = true) (hk : fails.length ≤ retries)
    (restQ : List Delivery) (restF : List Bool) :
    let p : PlanN := ⟨fails, some (unconnectedPong clientTime st)⟩
    let out := queryBedrock port retries (Net.init [.opened (p.deliveries ++ restQ)] (p.faults 1 ++ restF))
    out.1 = .ok (expectedBedrock st)
    ∧ sentOf out.2.log = fails.map (fun a => (bedrockRequest, a.sendFault)) ++ [(bedrockRequest, false)]
    ∧ (sentOf out.2.log).length = fails.length + 1 := by
  intro p out
  have hlen := (wfBedrock_parts st h).2.2.2.2.2
  have := queryN_recovers false port retries [bedrockRequest] none bedrockParse.run (unconnectedPong clientTime st)
    (expectedBedrock st) (decodesEnd_bedrockParse st h).run (by simp [fitsRead, hlen]) fails hfails hk restQ restF
  rw [← queryBedrock_queryN] at this
  exact ⟨this.1, sent_one hfails this.2⟩

/-- (b) EXHAUSTION.  All `retries + 1` attempts end in a timeout-class failure: the query fails with the last attempt's
error — `PacketReceive`, or `PacketSend` when that attempt was a failed send — after exactly `retries + 1` pings,
whatever the script still holds. -/
theorem C10_mcbedrock_query_exhausted (port retries : Nat) (fails : List AttemptN)
    (hfails : ∀ a ∈ fails, a.wf 1 = true) (hk : fails.length = retries + 1) (restQ : List Delivery)
    (restF : List Bool) :
    let p : PlanN := ⟨fails, none⟩
    let out := queryBedrock port retries (Net.init [.opened (p.deliveries ++ restQ)] (p.faults 1 ++ restF))
    out.1 = .err (lastError AttemptN.error fails)
    ∧ (out.1 = .err .packetReceive ∨ out.1 = .err .packetSend)
    ∧ sentOf out.2.log = fails.map (fun a => (bedrockRequest, a.sendFault))
    ∧ (sentOf out.2.log).length = retries + 1 := by
  intro p out
  have := queryN_exhausted false port retries [bedrockRequest] none bedrockParse.run fails hfails hk restQ restF
  rw [← queryBedrock_queryN, sends_one_flatMap _ _ hfails] at this
  exact ⟨this.1, this.2.1, this.2.2, (congrArg List.length this.2.2).trans (by rw [List.length_map, hk])⟩

/-- (c) A MALFORMED REPLY IS NOT RETRIED.  After any number ≤ `retries` of timed-out attempts the datagram that
arrives is not an unconnected pong — ANY datagram (within the buffer) that is empty or does not start with `1C`
(`Spec.malformedBedrock`).  Whatever `retries` is, the query fails at once with `PacketBad` / `PacketUnderflow` (not a
timeout-class error), and no further ping is sent: `fails.length + 1` in all. -/
theorem C10_mcbedrock_query_malformed_not_retried (port retries : Nat) (fails : List AttemptN)
    (hfails : ∀ a ∈ fails, a.wf 1 = true) (hk : fails.length ≤ retries) (m : Bytes)
    (hm : malformedBedrock m = true) (hl : m.length ≤ 1024) (restQ : List Delivery) (restF : List Bool) :
    let p : PlanN := ⟨fails, some m⟩
    let out := queryBedrock port retries (Net.init [.opened (p.deliveries ++ restQ)] (p.faults 1 ++ restF))
    out.1 = .err (malformedBedrockError m)
    ∧ (malformedBedrockError m).isTimeout = false
    ∧ sentOf out.2.log = fails.map (fun a => (bedrockRequest, a.sendFault)) ++ [(bedrockRequest, false)]
    ∧ (sentOf out.2.log).length = fails.length + 1 := by
  intro p out
  have := queryN_malformed false port retries [bedrockRequest] none bedrockParse.run m _ (bedrock_malformed m hm)
    (malformedBedrockError_not_timeout m) (by simp [fitsRead, hl]) fails hfails hk restQ restF
  rw [← queryBedrock_queryN] at this
  exact ⟨this.1, malformedBedrockError_not_timeout m, sent_one hfails this.2⟩

/-- the ping on the wire is the SPEC's -/
theorem C10_mcbedrock_request : bedrockRequests = [bedrockRequest] := by decide

/-! ### non-vacuity -/

def C10_mcbedrock_exStatus : BedrockStatus :=
  ⟨asciiBytes "MCPE", asciiBytes "Srv", asciiBytes "527", asciiBytes "1.19", 3, 20, some (asciiBytes "77"),
    some (asciiBytes "lvl"), some .survival, [], [1, 2, 3, 4, 5, 6, 7, 8]⟩

-- (a) retries = 2: a failed send and a lost reply before the pong: the status, 3 pings
example (port : Nat) :
    wfBedrock C10_mcbedrock_exStatus = true
    ∧ (queryBedrock port 2 (Net.init
        [.opened ((PlanN.mk [⟨0, true⟩, ⟨1, false⟩] (some (unconnectedPong clientTime C10_mcbedrock_exStatus))).deliveries ++ [])]
        ((PlanN.mk [⟨0, true⟩, ⟨1, false⟩] (some (unconnectedPong clientTime C10_mcbedrock_exStatus))).faults 1 ++ []))).1
      = .ok (expectedBedrock C10_mcbedrock_exStatus) := by
  have hw : wfBedrock C10_mcbedrock_exStatus = true := by decide +kernel
  exact ⟨hw, (C10_mcbedrock_query_recovers C10_mcbedrock_exStatus hw port 2 [⟨0, true⟩, ⟨1, false⟩] (by decide) (by decide)
    [] []).1⟩

-- (b) retries = 1: two lost replies: PacketReceive, whatever is still queued
example (port : Nat) (restQ : List Delivery) :
    (queryBedrock port 1 (Net.init [.opened ((PlanN.mk [⟨1, false⟩, ⟨1, false⟩] none).deliveries ++ restQ)]
      ((PlanN.mk [⟨1, false⟩, ⟨1, false⟩] none).faults 1 ++ []))).1 = .err .packetReceive :=
  (C10_mcbedrock_query_exhausted port 1 [⟨1, false⟩, ⟨1, false⟩] (by decide) rfl restQ []).1

-- (c) retries = 4: the check's malformed datagram `ff ff`; the empty datagram is malformed too
example (port : Nat) :
    (queryBedrock port 4 (Net.init [.opened ((PlanN.mk [⟨1, false⟩] (some [0xFF, 0xFF])).deliveries ++ [])]
      ((PlanN.mk [⟨1, false⟩] (some [0xFF, 0xFF])).faults 1 ++ []))).1 = .err .packetBad
    ∧ malformedBedrock [] = true ∧ malformedBedrockError [] = .packetUnderflow :=
  ⟨(C10_mcbedrock_query_malformed_not_retried port 4 [⟨1, false⟩] (by decide) (by decide) [0xFF, 0xFF] (by decide)
    (by decide) [] []).1, by decide, by decide⟩
