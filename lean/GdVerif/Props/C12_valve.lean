import GdVerif.Lemmas.ValveSilent
/-
  C12 — Valve: the sharp count and the silent server for the whole query (socket creation included); the count per
  request and the transport facts are in `Props/C12.lean`.
-/
open Gd Gd.Valve

/-- `C12_valve_blocking_bound` sharpened: at most `3 · retries + 2` blocking steps run into their
timeout.  The players and rules requests are only made after the info request has succeeded, i.e.
after at most `retries` failed attempts; a failed socket creation ends the query at once. -/
theorem C12_valve_blocking_bound_sharp (ext : Ext) (port : Nat) (engine : Engine) (g : Gather) (retries : Nat)
    (script : List ConnScript) (faults : List Bool) :
    nBlocked (query ext port engine g retries (Net.init script faults)).2.log ≤ 3 * retries + 2 := by
  have := (block_query_sharp ext port engine g retries).total script faults
  omega
/-- The whole query against a silent server: the info request fails after exactly `retries + 1` attempts and the query fails with the receive-class error, whatever the gather settings. -/
theorem C12_valve_query_silent_server (ext : Ext) (port : Nat) (engine : Engine) (g : Gather) (retries : Nat) (script : List ConnScript)
    (h : PendingSilent false (retries + 1) script) :
    (query ext port engine g retries (Net.init script [])).1 = .err .packetReceive
      ∧ nSends (query ext port engine g retries (Net.init script [])).2.log = retries + 1
      ∧ nBlocked (query ext port engine g retries (Net.init script [])).2.log = retries + 1
      ∧ nRecvOk (query ext port engine g retries (Net.init script [])).2.log = 0
      ∧ nOpened (query ext port engine g retries (Net.init script [])).2.log = 1 :=
  (silent_query ext port engine g retries (Net.init script []) rfl h).counts

example (retries : Nat) (rest : List Delivery) (more : List ConnScript) :
    PendingSilent false (retries + 1) [] ∧
    PendingSilent false (retries + 1) (.opened (List.replicate (retries + 1) .silence ++ rest) :: more) :=
  ⟨rfl, SilentFor.replicate false (retries + 1) rest⟩

/-- the sharp bound is attained (no retry): info answered, players and rules not -/
example : nBlocked (query ⟨fun _ => none, fun _ => 0⟩ 27015 (Engine.new 2400) Gather.default 0
    (Net.init [.opened [.data [255, 255, 255, 255, 73, 0, 32, 1, 48, 240, 159, 152, 128, 194, 167, 40, 122, 45, 47, 240, 159, 152, 128, 48, 226, 130, 172, 0, 92, 62, 58, 0, 57, 0, 1, 59, 195, 169, 227, 129, 130, 66, 38, 195, 191, 194, 167, 58, 58, 38, 34, 93, 59, 93, 65, 47, 1, 244, 143, 191, 191, 60, 95, 46, 195, 191, 48, 194, 167, 48, 194, 167, 97, 91, 46, 66, 47, 0, 96, 9, 0, 107, 128, 112, 109, 0, 0, 254, 127, 165, 9, 1, 92, 57, 244, 143, 191, 191, 58, 40, 227, 129, 130, 0, 224, 0, 0, 255, 255, 57, 10, 0, 92, 196, 128, 65, 39, 196, 128, 239, 191, 191, 95, 227, 129, 130, 244, 143, 191, 191, 60, 59, 239, 191, 191, 0], .silence, .silence]] [])).2.log = 2 := by
  decide +kernel
