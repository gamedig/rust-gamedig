import GdVerif.Lemmas.ValveFaults
import GdVerif.Spec.Valve
/-
  C09 — Requests are the protocol's, go to the right port, and echo challenges.
-/
open Gd Gd.Valve

/-- The three A2S requests are byte for byte the specification's. -/
theorem C09_valve_request_bytes :
    packetBytes Request.info.kind Request.info.defaultPayload = Spec.a2sInfoRequest
    ∧ packetBytes Request.players.kind Request.players.defaultPayload = Spec.a2sPlayerRequest Spec.noChallenge
    ∧ packetBytes Request.rules.kind Request.rules.defaultPayload = Spec.a2sRulesRequest Spec.noChallenge :=
  ⟨request_bytes .info, request_bytes .players, request_bytes .rules⟩

/-- Whatever the server does (any script), every datagram the Valve query emits goes out of the one
socket it opened, to the port it was given, and is either a protocol request without challenge or
that request carrying some challenge; every receive uses the fixed 6144-byte buffer; nothing else
is done to the transport. -/
theorem C09_valve_conforms (ext : Ext) (port : Nat) (engine : Engine) (g : Gather) (retries : Nat)
    (script : List ConnScript) (faults : List Bool) :
    ∀ e ∈ (query ext port engine g retries (Net.init script faults)).2.log,
      match e with
      | .opened c tcp p _ => c = 0 ∧ tcp = false ∧ p = port
      | .send c p data _ => c = 0 ∧ p = port ∧ Allowed data
      | .recv c size _ => c = 0 ∧ size = some 6144 := by
  intro e he
  have := log_of_init (query_safe ext port engine g retries (Net.init script faults)).2 e he
  cases e <;> exact this

/-- Challenge echo, for every challenge value (all 2^32 four-byte values, and any other length the
server may send): when the reply to a request is a challenge packet (kind 0x41) with payload `c`,
the very next thing the client does is send the same request again carrying exactly the bytes `c`
— `FFFFFFFF 54 "Source Engine Query\0" c` for the info request, `FFFFFFFF 55|56 c` for players and
rules — and then wait for the next reply. -/
theorem C09_valve_echo (ext : Ext) (s : Sock) (engine : Engine) (protocol : Nat) (req : Request)
    (fuel : Nat) (hdr : Nat) (c : Bytes) :
    challengeLoop ext s engine protocol req.kind (fuel + 1) ⟨hdr, 0x41, c⟩
      = (do
          send s ([0xFF, 0xFF, 0xFF, 0xFF] ++ [UInt8.ofNat req.kind]
                    ++ (if req = .info then asciiBytes "Source Engine Query" ++ [0] ++ c else c))
          let reply ← receive ext s engine protocol
          challengeLoop ext s engine protocol req.kind fuel reply) := by
  cases req <;> rfl

/-- `send` hands exactly the given bytes to the socket's address (and logs nothing else). -/
theorem C09_send_is_verbatim (s : Sock) (data : Bytes) (w : Net) :
    ∃ failed, (send s data w).2.log = w.log ++ [.send s.id s.port data failed] :=
  send_log s data w

/-- A reply that is not a challenge ends the exchange: nothing more is sent for this request. -/
theorem C09_valve_no_more_after_answer (ext : Ext) (s : Sock) (engine : Engine) (protocol : Nat) (kind fuel : Nat)
    (p : Packet) (h : p.kind ≠ 0x41) (w : Net) :
    challengeLoop ext s engine protocol kind (fuel + 1) p w = (.ok p.payload, w) := by
  unfold challengeLoop
  have : (p.kind == 0x41) = false := by simpa using h
  simp [this]

example : Allowed (packetBytes 0x55 [1, 2, 3, 4]) := ⟨.players, [1, 2, 3, 4], Or.inr rfl⟩
