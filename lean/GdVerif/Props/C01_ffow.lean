import GdVerif.Lemmas.Ffow
/-
  C01 — hostile replies never crash or hang a query: Frontlines: Fuel of War (`games::ffow::query_with_timeout`).
-/
open Gd

/-- For EVERY script, port, retry count, send-fault vector and behaviour of the external decoders the FFOW query
returns a response or an error, never a crash.  This includes the fuel of the shared challenge loop: it is the
number of queued deliveries + 1 and is shown to suffice (each further round consumes a delivery). -/
theorem C01_ffow (ext : Valve.Ext) (port retries : Nat) (script : List ConnScript) (faults : List Bool) :
    (Ffow.query ext port retries (Net.init script faults)).1 ≠ .crash :=
  (Ffow.query_safe ext port retries (Net.init script faults)).1

/-- The reply parser alone, on any bytes. -/
theorem C01_ffow_parser (data : Bytes) : Ffow.parseResponse.run data ≠ .crash :=
  Ffow.safe_parseResponse.run_ne_crash data

-- non-vacuity: endless challenges end when the script does; a truncated reply is an error
example : (Ffow.query ⟨fun _ => none, fun _ => 0⟩ 5478 1
    (Net.init [.opened [.data [0xFF, 0xFF, 0xFF, 0xFF, 0x41, 1, 2, 3, 4], .data [0xFF, 0xFF, 0xFF, 0xFF, 0x41, 9], .data [0xFF, 0xFF, 0xFF, 0xFF, 0x49, 7]]] [])).1
      = .err .packetBad := by
  decide +kernel

