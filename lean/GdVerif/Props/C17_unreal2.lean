import GdVerif.Proto.ReaderOps
import GdVerif.Lemmas.ReaderU2
/-
  C17 — the fourth `StringDecoder` of the crate, `Unreal2StringDecoder`
  (protocols/unreal2/protocol.rs), as an operation of the packet reader (`ROp.su2`):
  each string read consumes exactly the string (length byte, the optional stray 0x01 of a UCS-2
  string, the bytes the length byte announces) and never touches bytes outside the packet.

  The decoder model is `Unreal2.u2Dec` (Proto/Unreal2.lean), the reader `readStringWith` of
  `Buffer.lean`; both are tied to the code by the `reader … su2` cases of `props/c17.py` (position
  and remaining length printed after every operation, failed ones included).  Sequences of
  operations that contain `su2` are under `C17_position_within_packet` (Props/C17.lean).
-/
open Gd Gd.Unreal2

/-- One Unreal 2 string read, for EVERY packet and position: it never crashes; it fails with
`PacketBad` only; a successful read leaves the reader on the same packet, strictly further and
still inside it. -/
theorem C17_unreal2_string_within_packet (b : Buf) :
    match readU2Str b with
    | .crash => False
    | .err k => k = .packetBad
    | .ok (_, b') => b'.data = b.data ∧ b.pos < b'.pos ∧ b'.pos ≤ b.data.length := by
  cases h : readU2Str b with
  | crash =>
    have := safe_readU2Str b
    rw [h] at this
    exact this
  | err k => exact readU2Str_err_inv h
  | ok x =>
    obtain ⟨s, b'⟩ := x
    obtain ⟨n, hd, rfl⟩ := readU2Str_ok_inv h
    obtain ⟨l, body, _, hn, hnn⟩ := u2Dec_ok_consumed hd
    refine ⟨Buf.data_advance b n, ?_, by rw [← Buf.data_advance b n]; exact Buf.pos_le_len _⟩
    rw [Buf.pos_advance b n hn, hnn, Nat.add_assoc, Nat.add_comm 1]
    exact Nat.lt_add_of_pos_right (Nat.succ_pos _)

example : readU2Str ⟨[9], [2, 0x41, 0, 7]⟩ = .ok ([0x41], ⟨[0, 0x41, 2, 9], [7]⟩) := by decide +kernel

/-- A successful read advances by exactly one length byte, the stray `0x01` of a UCS-2 string if
one follows the length byte, and the bytes the length byte announces (`l` for a Latin-1 string,
`2·(l − 0x80)` for a UCS-2 string) — whatever the bytes are and wherever the reader stands. -/
theorem C17_unreal2_string_advance_exact (b b' : Buf) (s : Bytes) (h : readU2Str b = .ok (s, b')) :
    ∃ l body, b.rest = l :: body
      ∧ b'.pos = b.pos + 1 + (if 0x80 ≤ l.toNat then strayOf body else 0) + announced l
      ∧ b'.rest = body.drop ((if 0x80 ≤ l.toNat then strayOf body else 0) + announced l)
      ∧ b'.data = b.data := by
  obtain ⟨n, hd, rfl⟩ := readU2Str_ok_inv h
  obtain ⟨l, body, hr, hn, hnn⟩ := u2Dec_ok_consumed hd
  refine ⟨l, body, hr, ?_, ?_, Buf.data_advance b n⟩
  · rw [Buf.pos_advance b n hn, hnn]
    simp only [Nat.add_assoc]
  · rw [Buf.rest_advance, hr, hnn, Nat.add_assoc, Nat.add_comm 1, List.drop_succ_cons]

example : readU2Str (Buf.new [0x82, 1, 0x41, 0, 0x42, 0, 7]) = .ok ([0x41, 0x42], ⟨[0, 0x42, 0, 0x41, 1, 0x82], [7]⟩) := by
  decide +kernel

/-- Latin-1 strings (length byte below 0x80): the read succeeds exactly when the announced bytes
are in the packet; the text is made of exactly those bytes, and the reader stands right after them. -/
theorem C17_unreal2_string_latin1 (b : Buf) (l : UInt8) (body : Bytes) (hr : b.rest = l :: body)
    (hl : l.toNat < 0x80) :
    (l.toNat ≤ body.length →
      readU2Str b = .ok (cleanText (cp1252Decode (body.take l.toNat)), b.advance (1 + l.toNat))
        ∧ (b.advance (1 + l.toNat)).pos = b.pos + 1 + l.toNat
        ∧ (b.advance (1 + l.toNat)).rest = body.drop l.toNat)
    ∧ (body.length < l.toNat → readU2Str b = .err .packetBad) := by
  constructor
  · intro hb
    refine ⟨readU2Str_of_dec_ok (by rw [hr]; exact u2Dec_latin1_ok hl hb), ?_, ?_⟩
    · rw [Buf.pos_advance b _ (by rw [hr, List.length_cons, Nat.add_comm]; exact Nat.succ_le_succ hb), Nat.add_assoc]
    · rw [Buf.rest_advance, hr, Nat.add_comm, List.drop_succ_cons]
  · intro hb
    exact readU2Str_of_dec_err (by rw [hr]; exact u2Dec_latin1_short hl hb)

example : readU2Str (Buf.new [3, 0x41, 0x42]) = .err .packetBad := by decide +kernel
example : readU2Str (Buf.new [3, 0x41, 0x80, 0, 7]) = .ok ([0x41, 0xe2, 0x82, 0xac], ⟨[0, 0x80, 0x41, 3], [7]⟩) := by decide +kernel

/-- UCS-2 strings (length byte from 0x80 on): a `0x01` right after the length byte is skipped and
not counted; the read succeeds exactly when the announced bytes are in the packet and are
well-formed UTF-16LE; the text is made of exactly those bytes, and the reader stands right after
them. -/
theorem C17_unreal2_string_ucs2 (b : Buf) (l : UInt8) (body : Bytes) (hr : b.rest = l :: body)
    (hl : 0x80 ≤ l.toNat) :
    (strayOf body + announced l ≤ body.length →
      (∀ cs, utf16Decode (unitsOf .little ((body.drop (strayOf body)).take (announced l))) = some cs →
        readU2Str b = .ok (cleanText cs, b.advance (1 + strayOf body + announced l))
          ∧ (b.advance (1 + strayOf body + announced l)).pos = b.pos + 1 + strayOf body + announced l
          ∧ (b.advance (1 + strayOf body + announced l)).rest = body.drop (strayOf body + announced l))
      ∧ (utf16Decode (unitsOf .little ((body.drop (strayOf body)).take (announced l))) = none →
        readU2Str b = .err .packetBad))
    ∧ (body.length < strayOf body + announced l → readU2Str b = .err .packetBad) := by
  refine ⟨fun hb => ⟨fun cs hu => ⟨?_, ?_, ?_⟩, fun hu => ?_⟩, fun hb => ?_⟩
  · exact readU2Str_of_dec_ok (by rw [hr]; exact u2Dec_ucs2_ok hl hb hu)
  · rw [Buf.pos_advance b _ (by rw [hr, List.length_cons, Nat.add_assoc, Nat.add_comm 1]; exact Nat.succ_le_succ hb)]
    simp only [Nat.add_assoc]
  · rw [Buf.rest_advance, hr, Nat.add_assoc, Nat.add_comm 1, List.drop_succ_cons]
  · exact readU2Str_of_dec_err (by rw [hr]; exact u2Dec_ucs2_bad hl hb hu)
  · exact readU2Str_of_dec_err (by rw [hr]; exact u2Dec_ucs2_short hl hb)

-- a lone surrogate is refused; a stray 0x01 that leaves too few bytes is a refusal too
example : readU2Str (Buf.new [0x81, 0x00, 0xd8, 7]) = .err .packetBad := by decide +kernel
example : readU2Str (Buf.new [0x81, 0x01, 0x41]) = .err .packetBad := by decide +kernel
example : readU2Str (Buf.new [0x80, 7]) = .ok ([], ⟨[0x80], [7]⟩) := by decide +kernel

/-- At the end of the packet there is no length byte: `PacketBad`. -/
theorem C17_unreal2_string_at_end (b : Buf) (hr : b.rest = []) : readU2Str b = .err .packetBad :=
  readU2Str_of_dec_err (by rw [hr]; exact u2Dec_nil)

example : readU2Str ⟨[1, 2], []⟩ = .err .packetBad := by decide +kernel

/-- As a reader operation (`ROp.su2`, either byte order): the reader after it exists (no crash), is
on the same packet and inside it, and a failed read leaves it exactly where it was.  (In the code
the cursor is written once, after the last `?`; that the real reader's position is unchanged after
a failure is what the correspondence check compares case by case.) -/
theorem C17_unreal2_string_failure_keeps_position (e : Endian) (b : Buf) :
    ∃ b', ROp.after e .su2 b = some b' ∧ b'.data = b.data ∧ b'.pos ≤ b.data.length
      ∧ (∀ k, readU2Str b = .err k → b' = b) := by
  have h0 := C17_unreal2_string_within_packet b
  have hexec : ROp.exec e .su2 b = (readU2Str >>= fun s => pure (.str s)) b := rfl
  unfold ROp.after
  rw [hexec, Par.bind_apply]
  cases h : readU2Str b with
  | crash => rw [h] at h0; exact h0.elim
  | err k => exact ⟨b, rfl, rfl, b.pos_le_len, fun _ _ => rfl⟩
  | ok x =>
    obtain ⟨s, b'⟩ := x
    rw [h] at h0
    exact ⟨b', rfl, h0.1, h0.2.2, fun k hk => by cases hk⟩

example : ROp.afterAll .big [.u 1, .su2, .su2, .u 1] (Buf.new [9, 0x81, 0x41, 0, 1, 0x42, 7])
    = some ⟨[7, 0x42, 1, 0, 0x41, 0x81, 9], []⟩ := by decide +kernel

/-- The read looks at nothing beyond what it consumes, except for the one byte after a UCS-2
length byte that decides whether a stray `0x01` is present: replace everything after the consumed
bytes by anything (keeping that decision) and text and position are the same. -/
theorem C17_unreal2_string_consumed_only (l : UInt8) (body s post : Bytes) (n : Nat)
    (h : u2Dec (l :: body) = .ok (s, n))
    (hst : 0x80 ≤ l.toNat → strayOf (body.take (n - 1) ++ post) = strayOf body) :
    u2Dec (l :: (body.take (n - 1) ++ post)) = .ok (s, n) :=
  u2Dec_consumed_only h post hst

example : u2Dec (2 :: ([0x41, 0, 9, 9].take (3 - 1) ++ [1, 1, 1])) = .ok ([0x41], 3) := by decide +kernel
-- the decision byte matters: an empty UCS-2 string followed by 0x01 is read as a stray byte
example : u2Dec [0x80, 7] = .ok ([], 1) ∧ u2Dec [0x80, 1] = .ok ([], 2) := by decide +kernel
