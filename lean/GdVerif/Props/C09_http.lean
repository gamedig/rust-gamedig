import GdVerif.Lemmas.HttpIpv6
/-
  C09 — requests go to the caller's address and port and name the right host: the HTTP client and the Eco query.

  MODEL: `GdVerif/Proto/Http.lean` (`new`, `makeRequest`, the `url` crate's parser and path setter, `Eco.query`), tied to
         `crates/lib/src/http.rs` / `games/eco/protocol.rs` on every run: the real client makes its request to a loopback
         listener that records the connection and the request head (`http-plan`), and the URL it builds is read back for
         arbitrary addresses (`http-url`); the model driver must print the same.
  PARAMETERS: `idna` (UTS 46 for names that are not plain ASCII), the wire (`ureq` + network), the JSON deserialiser.
         Statements about the text on the wire (`Ureq.hostHeader`, `Ureq.target`, `Ureq.requestHead`) are about the mirror
         of `ureq`'s `send_prelude` in the model file; the others are about gamedig's own logic and the `url` crate.
-/
open Gd Gd.Http

/-- WHERE THE CONNECTION GOES, for every address (IPv4 / IPv6), port, host name (any bytes), protocol, headers and
timeout settings: whenever a client is built, the resolver handed to the agent answers EVERY name — the host of the URL,
the host of a redirect, anything — with exactly the caller's socket address (IP and port).  No name is ever looked up. -/
theorem C09_http_connects_to_the_address (idna : Bytes → Option Bytes) (ua : Bytes) (address : SocketAddr)
    (ts : Option Settings.Timeout) (hs : HttpSettings) (client : Client) (h : Http.new idna ua address ts hs = .ok client) :
    ∀ name : Bytes, client.agent.resolver name = [address] := by
  intro name
  rw [(new_ok h).1]

/-- Building a client cannot panic — the one panic site of the code it runs, `parse_ipv4addr`'s `expect("a non-empty list of
numbers")`, is a crash branch of the model and is not reached (`Lemmas/Http.lean: parseIpv4_no_crash`) —, and the only
error is `InvalidInput` (a host text the URL parser rejects). -/
theorem C09_http_new_total (idna : Bytes → Option Bytes) (ua : Bytes) (address : SocketAddr)
    (ts : Option Settings.Timeout) (hs : HttpSettings) :
    Http.new idna ua address ts hs ≠ .crash ∧ ∀ k, Http.new idna ua address ts hs = .err k → k = .invalidInput := by
  exact new_total idna ua address ts hs

/-- NO HOST NAME GIVEN, IPv4: for every address `a.b.c.d`, port, protocol, headers and timeout settings the client is
built, the host of its URL is that address, the URL's port is the given port (left out when it is the scheme's
default, as the parser does), path `/`, no user info, no query, no fragment. -/
theorem C09_http_url_v4 (idna : Bytes → Option Bytes) (ua : Bytes) (a b c d : UInt8) (port : Nat) (hp : port < 65536)
    (ts : Option Settings.Timeout) (proto : Protocol) (headers : List (Bytes × Bytes)) :
    ∃ client, Http.new idna ua ⟨.v4 a b c d, port⟩ ts ⟨proto, none, headers⟩ = .ok client
      ∧ client.address = ⟨proto, [], none, .ipv4 (a.toNat * 2 ^ 24 + b.toNat * 2 ^ 16 + c.toNat * 2 ^ 8 + d.toNat),
          if port = proto.defaultPort then none else some port, [47], none, none⟩
      ∧ client.headers = headers := by
  have h := parseUrl_hostText idna proto (showIpv4_hostText a b c d) port hp
  rw [parseHost_showIpv4] at h
  simp only [Http.new, ipHostText]
  rw [h]
  exact ⟨_, rfl, rfl, rfl⟩

/-- NO HOST NAME GIVEN, IPv6: for every address (eight segments, whatever their values — all zero, loopback, IPv4-mapped,
zero runs anywhere), port, protocol, headers and timeout settings the client is built and the host of its URL is that
address: the text `Display for Ipv6Addr` prints (IPv4-mapped addresses in their dotted form, the longest zero run as `::`),
put in brackets, is read back by the `url` crate's `parse_ipv6addr` as the same eight segments. -/
theorem C09_http_url_v6 (idna : Bytes → Option Bytes) (ua : Bytes) (s0 s1 s2 s3 s4 s5 s6 s7 : UInt16) (port : Nat) (hp : port < 65536)
    (ts : Option Settings.Timeout) (proto : Protocol) (headers : List (Bytes × Bytes)) :
    ∃ client, Http.new idna ua ⟨.v6 s0 s1 s2 s3 s4 s5 s6 s7, port⟩ ts ⟨proto, none, headers⟩ = .ok client
      ∧ client.address = ⟨proto, [], none, .ipv6 [s0.toNat, s1.toNat, s2.toNat, s3.toNat, s4.toNat, s5.toNat, s6.toNat, s7.toNat],
          if port = proto.defaultPort then none else some port, [47], none, none⟩
      ∧ client.headers = headers := by
  have h := parseUrl_hostText idna proto (bracketed_hostText [s0, s1, s2, s3, s4, s5, s6, s7]) port hp
  rw [parseHost_bracketed] at h
  simp only [Http.new, ipHostText, IpAddr.segs]
  rw [h]
  exact ⟨_, rfl, rfl, rfl⟩

/-- THE `Host` HEADER, no name given, IPv6: the bracketed text the URL serialiser writes for the address, and `:port` unless
the port is the scheme's default — and that bracketed text DENOTES the address: read as a host it is the same eight segments
(the serialiser never uses the dotted form, `::ffff:127.0.0.1` is written `[::ffff:7f00:1]`). -/
theorem C09_http_host_header_v6 (idna : Bytes → Option Bytes) (s0 s1 s2 s3 s4 s5 s6 s7 : UInt16) (port : Nat) (proto : Protocol) :
    let host := Host.ipv6 [s0.toNat, s1.toNat, s2.toNat, s3.toNat, s4.toNat, s5.toNat, s6.toNat, s7.toNat]
    Ureq.hostHeader ⟨proto, [], none, host, if port = proto.defaultPort then none else some port, [47], none, none⟩
      = host.text ++ (if port = proto.defaultPort then [] else 58 :: natDec port)
    ∧ parseHost idna host.text = .ok host := by
  refine ⟨?_, parseHost_writeIpv6 idna s0 s1 s2 s3 s4 s5 s6 s7⟩
  simp only [Ureq.hostHeader]
  by_cases hpd : port = proto.defaultPort <;> simp [hpd]

/-- A HOST NAME GIVEN: for every plain name (ASCII without the characters the deny list of domains holds, no Punycode
label, not read as a number — `Lemmas/Http.lean: PlainName`), every address of either family, port, protocol, headers and
timeout settings the client is built and the host of its URL is that name in lower case; port, path etc. as above.
(The address does not occur in the URL at all: it only sits in the resolver, `C09_http_connects_to_the_address`.) -/
theorem C09_http_url_named (idna : Bytes → Option Bytes) (ua : Bytes) (address : SocketAddr) (hp : address.port < 65536)
    (name : Bytes) (hname : PlainName name) (ts : Option Settings.Timeout) (proto : Protocol) (headers : List (Bytes × Bytes)) :
    ∃ client, Http.new idna ua address ts ⟨proto, some name, headers⟩ = .ok client
      ∧ client.address = ⟨proto, [], none, .domain (asciiLower name),
          if address.port = proto.defaultPort then none else some address.port, [47], none, none⟩
      ∧ client.headers = headers := by
  have h := parseUrl_plain idna proto hname address.port hp
  simp only [Http.new]
  rw [h]
  exact ⟨_, rfl, rfl, rfl⟩

/-- THE `Host` HEADER (as `ureq` writes it from the URL), no name given, IPv4: the address in dotted form, and `:port`
unless the port is the scheme's default. -/
theorem C09_http_host_header_v4 (a b c d : UInt8) (port : Nat) (proto : Protocol) :
    Ureq.hostHeader ⟨proto, [], none, .ipv4 (a.toNat * 2 ^ 24 + b.toNat * 2 ^ 16 + c.toNat * 2 ^ 8 + d.toNat),
        if port = proto.defaultPort then none else some port, [47], none, none⟩
      = showIpv4 a b c d ++ (if port = proto.defaultPort then [] else 58 :: natDec port) := by
  simp only [Ureq.hostHeader, hostText_ipv4]
  by_cases hpd : port = proto.defaultPort <;> simp [hpd]

/-- THE `Host` HEADER, a plain name given: that name (lower case), and `:port` unless the port is the scheme's default. -/
theorem C09_http_host_header_named (name : Bytes) (port : Nat) (proto : Protocol) :
    Ureq.hostHeader ⟨proto, [], none, .domain (asciiLower name), if port = proto.defaultPort then none else some port, [47], none, none⟩
      = asciiLower name ++ (if port = proto.defaultPort then [] else 58 :: natDec port) := by
  simp only [Ureq.hostHeader, Host.text]
  by_cases hpd : port = proto.defaultPort <;> simp [hpd]

/-- THE REQUEST TARGET: for every client whose URL has no query (`C09_http_url_v4`, `_v6`, `_named`) and every path
`/seg/seg/…` of plain segments (`Lemmas/Http.lean: PlainSegment`: ASCII outside the escape set, no dot segment),
`request*` asks for exactly that path; method and headers are the caller's, host and port of the URL are untouched. -/
theorem C09_http_request_target (client : Client) (hq : client.address.query = none) (segs : List Bytes)
    (hsegs : ∀ s ∈ segs, PlainSegment s) (method : Bytes) (headers : List (Bytes × Bytes)) :
    let req := client.makeRequest method (47 :: joinWith [47] segs) headers
    Ureq.target req.url = 47 :: joinWith [47] segs ∧ req.method = method
    ∧ req.url.host = client.address.host ∧ req.url.port = client.address.port ∧ req.url.protocol = client.address.protocol := by
  simp only [Client.makeRequest, Ureq.target, setPath_plain _ hsegs]
  have : (client.address.setPath (47 :: joinWith [47] segs)).query = none := hq
  rw [this]
  simp [Url.setPath]

/-- … and a path given without its leading slash gets one. -/
theorem C09_http_request_target_relative (client : Client) (hq : client.address.query = none) (s : Bytes) (segs : List Bytes)
    (hne : s ≠ []) (hsegs : ∀ x ∈ s :: segs, PlainSegment x) (method : Bytes) (headers : List (Bytes × Bytes)) :
    Ureq.target (client.makeRequest method (joinWith [47] (s :: segs)) headers).url = 47 :: joinWith [47] (s :: segs) := by
  simp only [Client.makeRequest, Ureq.target, setPath_plain_relative _ hne hsegs]
  have : (client.address.setPath (joinWith [47] (s :: segs))).query = none := hq
  rw [this]
  simp

/-- The headers of a request: the client's, then the request's, in that order (through `ureq`'s `set`). -/
theorem C09_http_request_headers (client : Client) (method path : Bytes) (headers : List (Bytes × Bytes)) :
    (client.makeRequest method path headers).headers = (client.headers ++ headers).foldl setHeader []
    ∧ (client.headers = [] → headers = [] → (client.makeRequest method path headers).headers = []) :=
  ⟨rfl, fun h1 h2 => by simp [Client.makeRequest, h1, h2]⟩

theorem eco_frontpage_plain : PlainSegment (asciiBytes "frontpage") := by
  rw [asciiBytes_ofList]
  exact ⟨by decide +kernel, by decide +kernel, by decide +kernel⟩

/-- THE ECO QUERY ONCE A CLIENT IS BUILT, for every address, port, settings, wire behaviour and deserialiser: one `GET /frontpage`
on the client's URL (which has no query and keeps everything but its path), no headers besides the client's, every name
resolved to the address and port.  The three theorems below put in what the client's URL is. -/
theorem C09_eco_request (idna : Bytes → Option Bytes) (ua : Bytes) (w : Wire) (json : Bytes → Option Eco.Info)
    (ip : IpAddr) (port : Option Nat) (ts : Option Settings.Timeout) (extra : Option Eco.RequestSettings) (client : Client)
    (hnew : Http.new idna ua ⟨ip, port.getD Eco.DEFAULT_PORT⟩ ts (extra.getD {}).toHttp = .ok client)
    (hq : client.address.query = none) (hh : client.headers = []) :
    ∃ req, (Eco.query idna ua w json ip port ts extra).1 = some (client, req)
      ∧ (∀ name, client.agent.resolver name = [⟨ip, port.getD 3001⟩])
      ∧ req.method = asciiBytes "GET" ∧ Ureq.target req.url = asciiBytes "/frontpage" ∧ req.headers = []
      ∧ req.url = { client.address with path := asciiBytes "/frontpage" } := by
  have hsegs : ∀ s ∈ [asciiBytes "frontpage"], PlainSegment s := fun s hs => by
    rw [List.mem_singleton.mp hs]
    exact eco_frontpage_plain
  have hpath : asciiBytes Eco.PATH = 47 :: joinWith [47] [asciiBytes "frontpage"] := by decide +kernel
  refine ⟨client.makeRequest GET (asciiBytes Eco.PATH) [], ?_, C09_http_connects_to_the_address idna ua _ ts _ client hnew, rfl, ?_, ?_, ?_⟩
  · simp only [Eco.query]
    rw [hnew]
    simp only [requestJson_fst]
  · show Ureq.target _ = asciiBytes Eco.PATH
    rw [hpath]
    exact (C09_http_request_target client hq _ hsegs GET []).1
  · simp only [Client.makeRequest, hh]
    rfl
  · -- `setPath` changes the path only
    have h := setPath_plain client.address hsegs
    rw [← hpath] at h
    exact congrArg (fun p => { client.address with path := p }) h

/-- THE ECO QUERY, IPv4 address, no host name: for every address, port (given, or 3001 when omitted), timeout settings, wire
behaviour and deserialiser — one `GET /frontpage`, no extra headers, `Host` = the address and port, every name resolved to the
address and port; as `ureq` sends it: the request head spelled out. -/
theorem C09_eco_request_v4 (idna : Bytes → Option Bytes) (ua : Bytes) (w : Wire) (json : Bytes → Option Eco.Info)
    (a b c d : UInt8) (port : Option Nat) (hp : port.getD Eco.DEFAULT_PORT < 65536) (ts : Option Settings.Timeout) :
    ∃ client req, (Eco.query idna ua w json (.v4 a b c d) port ts none).1 = some (client, req)
      ∧ (∀ name, client.agent.resolver name = [⟨.v4 a b c d, port.getD 3001⟩])
      ∧ req.method = asciiBytes "GET" ∧ Ureq.target req.url = asciiBytes "/frontpage" ∧ req.headers = []
      ∧ Ureq.hostHeader req.url = showIpv4 a b c d ++ (if port.getD 3001 = 80 then [] else 58 :: natDec (port.getD 3001))
      ∧ Ureq.requestHead client.agent req = asciiBytes "GET /frontpage HTTP/1.1\r\nHost: " ++
          (showIpv4 a b c d ++ (if port.getD 3001 = 80 then [] else 58 :: natDec (port.getD 3001))) ++
          asciiBytes "\r\nUser-Agent: " ++ ua ++ asciiBytes "\r\nAccept: */*\r\naccept-encoding: gzip\r\n\r\n" := by
  obtain ⟨client, hnew, haddr, hhead⟩ := C09_http_url_v4 idna ua a b c d (port.getD Eco.DEFAULT_PORT) hp ts .http []
  obtain ⟨req, hquery, hres, hmethod, htarget, hheaders, hurl⟩ :=
    C09_eco_request idna ua w json (.v4 a b c d) port ts none client hnew (by rw [haddr]) hhead
  have hhost : Ureq.hostHeader req.url
      = showIpv4 a b c d ++ (if port.getD 3001 = 80 then [] else 58 :: natDec (port.getD 3001)) := by
    rw [hurl, haddr]
    exact C09_http_host_header_v4 a b c d (port.getD Eco.DEFAULT_PORT) .http
  refine ⟨client, req, hquery, hres, hmethod, htarget, hheaders, hhost, ?_⟩
  have hline : asciiBytes "GET /frontpage HTTP/1.1\r\nHost: "
      = asciiBytes "GET" ++ [32] ++ asciiBytes "/frontpage" ++ asciiBytes " HTTP/1.1\r\nHost: " := by
    rw [show ([32] : Bytes) = asciiBytes " " from rfl, ← asciiBytes_append, ← asciiBytes_append, ← asciiBytes_append]
    rfl
  rw [Ureq.requestHead_bare _ _ hheaders (by rw [hurl, haddr]) (by rw [hurl, haddr]), hmethod, htarget, hhost, (new_ok hnew).2.1, hline]

/-- THE ECO QUERY, IPv6 address, no host name: the same request; the URL's host is the address, `Host` its bracketed text. -/
theorem C09_eco_request_v6 (idna : Bytes → Option Bytes) (ua : Bytes) (w : Wire) (json : Bytes → Option Eco.Info)
    (s0 s1 s2 s3 s4 s5 s6 s7 : UInt16) (port : Option Nat) (hp : port.getD Eco.DEFAULT_PORT < 65536) (ts : Option Settings.Timeout) :
    ∃ client req, (Eco.query idna ua w json (.v6 s0 s1 s2 s3 s4 s5 s6 s7) port ts none).1 = some (client, req)
      ∧ (∀ name, client.agent.resolver name = [⟨.v6 s0 s1 s2 s3 s4 s5 s6 s7, port.getD 3001⟩])
      ∧ req.method = asciiBytes "GET" ∧ Ureq.target req.url = asciiBytes "/frontpage" ∧ req.headers = []
      ∧ req.url.host = .ipv6 [s0.toNat, s1.toNat, s2.toNat, s3.toNat, s4.toNat, s5.toNat, s6.toNat, s7.toNat]
      ∧ Ureq.hostHeader req.url = req.url.host.text ++ (if port.getD 3001 = 80 then [] else 58 :: natDec (port.getD 3001)) := by
  obtain ⟨client, hnew, haddr, hhead⟩ := C09_http_url_v6 idna ua s0 s1 s2 s3 s4 s5 s6 s7 (port.getD Eco.DEFAULT_PORT) hp ts .http []
  obtain ⟨req, hquery, hres, hmethod, htarget, hheaders, hurl⟩ :=
    C09_eco_request idna ua w json (.v6 s0 s1 s2 s3 s4 s5 s6 s7) port ts none client hnew (by rw [haddr]) hhead
  refine ⟨client, req, hquery, hres, hmethod, htarget, hheaders, by rw [hurl, haddr], ?_⟩
  rw [hurl, haddr]
  exact (C09_http_host_header_v6 idna s0 s1 s2 s3 s4 s5 s6 s7 (port.getD Eco.DEFAULT_PORT) .http).1

/-- THE ECO QUERY with a plain host name in the request settings, any address of either family: the same request, `Host` =
that name (lower case) and the port; the connection still goes to the address (`C09_http_connects_to_the_address`). -/
theorem C09_eco_request_named (idna : Bytes → Option Bytes) (ua : Bytes) (w : Wire) (json : Bytes → Option Eco.Info)
    (ip : IpAddr) (port : Option Nat) (hp : port.getD Eco.DEFAULT_PORT < 65536) (ts : Option Settings.Timeout)
    (name : Bytes) (hname : PlainName name) :
    ∃ client req, (Eco.query idna ua w json ip port ts (some ⟨some name⟩)).1 = some (client, req)
      ∧ (∀ n, client.agent.resolver n = [⟨ip, port.getD 3001⟩])
      ∧ req.method = asciiBytes "GET" ∧ Ureq.target req.url = asciiBytes "/frontpage" ∧ req.headers = []
      ∧ Ureq.hostHeader req.url = asciiLower name ++ (if port.getD 3001 = 80 then [] else 58 :: natDec (port.getD 3001)) := by
  obtain ⟨client, hnew, haddr, hhead⟩ := C09_http_url_named idna ua ⟨ip, port.getD Eco.DEFAULT_PORT⟩ hp name hname ts .http []
  obtain ⟨req, hquery, hres, hmethod, htarget, hheaders, hurl⟩ :=
    C09_eco_request idna ua w json ip port ts (some ⟨some name⟩) client hnew (by rw [haddr]) hhead
  refine ⟨client, req, hquery, hres, hmethod, htarget, hheaders, ?_⟩
  rw [hurl, haddr]
  exact C09_http_host_header_named name (port.getD Eco.DEFAULT_PORT) .http

/-- `from_url` (the services' way in: a URL instead of an address): whenever a client is built, every name is resolved to ONE
socket address, fixed when the client is made — for an IP-literal URL that very address with the URL's port (or the scheme's
default), for a domain the FIRST address the system resolver returned for `(domain, port)` (the lookup is a parameter) —
and the host text of the URL is what `new` is given as host name; a failed or empty lookup is `HostLookup`. -/
theorem C09_http_from_url (idna : Bytes → Option Bytes) (ua : Bytes) (lookup : Bytes → Nat → Option (List SocketAddr)) (tls : Bool)
    (url : Url) (ts : Option Settings.Timeout) (headers : Option (List (Bytes × Bytes))) :
    (∀ client, Http.fromUrl idna ua lookup tls url ts headers = .ok client →
      ∃ address, (∀ name, client.agent.resolver name = [address])
        ∧ Http.new idna ua address ts ⟨if url.protocol == .https && tls then .https else .http, some url.host.text, headers.getD []⟩ = .ok client
        ∧ ((∃ d rest, url.host = .domain d ∧ lookup d url.portOrDefault = some (address :: rest))
           ∨ (url.host.ipAddr = some address.ip ∧ address.port = url.portOrDefault)))
    ∧ (∀ d, url.host = .domain d → (lookup d url.portOrDefault = none ∨ lookup d url.portOrDefault = some []) →
        Http.fromUrl idna ua lookup tls url ts headers = .err .hostLookup) := by
  constructor
  · intro client h
    unfold Http.fromUrl at h
    simp only [] at h
    generalize hset : (⟨if url.protocol == .https && tls then .https else .http, some url.host.text, headers.getD []⟩ : HttpSettings) = hs at h ⊢
    cases hh : url.host with
    | domain d =>
      rw [hh] at h
      simp only [] at h
      cases hl : lookup d url.portOrDefault with
      | none => rw [hl] at h; cases h
      | some l =>
        cases l with
        | nil => rw [hl] at h; cases h
        | cons a rest =>
          rw [hl] at h
          exact ⟨a, C09_http_connects_to_the_address idna ua a ts _ client h, h, .inl ⟨d, rest, rfl, hl⟩⟩
    | _ =>
      -- an IP literal is the address
      rw [hh] at h
      simp only [] at h
      generalize Host.ipAddr _ = o at h ⊢
      cases o with
      | none => cases h
      | some ip => exact ⟨_, C09_http_connects_to_the_address idna ua _ ts _ client h, h, .inr ⟨rfl, rfl⟩⟩
  · intro d hd hl
    unfold Http.fromUrl
    simp only [hd]
    rcases hl with hl | hl <;> rw [hl]

-- non-vacuity: clients are built (IPv6 address and odd host name, IPv4-mapped address, `from_url` with a domain that the
-- resolver knows), a plain name, plain segments
example :
    (Http.new (fun _ => none) (asciiBytes "gamedig/0") ⟨.v6 0x2001 0xdb8 0 0 0 0 0 1, 3001⟩ none ⟨.http, some (asciiBytes "Eco.Example"), []⟩).toOption.map
      (fun c => (c.address.text, c.agent.resolver (asciiBytes "anything:80")))
      = some (asciiBytes "http://eco.example:3001/", [⟨.v6 0x2001 0xdb8 0 0 0 0 0 1, 3001⟩])
    ∧ (Http.new (fun _ => none) [] ⟨.v6 0 0 0 0 0 0xffff 0x7f00 1, 80⟩ none {}).toOption.map (fun c => (c.address.text, c.address.host))
      = some (asciiBytes "http://[::ffff:7f00:1]/", .ipv6 [0, 0, 0, 0, 0, 0xffff, 0x7f00, 1])
    ∧ (Http.fromUrl (fun _ => none) [] (fun d p => if d == asciiBytes "example.org" then some [⟨.v4 10 0 0 7, p⟩, ⟨.v4 10 0 0 8, p⟩] else none) false
        ⟨.https, [], none, .domain (asciiBytes "example.org"), none, asciiBytes "/ignored", none, none⟩ none none).toOption.map
      (fun c => (c.address.text, c.agent.resolver []))
      = some (asciiBytes "http://example.org:443/", [⟨.v4 10 0 0 7, 443⟩]) := by
  repeat rw [asciiBytes_ofList]
  decide +kernel

example : PlainName (asciiBytes "Play.Eco-1.example") := by
  rw [asciiBytes_ofList]
  exact ⟨by decide, by decide, by decide, by decide⟩
example : PlainSegment (asciiBytes "frontpage") := eco_frontpage_plain
example : PlainSegment (asciiBytes "%2e%2e") → False := fun h => absurd h.notDoubleDot (by decide)

/-- What the parser makes of host names that are NOT plain (the oddities are the code's, shown on the model and observed on the
real client by the `http-plan` / `http-url` cases): upper case is folded, `127.1` is the address 127.0.0.1, a `/` or `?` in
the name ends the authority — the port then belongs to the path / query, so the URL has the default port and the `Host`
header no port —, text before an `@` becomes user info (`ureq` sends it as `Authorization: Basic`), an empty name and a
name with a colon are rejected. -/
theorem C09_http_odd_names :
    let url (name : String) := (Http.new (fun _ => none) [] ⟨.v4 127 0 0 2, 3001⟩ none ⟨.http, some (asciiBytes name), []⟩).toOption.map
      fun c => (c.address.setPath (asciiBytes "/frontpage")).text
    url "LocalHost" = some (asciiBytes "http://localhost:3001/frontpage")
    ∧ url "127.1" = some (asciiBytes "http://127.0.0.1:3001/frontpage")
    ∧ url "0x7f.1" = some (asciiBytes "http://127.0.0.1:3001/frontpage")
    ∧ url "a/b" = some (asciiBytes "http://a/frontpage")
    ∧ url "a?b" = some (asciiBytes "http://a/frontpage?b:3001")
    ∧ url "u:p@h" = some (asciiBytes "http://u:p@h:3001/frontpage")
    ∧ url "[::1]" = some (asciiBytes "http://[::1]:3001/frontpage")
    ∧ url "" = none ∧ url "h:80" = none ∧ url "a b" = none ∧ url "1.2.3.4.5" = none := by
  dsimp only
  repeat rw [asciiBytes_ofList]
  decide +kernel
