import GdVerif.Lemmas.SmallCost
import GdVerif.Lemmas.SmallBlock
/-
  C13 (requests sent) — Just Cause 2: Multiplayer (the GameSpy 3 exchange in single-packet mode).
  `units` = 1: the data request is sent only after the challenge reply has been received.
-/
open Gd Gd.Jc2m

/-- At most one datagram per attempt plus one per datagram received, for every script, fault vector,
port and retry setting. -/
theorem C13_jc2m_send_bound (port : Option Nat) (retries : Nat) (script : List ConnScript) (faults : List Bool) :
    nSends (query port retries (Net.init script faults)).2.log
      ≤ 1 * (retries + 1) + nRecvOk (query port retries (Net.init script faults)).2.log := by
  have := (cost_query port retries).total script faults
  omega

/-- … and never more than two per attempt. -/
theorem C13_jc2m_send_bound_abs (port : Option Nat) (retries : Nat) (script : List ConnScript) (faults : List Bool) :
    nSends (query port retries (Net.init script faults)).2.log ≤ 2 * (retries + 1) :=
  (sends_query port retries).total script faults

/-- The first bound is attained for every retry setting by a server that never answers. -/
theorem C13_jc2m_send_bound_attained (port : Option Nat) (retries : Nat) :
    nSends (query port retries (Net.init [] [])).2.log = retries + 1
      ∧ nRecvOk (query port retries (Net.init [] [])).2.log = 0 :=
  ⟨(silent_query port retries (Net.init [] []) rfl rfl).counts.2.1,
   (silent_query port retries (Net.init [] []) rfl rfl).counts.2.2.2.1⟩

/-- both are attained by a server that answers the handshakes only (one retry): 4 = 2 · 2 = 2 + 2 -/
example :
    nSends (query none 1 (Net.init [.opened [.data [9, 0, 0, 0, 1, 48, 0], .silence, .data [9, 0, 0, 0, 1, 48, 0], .silence]] [])).2.log = 4
    ∧ nRecvOk (query none 1 (Net.init [.opened [.data [9, 0, 0, 0, 1, 48, 0], .silence, .data [9, 0, 0, 0, 1, 48, 0], .silence]] [])).2.log = 2 := by
  decide +kernel
