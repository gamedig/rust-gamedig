import GdVerif.Lemmas.Dispatch
/-
  C01 — the generic definition-driven dispatch (`games::query::query_with_timeout_and_extra_settings`,
  `query_with_timeout`, `query`) never crashes; nor do the per-game modules.

  MODEL: `GdVerif/Proto/Dispatch.lean` (every arm built without the `tls` feature).  The proof composes the
  families' crash-freedom theorems (`Valve.query_safe`, `Gs1.query_safe`, …, `Mc.queryAuto_safe`).  Eco's HTTP
  client (ureq + serde) is a parameter of this model and must itself not panic: that is the hypothesis `EcoSafeFor`,
  which asks nothing for any other arm.  (`Proto/Http.lean` models that client separately; `EcoSafe` is not
  instantiated with it.)
-/
open Gd Gd.Dispatch Gd.Gen

/-- For EVERY definition (any protocol arm, any default port, any request settings — in particular every row of the
generated table), every port or none, every timeout settings (any retry count) or none, every extra settings or
none, every script (what the peer delivers to each socket, refused connections), every send-fault vector and every
behaviour of the external decoders (bzip2, CRC-32, the JSON crate): the definition-driven query does not crash. -/
theorem C01_dispatch (ext : Ext) (game : Game) (heco : EcoSafeFor ext game.protocol) (port : Option Nat)
    (timeout : Option Settings.Timeout) (extra : Option Extra) (script : List ConnScript) (faults : List Bool) :
    (generic ext game port timeout extra (Net.init script faults)).1 ≠ .crash :=
  (generic_logSafe ext game heco port timeout extra (Net.init script faults)).1

/-- The same from any transport state (a query made after others on the same scripted network). -/
theorem C01_dispatch_any_state (ext : Ext) (game : Game) (heco : EcoSafeFor ext game.protocol) (port : Option Nat)
    (timeout : Option Settings.Timeout) (extra : Option Extra) (w : Net) :
    (generic ext game port timeout extra w).1 ≠ .crash :=
  (generic_logSafe ext game heco port timeout extra w).1

/-- Every row of the GENERATED definitions table is such a definition (none falls outside the model), so the
statement holds for every game the library ships; for every row but Eco's without any hypothesis. -/
theorem C01_dispatch_rows {d : GameRow} (hd : d ∈ gameDefs) (ext : Ext) (heco : d.tag = .eco → EcoSafe ext)
    (port : Option Nat) (timeout : Option Settings.Timeout) (extra : Option Extra) (script : List ConnScript)
    (faults : List Bool) :
    ∃ game, Game.ofRow d = some game ∧ (generic ext game port timeout extra (Net.init script faults)).1 ≠ .crash := by
  obtain ⟨game, hg⟩ := Game.ofRow_of_mem hd
  exact ⟨game, hg, C01_dispatch ext game (fun hp => heco (game_ofRow_eco hg hp)) port timeout extra script faults⟩

/-- `games::query::query_with_timeout` and `games::query::query` are the same function with `None`s. -/
theorem C01_dispatch_wrappers (ext : Ext) (game : Game) (heco : EcoSafeFor ext game.protocol) (port : Option Nat)
    (timeout : Option Settings.Timeout) (script : List ConnScript) (faults : List Bool) :
    (genericWithTimeout ext game port timeout (Net.init script faults)).1 ≠ .crash
    ∧ (genericQuery ext game port (Net.init script faults)).1 ≠ .crash :=
  ⟨C01_dispatch ext game heco port timeout none script faults, C01_dispatch ext game heco port none none script faults⟩

/-- Every kind of per-game module (`game_query_fn!` of the four protocol families, the hand-written modules incl.
`battalion1944` and the five `games::minecraft` functions), port given or omitted. -/
theorem C01_dispatch_module (ext : Ext) (m : Module) (heco : m = .eco → EcoSafe ext) (port : Option Nat)
    (script : List ConnScript) (faults : List Bool) :
    (moduleQuery ext m port (Net.init script faults)).1 ≠ .crash :=
  (moduleQuery_logSafe ext m heco port (Net.init script faults)).1

/-- The settings conversions the dispatch applies, field by field: an unset field takes the protocol's default. -/
theorem C01_dispatch_settings (e : Extra) :
    e.toValve = ⟨e.gatherPlayers.getD .try_, e.gatherRules.getD .try_, e.checkAppId.getD true⟩
    ∧ e.toUnreal2 = ⟨e.gatherPlayers.getD .try_, e.gatherRules.getD .enforce⟩
    ∧ e.toMinecraft = ⟨e.hostname.getD (asciiBytes "gamedig"), e.protocolVersion.getD (-1)⟩
    ∧ e.toEco = ⟨e.hostname⟩ := ⟨rfl, rfl, rfl, rfl⟩

/-- the error kind of a result, if it is an error (the responses themselves need not have decidable equality) -/
def C01_dispatch_kind : Res α → Option ErrKind
  | .err k => some k
  | _ => none

-- non-vacuity: hostile scripts are in the quantifier, on concrete rows of the generated table
-- teamfortress2 through the generic path: a reply cut inside the header is an error value
example :
    C01_dispatch_kind (generic ⟨⟨fun _ => none, fun _ => 0⟩, ⟨fun _ => none, fun _ => []⟩, fun _ _ _ => Q.fail .socketConnect⟩
      ⟨27015, .valve (Valve.Engine.new 440), valveIntoExtra Valve.Gather.default⟩ none none none
      (Net.init [.opened [.data [0xFF, 0xFF]]] [])).1 = some .packetUnderflow := by
  decide +kernel
-- quake3arena (`q3a`), two retries, silence all the way: three attempts then the timeout error
example :
    C01_dispatch_kind (generic ⟨⟨fun _ => none, fun _ => 0⟩, ⟨fun _ => none, fun _ => []⟩, fun _ _ _ => Q.fail .socketConnect⟩
      ⟨27960, .quake .three, valveIntoExtra Valve.Gather.default⟩ none (some ⟨none, none, none, 2⟩) none
      (Net.init [.opened [.silence, .silence, .silence]] [])).1 = some .packetReceive := by
  decide +kernel
-- minecraft (auto-detect): every probe refused
example :
    C01_dispatch_kind (generic ⟨⟨fun _ => none, fun _ => 0⟩, ⟨fun _ => none, fun _ => []⟩, fun _ _ _ => Q.fail .socketConnect⟩
      ⟨25565, .proprietary (.minecraft none), valveIntoExtra Valve.Gather.default⟩ (some 1) none none
      (Net.init [.refused, .refused, .refused, .refused, .refused] [])).1 = some .autoQuery := by
  decide +kernel
-- the hypothesis on the HTTP client is satisfiable (a client that cannot connect) …
example : EcoSafe ⟨⟨fun _ => none, fun _ => 0⟩, ⟨fun _ => none, fun _ => []⟩, fun _ _ _ => Q.fail .socketConnect⟩ :=
  fun _ _ _ => LogSafe.fail _ _
-- … and asks nothing of a Valve game
example (ext : Ext) : EcoSafeFor ext (.valve (Valve.Engine.new 440)) := fun h => by cases h
