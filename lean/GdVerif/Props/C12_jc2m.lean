import GdVerif.Lemmas.SmallBlock
/-
  C12 (blocking steps that can run into their timeout) — Just Cause 2: Multiplayer (via GameSpy 3).
-/
open Gd Gd.Jc2m

/-- At most `retries + 1` blocking steps run into their timeout, whatever the server does: one per
attempt of the exchange (handshake, data request, one packet). -/
theorem C12_jc2m_blocking_bound (port : Option Nat) (retries : Nat) (script : List ConnScript) (faults : List Bool) :
    nBlocked (query port retries (Net.init script faults)).2.log ≤ retries + 1 := by
  have := (block_query port retries).total script faults
  omega
/-- A silent server: the receive-class error after exactly `retries + 1` attempts (one handshake request, one timed-out receive each). -/
theorem C12_jc2m_silent_server (port : Option Nat) (retries : Nat) (script : List ConnScript)
    (h : PendingSilent false (retries + 1) script) :
    (query port retries (Net.init script [])).1 = .err .packetReceive
      ∧ nSends (query port retries (Net.init script [])).2.log = retries + 1
      ∧ nBlocked (query port retries (Net.init script [])).2.log = retries + 1
      ∧ nRecvOk (query port retries (Net.init script [])).2.log = 0
      ∧ nOpened (query port retries (Net.init script [])).2.log = 1 :=
  (silent_query port retries (Net.init script []) rfl h).counts

example (retries : Nat) (rest : List Delivery) (more : List ConnScript) :
    PendingSilent false (retries + 1) [] ∧
    PendingSilent false (retries + 1) (.opened (List.replicate (retries + 1) .silence ++ rest) :: more) :=
  ⟨rfl, SilentFor.replicate false (retries + 1) rest⟩

/-- attained by a server that answers the handshake and then stops (one retry) -/
example : nBlocked (query none 1 (Net.init [.opened [.data [9, 0, 0, 0, 1, 48, 0], .silence, .data [9, 0, 0, 0, 1, 48, 0], .silence]] [])).2.log = 2 := by
  decide +kernel
