import GdVerif.Lemmas.Battalion
/-
  C01 — hostile replies never crash or hang a query: Battalion 1944 (`games::battalion1944::query`).
-/
open Gd

/-- For EVERY script, port, send-fault vector and behaviour of the bzip2/CRC decoders the Battalion 1944 query
(a Valve query with engine app 489940, the `bat_*` rule overrides, the conversion to the generic Valve game
response) returns a response or an error, never a crash. -/
theorem C01_battalion (ext : Valve.Ext) (port : Nat) (script : List ConnScript) (faults : List Bool) :
    (Battalion.query ext port (Net.init script faults)).1 ≠ .crash :=
  (Battalion.query_safe ext port (Net.init script faults)).1

/-- The overrides alone, on any Valve response (any rule values: non-numeric, out of range, empty, …). -/
theorem C01_battalion_overrides (r : Valve.Response) : Battalion.applyOverrides r ≠ .crash :=
  Battalion.applyOverrides_ne r

-- non-vacuity: an out-of-range number in a rule is an error value, not a crash
example :
    Battalion.applyOverrides ⟨⟨17, [], [], [], [], 489940, 0, 0, 0, .dedicated, .linux, false, false, none, [], none, false, none⟩,
      none, some [(asciiBytes "bat_max_players_i", asciiBytes "256")]⟩ = .err .typeParse := by
  decide +kernel
