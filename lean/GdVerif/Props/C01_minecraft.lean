import GdVerif.Lemmas.McSafe
/-
  C01 (Minecraft) — hostile server responses never crash or hang a query.

  For EVERY reply script (any number of connections, each refused or delivering any byte strings and
  silences in any order, any failing sends), every port, retry count and request settings, and ANY
  behaviour of the external JSON crate (`ext` is universally quantified: whatever value `from_str` returns
  or whether it fails, whatever `to_string` prints), the model of each public Minecraft query returns a
  response or an error, never `crash` (panic, index out of bounds, arithmetic overflow).  Termination is
  Lean's: all model functions are total; the only loop is `retry_on_timeout`, recursive on the retry count.
  On the unrepaired tree the statement was false (legacy `u16` length arithmetic, see known_findings.json).
-/
open Gd Gd.Mc

/-- `minecraft::protocol::query_java` -/
theorem C01_minecraft_java (ext : Ext) (port : Nat) (st : RequestSettings) (retries : Nat)
    (script : List ConnScript) (faults : List Bool) :
    (queryJava ext port st retries (Net.init script faults)).1 ≠ .crash :=
  (queryJava_safe ext port st retries _).1

/-- `minecraft::protocol::query_bedrock` -/
theorem C01_minecraft_bedrock (port retries : Nat) (script : List ConnScript) (faults : List Bool) :
    (queryBedrock port retries (Net.init script faults)).1 ≠ .crash :=
  (queryBedrock_safe port retries _).1

/-- `minecraft::protocol::query_legacy_specific`, each of the three groups -/
theorem C01_minecraft_legacy_specific (g : LegacyGroup) (port retries : Nat) (script : List ConnScript) (faults : List Bool) :
    (queryLegacySpecific g port retries (Net.init script faults)).1 ≠ .crash :=
  (queryLegacySpecific_safe g port retries _).1

/-- `minecraft::protocol::query_legacy` -/
theorem C01_minecraft_legacy (port retries : Nat) (script : List ConnScript) (faults : List Bool) :
    (queryLegacy port retries (Net.init script faults)).1 ≠ .crash :=
  (queryLegacy_safe port retries _).1

/-- `minecraft::protocol::query` (auto-detect) -/
theorem C01_minecraft_auto (ext : Ext) (port : Nat) (st : RequestSettings) (retries : Nat)
    (script : List ConnScript) (faults : List Bool) :
    (queryAuto ext port st retries (Net.init script faults)).1 ≠ .crash :=
  (queryAuto_safe ext port st retries _).1

/-- The parsers alone, on any bytes (`n` = the stream length the legacy header check is given). -/
theorem C01_minecraft_parsers (ext : Ext) (g : LegacyGroup) (n : Nat) (data : Bytes) :
    ((javaParse ext).run data) ≠ .crash ∧ (javaUnframe.run data) ≠ .crash
    ∧ (bedrockParse.run data) ≠ .crash ∧ ((legacyParse g n).run data) ≠ .crash :=
  ⟨(safe_javaParse ext).run_ne_crash data, safe_javaUnframe.run_ne_crash data, safe_bedrockParse.run_ne_crash data,
   (safe_legacyParse g n).run_ne_crash data⟩

/-- The field extraction on any JSON value (numbers of any size and sign, members of any type). -/
theorem C01_minecraft_json_extraction (ext : Ext) (v : Json) : javaExtract ext v ≠ .crash :=
  javaExtract_ne ext v

/-- The indexing `split[0..2]` after the size check is in bounds: the explicit crash branch of the model is
unreachable (this is what `safe_legacySplitResponse` shows); a kick message with too few / too many `§`
separated parts is an error. -/
example : (queryLegacySpecific .vb1_8 25565 0 (Net.init [.opened [.data [0xFF, 0, 1, 0, 0x41]]] [])).1 = .err .packetUnderflow := by
  decide +kernel

-- non-vacuity: hostile scripts are in the quantifier — the pre-repair witness `FF 80 00` (u16 overflow)
example : (queryLegacySpecific .v1_6 25565 1 (Net.init [.opened [.data [0xFF, 0x80, 0x00]]] [])).1 = .err .packetUnderflow := by
  decide +kernel

example : (queryAuto ⟨fun _ => none, fun _ => []⟩ 25565 RequestSettings.default 0
    (Net.init [.refused, .opened [.silence], .opened [.data [0xFF, 0x7F, 0xFF]], .refused, .opened [.data []]] [true])).1
    = .err .autoQuery := by
  decide +kernel
