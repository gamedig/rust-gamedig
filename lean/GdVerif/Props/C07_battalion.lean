import GdVerif.Lemmas.Battalion
/-
  C07 — single-game protocols map every field: Battalion 1944.

  MODEL: `GdVerif/Proto/Battalion.lean` = `Valve.query` (engine app 489940, default gathering, no retries)
         + `applyOverrides` + `Games.gameView`.
  SPEC:  `GdVerif/Spec/Battalion.lean` on top of `Spec/Valve.lean`.
  The three replies are decoded by the Valve parsers (C02).
-/
open Gd Gd.Valve Gd.Valve.Spec

/-- For every well-formed Battalion 1944 server state (any subset of the six `bat_*` rules, numeric overrides
decimal 0–255): applying the overrides to the response a Valve client is entitled to and converting it gives the
response the game's user is entitled to — each override present replaces its field, the rest of the info reply,
the players and all other rules are carried over unchanged. -/
theorem C07_battalion (cfg : Config) (st : State) (h : Battalion.Spec.wf cfg st = true) :
    (Valve.Spec.expected (Battalion.Spec.batConfig cfg) st >>= Battalion.applyOverrides
        >>= fun r => pure (Games.gameView r))
      = Battalion.Spec.expected st :=
  Battalion.overrides_expected cfg st h

/-- The whole query (socket, three requests, three replies each in one datagram, decode, overrides, conversion)
against any well-formed Battalion 1944 server, for every port and behaviour of the external decoders. -/
theorem C07_battalion_query (ext : Ext) (port : Nat) (cfg : Config) (st : State) (h : Battalion.Spec.wf cfg st = true)
    (hl1 : (reply 0x49 (encSourceInfo cfg.upper st.info)).length ≤ 6144)
    (hl2 : (reply 0x44 (encPlayers st.players)).length ≤ 6144)
    (hl3 : (reply 0x45 (encRules st.rules)).length ≤ 6144) :
    (Battalion.query ext port (Net.init [.opened
        [.data (reply 0x49 (encSourceInfo cfg.upper st.info)), .data (reply 0x44 (encPlayers st.players)),
         .data (reply 0x45 (encRules st.rules))]] [])).1 = Battalion.Spec.expected st :=
  Battalion.query_single ext port cfg st h hl1 hl2 hl3

/-- The five overrides in closed form, for ANY info reply and rule set whose numeric overrides are decimal
0–255: which rule overrides which field, and what is removed (the five, and `bat_map_s`, which overrides
nothing). -/
theorem C07_battalion_overrides (i : ServerInfo) (rs : Rules)
    (h1 : (Battalion.Spec.rule rs "bat_max_players_i").all Battalion.Spec.okNum = true)
    (h2 : (Battalion.Spec.rule rs "bat_player_count_s").all Battalion.Spec.okNum = true) :
    Battalion.overrides (i, rs)
      = .ok ({ i with
                playersMaximum := ((Battalion.Spec.rule rs "bat_max_players_i").map Battalion.Spec.decimal).getD i.playersMaximum,
                playersOnline := ((Battalion.Spec.rule rs "bat_player_count_s").map Battalion.Spec.decimal).getD i.playersOnline,
                hasPassword := ((Battalion.Spec.rule rs "bat_has_password_s").map (· == asciiBytes "Y")).getD i.hasPassword,
                name := (Battalion.Spec.rule rs "bat_name_s").getD i.name,
                gameMode := (Battalion.Spec.rule rs "bat_gamemode_s").getD i.gameMode },
             rs.filter fun p => !Battalion.Spec.batKeys.contains p.1) :=
  Battalion.overrides_eq i rs h1 h2

/-- Without rules (the rules request failed or was not answered) nothing is overridden. -/
theorem C07_battalion_no_rules (info : ServerInfo) (ps : Option (List ServerPlayer)) :
    Battalion.applyOverrides ⟨info, ps, none⟩ = .ok ⟨info, ps, none⟩ := rfl

/-- A numeric override that is not a number 0–255 makes the query fail with `TypeParse`; nothing is fabricated. -/
theorem C07_battalion_bad_number (i : ServerInfo) (rs : Rules) (v : Bytes)
    (h : Battalion.Spec.rule rs "bat_max_players_i" = some v) (hv : parseUnsigned 8 v = none) :
    Battalion.overrides (i, rs) = .err .typeParse := by
  have hg : Battalion.get rs Battalion.kMaxPlayers = some v := h
  simp [Battalion.overrides, Battalion.stepNum, hg, hv, bind, Res.bind]

-- non-vacuity: all six rules present
example :
    let i : ServerInfo := ⟨17, [83], [109], [], [103], 489940, 1, 2, 0, .dedicated, .linux, false, true, none, [49], none, false, none⟩
    let rs : Rules := [(asciiBytes "bat_name_s", [78]), (asciiBytes "x", [121]), (asciiBytes "bat_max_players_i", asciiBytes "16"),
      (asciiBytes "bat_player_count_s", asciiBytes "007"), (asciiBytes "bat_has_password_s", asciiBytes "Y"),
      (asciiBytes "bat_gamemode_s", [68]), (asciiBytes "bat_map_s", [63])]
    Battalion.overrides (i, rs)
      = .ok ({ i with name := [78], playersMaximum := 16, playersOnline := 7, hasPassword := true, gameMode := [68] },
             [(asciiBytes "x", [121])]) := by
  decide +kernel
