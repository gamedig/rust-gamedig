import GdVerif.Lemmas.GsSafe
import GdVerif.Lemmas.Gs1
/-
  C09 — Requests are the protocol's and go to the right port: GameSpy 1.
  The protocol has one request, the literal `\status\xserverquery`, and no challenge.
-/
open Gd Gd.Gs Gd.Gs1

/-- The request the client sends is byte for byte the specification's. -/
theorem C09_gs1_request_bytes : [statusRequest] = Spec.requests :=
  congrArg (fun r => [r]) statusRequest_eq

/-- Whatever the server does (any script, any faults, any retry count), everything `query` does
with the transport is: open ONE UDP socket to the given port, send the status request to that
port from that socket, receive into the 2048-byte buffer.  Nothing else is ever sent. -/
theorem C09_gs1_conforms (port retries : Nat) (script : List ConnScript) (faults : List Bool) :
    ∀ e ∈ (query port retries (Net.init script faults)).2.log,
      match e with
      | .opened c tcp p _ => c = 0 ∧ tcp = false ∧ p = port
      | .send c p data _ => c = 0 ∧ p = port ∧ data = asciiBytes "\\status\\xserverquery"
      | .recv c size _ => c = 0 ∧ size = some 2048 := by
  intro e he
  have := log_of_init (query_safe port retries (Net.init script faults)).2 e he
  cases e with
  | opened c tcp p r => exact this
  | send c p d f => exact this
  | recv c s gt => exact this

/-- The same for `query_vars`. -/
theorem C09_gs1_vars_conforms (port retries : Nat) (script : List ConnScript) (faults : List Bool) :
    ∀ e ∈ (queryVars port retries (Net.init script faults)).2.log,
      match e with
      | .opened c tcp p _ => c = 0 ∧ tcp = false ∧ p = port
      | .send c p data _ => c = 0 ∧ p = port ∧ data = asciiBytes "\\status\\xserverquery"
      | .recv c size _ => c = 0 ∧ size = some 2048 := by
  intro e he
  have := log_of_init (queryVars_safe port retries (Net.init script faults)).2 e he
  cases e with
  | opened c tcp p r => exact this
  | send c p d f => exact this
  | recv c s gt => exact this

/-- One attempt sends the request exactly once, first thing. -/
theorem C09_gs1_attempt_sends_once (s : Sock) :
    getServerValuesImpl s = (do
      send s (asciiBytes "\\status\\xserverquery")
      fun w => recvLoop s (queued s w + 1) LoopSt.init w) := rfl

-- non-vacuity: a run with a reply; the log is exactly open, send, receive
example : (query 7777 0 (Net.init [.opened [.data []]] [])).2.log
    = [.opened 0 false 7777 false, .send 0 7777 statusRequest false, .recv 0 (some 2048) (some 0)] := by
  decide +kernel
