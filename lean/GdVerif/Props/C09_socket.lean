import GdVerif.Lemmas.Socket
/-
  C09 — socket.rs inside the model: everything a socket emits goes to the address it was created for, and is what the
  protocol handed to `send`.
-/
open Gd Gd.SockRs Gd.Settings

/-- For every kind of socket, remote address (either family, with its port, flow label and scope), settings, behaviour
of the system and sequence of operations: every call that names a destination — the connection attempt of a TCP socket,
every `send_to` of a UDP socket — names exactly the remote address the socket was created for; a UDP socket makes no
connection attempt, a TCP socket no `send_to`. -/
theorem C09_socket_destination (k : Kind) (os : Os) (remote : Addr) (t : Option Timeout) (ops : List Op) :
    ∀ r ∈ destinations (session k os remote t ops).2.2, r = remote := by
  -- the opening call names no address (a bind) or the remote (a connection attempt), the setters none
  have hopening : ∀ rest, destinations rest = [] → ∀ r ∈ destinations (openCall k remote t :: rest), r = remote := by
    intro rest hrest
    cases k with
    | udp => rw [show destinations (openCall .udp remote t :: rest) = destinations rest from rfl, hrest]; simp
    | tcp =>
      have hc : destinations (openCall .tcp remote t :: rest) = [remote] := by
        simp only [openCall, connectCall]
        cases connectOrDefault t <;> simp only [destinations, hrest]
      rw [hc]; simp
  rcases session_cases k os remote t ops with ⟨r, h, _, hs, hh⟩ | hs <;> rw [hs]
  · rcases hh with e | e | e <;> rw [e] <;> exact hopening _ rfl
  · exact runOps_destinations k os remote ops _ (hopening _ rfl)

example : destinations (session .udp quietOs (.v6 0x2001 0xdb8 0 0 0 0 0 1 27015 0 3) none [.send [1], .send [2]]).2.2
    = [.v6 0x2001 0xdb8 0 0 0 0 0 1 27015 0 3, .v6 0x2001 0xdb8 0 0 0 0 0 1 27015 0 3] := by decide +kernel

/-- …and the payloads handed to `send_to` / `write` are exactly the byte strings given to `send`, one call each, in
order, nothing else (for buffer sizes below `isize::MAX`, where no operation can panic and end the sequence). -/
theorem C09_socket_payloads (k : Kind) (os : Os) (remote : Addr) (t : Option Timeout) (ops : List Op)
    (hops : ∀ op ∈ ops, op.sizeOk) (hok : (session k os remote t ops).1 = .ok ()) :
    dataSent (session k os remote t ops).2.2 = ops.filterMap Op.payload := by
  rcases session_cases k os remote t ops with ⟨r, h, hr, hs, _⟩ | hs <;> rw [hs] at hok ⊢
  · exact absurd hok hr
  · rw [(runOps_sent k os remote ops _ hops).1]
    cases k
    · rfl
    · simp only [openCall, connectCall]; cases connectOrDefault t <;> rfl

example : dataSent (session .udp ⟨fun _ _ => .ok (), fun _ _ _ => .ok (), fun _ _ => .ok (), fun _ _ => .ok (), fun _ _ _ => .ok 0,
    fun _ _ => .error .wouldBlock, fun _ _ => .ok 0, fun _ => .closed, fun _ _ => 0⟩ (.v6 0 0 0 0 0 0 0 1 27015 0 0)
    none [.send [1, 2], .receive none, .send [3]]).2.2 = [[1, 2], [3]] := by decide +kernel

/-- `Socket::port()` is the port of that address -/
theorem C09_socket_port (remote : Addr) : sockPort remote = remote.port := rfl
