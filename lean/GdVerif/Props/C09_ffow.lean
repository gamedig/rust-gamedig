import GdVerif.Lemmas.Ffow
/-
  C09 — requests are the protocol's and go to the right port: Frontlines: Fuel of War.
-/
open Gd Gd.Ffow

/-- The request is `FFFFFFFF 46 "LSQ"` (node-gamedig: `sendPacket(0x46, 'LSQ', 0x49)`), the default port 5478. -/
theorem C09_ffow_request_bytes :
    Valve.packetBytes KIND lsq = Spec.lsqRequest ∧ DEFAULT_PORT = Spec.defaultPort := by decide

/-- Whatever the server does: one UDP socket to the given port; every datagram sent goes to that port and is the
`LSQ` request or, after a challenge reply, `FFFFFFFF 46` followed by bytes the server chose; every receive uses
the 6144-byte buffer; nothing else is done to the transport. -/
theorem C09_ffow_conforms (ext : Valve.Ext) (port retries : Nat) (script : List ConnScript) (faults : List Bool) :
    ∀ e ∈ (query ext port retries (Net.init script faults)).2.log,
      match e with
      | .opened c tcp p _ => c = 0 ∧ tcp = false ∧ p = port
      | .send c p data _ => c = 0 ∧ p = port ∧
          (data = [0xFF, 0xFF, 0xFF, 0xFF, 0x46, 0x4C, 0x53, 0x51] ∨ ∃ ch, data = [0xFF, 0xFF, 0xFF, 0xFF, 0x46] ++ ch)
      | .recv c size _ => c = 0 ∧ size = some 6144 := by
  intro e he
  have := log_of_init (query_safe ext port retries (Net.init script faults)).2 e he
  cases e with
  | opened c tcp p r => exact this
  | send c p d f => exact this
  | recv c s g => exact this

/-- Challenge echo through the shared loop, for every challenge value: after a challenge reply `c` the next
datagram is `FFFFFFFF 46 c` (the bytes verbatim), then the client waits for the next reply. -/
theorem C09_ffow_echo (ext : Valve.Ext) (s : Sock) (fuel hdr : Nat) (c : Bytes) :
    Valve.challengeLoop ext s (.goldSrc true) 0 KIND (fuel + 1) ⟨hdr, 0x41, c⟩
      = (do
          send s ([0xFF, 0xFF, 0xFF, 0xFF, 0x46] ++ c)
          let reply ← Valve.receive ext s (.goldSrc true) 0
          Valve.challengeLoop ext s (.goldSrc true) 0 KIND fuel reply) := rfl

/-- Against a conforming server the log is exactly `open, send LSQ, receive`: nothing else is sent. -/
theorem C09_ffow_exchange (ext : Valve.Ext) (upper : Bool) (st : Spec.State)
    (hlen : (Spec.replyPacket upper st).length ≤ 6144) (port retries : Nat) :
    (query ext port retries (Net.init [.opened [.data (Spec.replyPacket upper st)]] [])).2.log
      = [.opened 0 false port false, .send 0 port Spec.lsqRequest false,
         .recv 0 (some 6144) (some (Spec.replyPacket upper st).length)] := by
  rw [query_script ext port retries upper st hlen]
  rfl

