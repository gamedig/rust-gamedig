import GdVerif.Lemmas.IdCheck
import GdVerif.Gen.Games
/-
  C20 — The game-id naming checker is total and self-consistent.

  MODEL: `GdVerif/Proto/IdCheck.lean` (ASCII names); `number_to_words` is the parameter `ext.n2w`.
-/
open Gd Gd.IdCheck

/-- Totality: on EVERY list of (id, name) pairs — any byte strings, in particular every name of the
documented grammar, hyphenated numbers followed by text included — the checker returns a list of
failures; it never panics (no `unwrap` on an empty word is reachable).  The only assumption is on
the external crate: `number_to_words` never returns an empty string. -/
theorem C20_total (ext : Ext) (hn : ∀ n, ext.n2w n ≠ []) (games : List (Bytes × Bytes)) :
    ∃ fails, checkAll ext games = .ok fails :=
  checkAllFrom_ok ext hn _ []

/-- The words of every parsed name are non-empty (the invariant behind totality). -/
theorem C20_words_nonempty (name : Bytes) : ∀ w ∈ (extractParts name).words, w ≠ [] :=
  extractParts_ne name

/-- Self-consistency for a single game: there is an id `E` the checker expects for the name; the
checker accepts an id exactly when it is `E`, or — when the name has a `-`, i.e. a 'Game - Mod' name —
the id `E'` it expects for the part after the first `-`. -/
theorem C20_self_consistent (ext : Ext) (hn : ∀ n, ext.n2w n ≠ []) (id name : Bytes) :
    ∃ E, singleExpected ext (extractParts name) false = .ok E ∧
      (checkOne ext id name = .ok [] ↔
        (id = E ∨ ∃ m E', afterDash (extractParts name).name = some m
            ∧ singleExpected ext (extractParts m) true = .ok E' ∧ id = E')) := by
  obtain ⟨E, hE, hiff⟩ := checkRule_nil_accepts ext hn id (extractParts name)
  refine ⟨E, hE, ?_⟩
  rw [← hiff]
  unfold checkOne checkAll
  simp only [List.map_cons, List.map_nil, sortGames, List.foldl_cons, List.foldl_nil, insertGame, checkAllFrom]
  obtain ⟨⟨fails, seen'⟩, hr⟩ := checkRule_ok ext hn [] id (extractParts name)
  rw [hr]
  simp only [List.append_nil]
  constructor
  · intro h
    cases h
    exact ⟨seen', rfl⟩
  · rintro ⟨s, hs⟩
    cases hs
    rfl

/-- The expected id does not depend on the id that was proposed: it is a function of the name alone. -/
theorem C20_expected_independent_of_proposed_id (ext : Ext) (name : Bytes) (isMod : Bool) :
    ∀ id₁ id₂ : Bytes, singleExpected ext (extractParts name) isMod = singleExpected ext (extractParts name) isMod := by
  intro _ _; rfl

-- non-vacuity / examples from CONTRIBUTING.md, evaluated on the model
example : let ext : Ext := ⟨fun n => if n == 7 then asciiBytes "seven" else asciiBytes "x"⟩
    singleExpected ext (extractParts (asciiBytes "Left 4 Dead")) false = .ok (asciiBytes "l4d")
    ∧ singleExpected ext (extractParts (asciiBytes "7 Days to Die")) false = .ok (asciiBytes "sdtd")
    ∧ singleExpected ext (extractParts (asciiBytes "Team Fortress 2")) false = .ok (asciiBytes "teamfortress2")
    ∧ singleExpected ext (extractParts (asciiBytes "Grand Theft Auto XIV")) false = .ok (asciiBytes "gta14")
    ∧ singleExpected ext (extractParts (asciiBytes "Dino D-Day")) false = .ok (asciiBytes "ddd")
    ∧ singleExpected ext (extractParts (asciiBytes "Left 4-Dead")) false = .ok (asciiBytes "l4d") := by
  repeat rw [asciiBytes_ofList]
  decide +kernel
