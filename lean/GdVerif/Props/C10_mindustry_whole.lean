import GdVerif.Lemmas.MindustryFaults
import GdVerif.Props.C07_mindustry
/-
  C10 on WHOLE Mindustry queries with faults injected.

  `Props/C10.lean` proves C10 for the combinator, `Props/C10_mindustry.lean` names the retried unit: the whole exchange
  INCLUDING THE SOCKET (new socket, ping, one datagram, decode).  Here the property is proved end to end for
  `Mindustry.query` against the SPEC's server (`Spec/Mindustry.lean`), on the scripts of
  `props/families/mindustry.py: c10_build`: the peer's script is a list of connection scripts, one per socket the
  client creates; a plan (`Spec/MindustryFaults.lean`) lists the attempts that end in a timeout-class failure — the
  ping cannot be sent (whatever the peer holds for that socket), or it goes out and nothing arrives first on that socket
  (its script is empty or begins with a silence) — and how the unit ends: the server's reply on the next socket, nothing,
  a malformed datagram, or a socket that cannot be created.  `faultyScript` / `faultyFaults` are the two arguments of
  `Net.init`; what follows them (`restC`: further connection scripts, `restF`) is arbitrary.  Quantified: state in the
  SPEC's domain, port, retry count, the plan (incl. what each socket's script holds beyond what the attempt consumes).

  The logic used is the generalisation `StepsG` of `Steps` to a list of per-connection scripts consumed in order
  (`Lemmas/QStepsG.lean`), not a direct proof over `Net`.
-/
open Gd Gd.Mindustry Gd.Mindustry.Spec Gd.Faults

/-- THE GENERAL STATEMENT.  For every plan in C10's domain for the retry count (`wfPlan`: every failed attempt is a
failed send or found nothing first on its socket; a unit that ends — with the reply, with a datagram that is empty or
whose first string is not UTF-8, or with a socket that cannot be created — had at most `retries` timeout-class failures
before, a unit that is given up exactly `retries + 1`): the query returns the outcome the property prescribes
(`faultyExpected`: the fault-free response / the last failure's error / `PacketBad` / `SocketBind`), and it sent
exactly the plan's datagrams (`faultySends`: the ping, once per attempt that got a socket). -/
theorem C10_mindustry_query_faulty (st : State) (hw : wf st = true) (port retries : Nat) (plan : Plan)
    (hplan : wfPlan retries plan = true) (restC : List ConnScript) (restF : List Bool) :
    (Mindustry.query port retries (Net.init (faultyScript st plan ++ restC) (faultyFaults plan ++ restF))).1
      = faultyExpected st plan
    ∧ sentOf (Mindustry.query port retries (Net.init (faultyScript st plan ++ restC) (faultyFaults plan ++ restF))).2.log
      = faultySends plan :=
  query_faulty st hw port retries plan hplan restC restF

/-- (a) RECOVERY.  `fails` (any number ≤ `retries`, each on a socket of its own: a failed send, or nothing arriving
first) precede the server's reply on the next socket: the query returns exactly `Spec.expected st` — by `C07_mindustry`
the result with no faults —, and the ping was sent `fails.length + 1` times. -/
theorem C10_mindustry_query_recovers (st : State) (hw : wf st = true) (port retries : Nat) (fails : List Attempt)
    (hfails : ∀ a ∈ fails, a.wf = true) (hk : fails.length ≤ retries) (after : List Delivery)
    (restC : List ConnScript) (restF : List Bool) :
    let plan : Plan := ⟨fails, .valid after⟩
    let out := Mindustry.query port retries (Net.init (faultyScript st plan ++ restC) (faultyFaults plan ++ restF))
    out.1 = .ok (expected st)
    ∧ sentOf out.2.log = fails.map (fun a => (pingRequest, a.sendFault)) ++ [(pingRequest, false)]
    ∧ (sentOf out.2.log).length = fails.length + 1 := by
  intro plan out
  have hplan : wfPlan retries plan = true := by
    simp only [wfPlan, plan, Bool.and_eq_true, List.all_eq_true, decide_eq_true_eq]
    exact ⟨hfails, hk⟩
  obtain ⟨h1, h2⟩ := C10_mindustry_query_faulty st hw port retries plan hplan restC restF
  have h2' : sentOf out.2.log = fails.map (fun a => (pingRequest, a.sendFault)) ++ [(pingRequest, false)] := by
    rw [show sentOf out.2.log = _ from h2, faultySends_eq]; rfl
  exact ⟨h1, h2', by rw [h2']; simp⟩

/-- (b) EXHAUSTION.  All `retries + 1` attempts (`retries + 1` sockets) end in a timeout-class failure: the query fails
with the last attempt's error — `PacketReceive`, or `PacketSend` when that attempt was a failed send — after exactly
`retries + 1` pings, whatever the script still holds (no further socket is created: the sent list is complete). -/
theorem C10_mindustry_query_exhausted (st : State) (hw : wf st = true) (port retries : Nat) (fails : List Attempt)
    (hfails : ∀ a ∈ fails, a.wf = true) (hk : fails.length = retries + 1) (restC : List ConnScript)
    (restF : List Bool) :
    let plan : Plan := ⟨fails, .gaveUp⟩
    let out := Mindustry.query port retries (Net.init (faultyScript st plan ++ restC) (faultyFaults plan ++ restF))
    out.1 = .err (lastError Attempt.error fails)
    ∧ (out.1 = .err .packetReceive ∨ out.1 = .err .packetSend)
    ∧ sentOf out.2.log = fails.map (fun a => (pingRequest, a.sendFault))
    ∧ (sentOf out.2.log).length = retries + 1 := by
  intro plan out
  have hplan : wfPlan retries plan = true := by
    simp only [wfPlan, plan, Bool.and_eq_true, List.all_eq_true, beq_iff_eq]
    exact ⟨hfails, hk⟩
  obtain ⟨h1, h2⟩ := C10_mindustry_query_faulty st hw port retries plan hplan restC restF
  have h1' : out.1 = .err (lastError Attempt.error fails) := h1
  have h2' : sentOf out.2.log = fails.map (fun a => (pingRequest, a.sendFault)) := by
    rw [show sentOf out.2.log = _ from h2, faultySends_eq]; simp [plan, Ending.sends]
  refine ⟨h1', ?_, h2', by rw [h2', List.length_map, hk]⟩
  rw [h1']
  have hne : fails ≠ [] := by intro h0; subst h0; simp at hk
  rcases lastError_class fails hne with e | e <;> simp [e]

theorem C10_mindustry_last_error (fails : List Attempt) (a : Attempt) :
    lastError Attempt.error (fails ++ [a]) = (if a.sendFault then .packetSend else .packetReceive) := by
  rw [lastError_concat]
  obtain ⟨f, c⟩ := a
  cases f <;> rfl

/-- (c) A MALFORMED REPLY IS NOT RETRIED.  After any number ≤ `retries` of timed-out attempts the datagram that
arrives on the next socket is not a discovery reply — ANY datagram (within the 500-byte buffer) that is empty or whose
first length-prefixed string is not UTF-8 (`Spec.malformed`).  Whatever `retries` is, the query fails at once with
`PacketBad` (not a timeout-class error), no further socket is created and no further ping sent: `fails.length + 1`
in all. -/
theorem C10_mindustry_query_malformed_not_retried (st : State) (hw : wf st = true) (port retries : Nat)
    (fails : List Attempt) (hfails : ∀ a ∈ fails, a.wf = true) (hk : fails.length ≤ retries) (m : Bytes)
    (hm : malformed m = true) (hl : m.length ≤ 500) (after : List Delivery) (restC : List ConnScript)
    (restF : List Bool) :
    let plan : Plan := ⟨fails, .malformed m after⟩
    let out := Mindustry.query port retries (Net.init (faultyScript st plan ++ restC) (faultyFaults plan ++ restF))
    out.1 = .err .packetBad
    ∧ ErrKind.packetBad.isTimeout = false
    ∧ sentOf out.2.log = fails.map (fun a => (pingRequest, a.sendFault)) ++ [(pingRequest, false)]
    ∧ (sentOf out.2.log).length = fails.length + 1 := by
  intro plan out
  have hplan : wfPlan retries plan = true := by
    simp only [wfPlan, plan, Bool.and_eq_true, List.all_eq_true, decide_eq_true_eq]
    exact ⟨hfails, ⟨hk, hm⟩, hl⟩
  obtain ⟨h1, h2⟩ := C10_mindustry_query_faulty st hw port retries plan hplan restC restF
  have h2' : sentOf out.2.log = fails.map (fun a => (pingRequest, a.sendFault)) ++ [(pingRequest, false)] := by
    rw [show sentOf out.2.log = _ from h2, faultySends_eq]; rfl
  exact ⟨h1, rfl, h2', by rw [h2']; simp⟩

/-- (c') A SOCKET THAT CANNOT BE CREATED IS NOT RETRIED either: `SocketBind` is not a timeout-class error; the query
ends there with one ping per earlier attempt. -/
theorem C10_mindustry_query_refused_not_retried (st : State) (hw : wf st = true) (port retries : Nat)
    (fails : List Attempt) (hfails : ∀ a ∈ fails, a.wf = true) (hk : fails.length ≤ retries)
    (restC : List ConnScript) (restF : List Bool) :
    let plan : Plan := ⟨fails, .refused⟩
    let out := Mindustry.query port retries (Net.init (faultyScript st plan ++ restC) (faultyFaults plan ++ restF))
    out.1 = .err .socketBind
    ∧ sentOf out.2.log = fails.map (fun a => (pingRequest, a.sendFault)) := by
  intro plan out
  have hplan : wfPlan retries plan = true := by
    simp only [wfPlan, plan, Bool.and_eq_true, List.all_eq_true, decide_eq_true_eq]
    exact ⟨hfails, hk⟩
  obtain ⟨h1, h2⟩ := C10_mindustry_query_faulty st hw port retries plan hplan restC restF
  refine ⟨h1, ?_⟩
  rw [show sentOf out.2.log = _ from h2, faultySends_eq]
  simp [plan, Ending.sends]

/-! ### non-vacuity: the server of `Props/C07_mindustry.lean` -/

def C10_mindustry_exState : State := ⟨[72, 105], [109], 5, -1, 146, [111], .pvp, 2147483647, [], some [120, 121]⟩

/-- a failed send on a socket for which the peer even holds a datagram, then a socket on which nothing ever arrives -/
abbrev C10_mindustry_exFails : List Attempt := [⟨true, [.data [1, 2]]⟩, ⟨false, []⟩]

-- (a) retries = 2: three sockets, three pings, the state
example (port : Nat) :
    (∀ a ∈ C10_mindustry_exFails, a.wf = true)
    ∧ (faultyScript C10_mindustry_exState ⟨C10_mindustry_exFails, .valid [.silence]⟩).length = 3
    ∧ (Mindustry.query port 2 (Net.init (faultyScript C10_mindustry_exState ⟨C10_mindustry_exFails, .valid [.silence]⟩ ++ [])
        (faultyFaults ⟨C10_mindustry_exFails, .valid [.silence]⟩ ++ []))).1 = .ok (expected C10_mindustry_exState)
    ∧ (sentOf (Mindustry.query port 2 (Net.init
        (faultyScript C10_mindustry_exState ⟨C10_mindustry_exFails, .valid [.silence]⟩ ++ [])
        (faultyFaults ⟨C10_mindustry_exFails, .valid [.silence]⟩ ++ []))).2.log).length = 3 := by
  have hf : ∀ a ∈ C10_mindustry_exFails, a.wf = true := by decide
  have h := C10_mindustry_query_recovers C10_mindustry_exState (by decide) port 2 C10_mindustry_exFails hf (by decide)
    [.silence] [] []
  exact ⟨hf, by decide, h.1, h.2.2⟩

-- (b) retries = 1: two silent sockets: PacketReceive after 2 pings, whatever further sockets the script describes
example (port : Nat) (restC : List ConnScript) :
    (Mindustry.query port 1 (Net.init
      (faultyScript C10_mindustry_exState ⟨[⟨false, [.silence]⟩, ⟨false, [.silence]⟩], .gaveUp⟩ ++ restC)
      (faultyFaults ⟨[⟨false, [.silence]⟩, ⟨false, [.silence]⟩], .gaveUp⟩ ++ []))).1 = .err .packetReceive :=
  (C10_mindustry_query_exhausted C10_mindustry_exState (by decide) port 1 [⟨false, [.silence]⟩, ⟨false, [.silence]⟩]
    (by decide) rfl restC []).1

-- (c) retries = 4: the check's malformed datagram `ff ff` after a silent socket; the empty datagram is malformed too
example (port : Nat) :
    (Mindustry.query port 4 (Net.init
      (faultyScript C10_mindustry_exState ⟨[⟨false, [.silence]⟩], .malformed [0xFF, 0xFF] []⟩ ++ [])
      (faultyFaults ⟨[⟨false, [.silence]⟩], .malformed [0xFF, 0xFF] []⟩ ++ []))).1 = .err .packetBad
    ∧ malformed [] = true :=
  ⟨(C10_mindustry_query_malformed_not_retried C10_mindustry_exState (by decide) port 4 [⟨false, [.silence]⟩] (by decide)
      (by decide) [0xFF, 0xFF] (by decide +kernel) (by decide) [] [] []).1, rfl⟩
