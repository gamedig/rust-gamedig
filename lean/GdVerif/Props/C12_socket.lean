import GdVerif.Lemmas.Socket
/-
  C12 — socket.rs inside the model: which calls `UdpSocketImpl` / `TcpSocketImpl` make on `std::net`, with which
  arguments, and what they make of the answers — for every remote address, every settings value and every behaviour of
  `std::net` + kernel + peer (`Os`: each answer a function of the whole history of calls).

  What stays measured (props/sockplan.py, real loopback sockets): that the kernel honours SO_RCVTIMEO / SO_SNDTIMEO /
  the connect deadline, and that a wildcard socket of the remote's family reaches the remote.
-/
open Gd Gd.SockRs Gd.Settings

/-- The UDP socket is bound to the wildcard address of the REMOTE's family, port 0 — for every remote address; an
IPv4 host named by its IPv4-mapped IPv6 address (`::ffff:a.b.c.d`) gets the IPv6 wildcard `[::]:0` (what the code does:
a dual-stack socket, which reaches it unless the system makes IPv6 sockets v6-only). -/
theorem C12_socket_udp_local_address (remote : Addr) :
    (localFor remote).isV6 = remote.isV6 ∧ (localFor remote).isUnspecified = true ∧ (localFor remote).port = 0
    ∧ (remote.isMapped = true → localFor remote = anyV6) := by
  cases remote with
  | v4 a b c d p => exact ⟨rfl, rfl, rfl, by intro h; simp [Addr.isMapped] at h⟩
  | v6 s0 s1 s2 s3 s4 s5 s6 s7 p f sc => exact ⟨rfl, rfl, rfl, fun _ => rfl⟩

example : localFor (.v6 0 0 0 0 0 0xffff 0x7f00 1 27015 0 0) = anyV6 ∧ localFor (.v4 10 0 0 7 27015) = anyV4 := by decide +kernel

/-- `UdpSocketImpl::new`: the first call is that bind; an error of the bind, whatever its kind, is `SocketBind` and
nothing else is called; after a successful bind the only further calls are `set_read_timeout(read)` and
`set_write_timeout(write)`, in this order, with the durations of the settings (the defaults without settings) — never a
`connect`. -/
theorem C12_socket_udp_new_calls (os : Os) (remote : Addr) (t : Option Timeout) (h : List Call) :
    (∀ k, os.bind h (localFor remote) = .error k →
      udpNew os remote t h = (.err .socketBind, h ++ [.bindUdp (localFor remote)]))
    ∧ (os.bind h (localFor remote) = .ok () →
      (udpNew os remote t h).2 = h ++ [.bindUdp (localFor remote), .setReadTimeout (readAndWriteOrDefaults t).1]
      ∨ (udpNew os remote t h).2 = h ++ [.bindUdp (localFor remote), .setReadTimeout (readAndWriteOrDefaults t).1,
          .setWriteTimeout (readAndWriteOrDefaults t).2])
    ∧ (∀ h', udpNew os remote t h = (.ok (), h') →
      h' = h ++ [.bindUdp (localFor remote), .setReadTimeout (readAndWriteOrDefaults t).1,
          .setWriteTimeout (readAndWriteOrDefaults t).2]) := by
  refine ⟨?_, ?_, sockNew_ok .udp os remote t h⟩
  · intro k hk; simp [udpNew, hk]
  · intro hk
    simp only [udpNew, hk]
    rcases applyTimeout_cases os t (h ++ [.bindUdp (localFor remote)]) with ⟨_, e⟩ | ⟨_, e⟩ | e <;> rw [e]
    · exact Or.inl (List.append_assoc h _ _)
    · exact Or.inr (List.append_assoc h _ _)
    · exact Or.inr (List.append_assoc h _ _)

example : udpNew quietOs (.v6 0 0 0 0 0 0xffff 0x7f00 1 27015 0 0) (some ⟨some ⟨3, 0⟩, some ⟨1, 0⟩, some ⟨2, 0⟩, 0⟩) []
    = (.ok (), [.bindUdp anyV6, .setReadTimeout (some ⟨1, 0⟩), .setWriteTimeout (some ⟨2, 0⟩)]) := by decide +kernel

/-- `TcpSocketImpl::new`: one connection attempt, to the remote address as given: `connect_timeout(remote, d)` when the
settings (or the defaults: 4 s) carry a connect duration `d`, the unbounded `connect(remote)` only when the caller asked
for no connect timeout; its failure, whatever the kind (refused, unreachable, timed out, a zero duration refused by
std), is `SocketConnect`; then the two setters as for UDP. -/
theorem C12_socket_tcp_new_calls (os : Os) (remote : Addr) (t : Option Timeout) (h : List Call) :
    let attempt : Call := connectCall remote (connectOrDefault t)
    (∀ k, os.connect h remote (connectOrDefault t) = .error k → tcpNew os remote t h = (.err .socketConnect, h ++ [attempt]))
    ∧ (∀ h', tcpNew os remote t h = (.ok (), h') →
      h' = h ++ [attempt, .setReadTimeout (readAndWriteOrDefaults t).1, .setWriteTimeout (readAndWriteOrDefaults t).2]) := by
  refine ⟨?_, sockNew_ok .tcp os remote t h⟩
  intro k hk; simp [tcpNew, hk]

/-- with no settings the connection attempt is bounded by 4 s, never unbounded -/
example (os : Os) (remote : Addr) (h : List Call) (k : IoKind) (hk : os.connect h remote (some ⟨4, 0⟩) = .error k) :
    tcpNew os remote none h = (.err .socketConnect, h ++ [.connectTimeout remote ⟨4, 0⟩]) :=
  (C12_socket_tcp_new_calls os remote none h).1 k hk

/-- A UDP send is exactly one `send_to` of exactly the bytes given to exactly the remote address the socket was created
for (address, port, flow label and scope); it succeeds iff that call does (the count is not looked at), and any error of
it is `PacketSend`. -/
theorem C12_socket_udp_send_exact (os : Os) (remote : Addr) (data : Bytes) (h : List Call) :
    (udpSend os remote data h).2 = h ++ [.sendTo data remote]
    ∧ (∀ n, os.sendTo h data remote = .ok n → (udpSend os remote data h).1 = .ok ())
    ∧ (∀ k, os.sendTo h data remote = .error k → (udpSend os remote data h).1 = .err .packetSend) :=
  ⟨by unfold udpSend; cases os.sendTo h data remote <;> rfl, by intro n hn; simp [udpSend, hn], by intro k hk; simp [udpSend, hk]⟩

example : udpSend quietOs (.v4 10 0 0 7 27015) [0xff, 0xff, 0xff, 0xff, 0x54] []
    = (.ok (), [.sendTo [0xff, 0xff, 0xff, 0xff, 0x54] (.v4 10 0 0 7 27015)]) := by decide +kernel

/-- A TCP send is exactly ONE `write` of exactly the bytes given; any error of it is `PacketSend`.  What the code does
with the count: nothing — a write that took only `n < |data|` bytes is reported as success. -/
theorem C12_socket_tcp_send_one_write (os : Os) (data : Bytes) (h : List Call) :
    (tcpSend os data h).2 = h ++ [.write data]
    ∧ (∀ n, os.write h data = .ok n → (tcpSend os data h).1 = .ok ())
    ∧ (∀ k, os.write h data = .error k → (tcpSend os data h).1 = .err .packetSend) :=
  ⟨by unfold tcpSend; cases os.write h data <;> rfl, by intro n hn; simp [tcpSend, hn], by intro k hk; simp [tcpSend, hk]⟩

/-- one byte of three taken: success all the same -/
example : tcpSend { quietOs with write := fun _ _ => .ok 1 } [1, 2, 3] [] = (.ok (), [.write [1, 2, 3]]) := by decide +kernel

/-- A UDP receive is one `recv_from` into a buffer of the size asked for (1024 when none is); it returns exactly the
datagram the system delivered, cut to that size — whoever sent it (the socket is not connected and the source is not
looked at); any error (a timeout included) is `PacketReceive`; nothing can panic for sizes below `isize::MAX`. -/
theorem C12_socket_udp_receive_exact (os : Os) (size : Option Nat) (h : List Call)
    (hs : size.getD 1024 < 2 ^ 63) :
    (∀ d src, os.recvFrom h (size.getD 1024) = .ok (d, src) →
      udpReceive os size h = (.ok (d.take (size.getD 1024)), h ++ [.recvFrom (size.getD 1024)]))
    ∧ (∀ k, os.recvFrom h (size.getD 1024) = .error k →
      udpReceive os size h = (.err .packetReceive, h ++ [.recvFrom (size.getD 1024)])) :=
  ⟨fun d src hos => udpReceive_ok os size h d src hs hos, fun k hos => udpReceive_error os size h k hs hos⟩

/-- a datagram longer than the buffer loses its tail, a shorter one arrives whole -/
example (os : Os) (h : List Call) (src : Addr) (hos : os.recvFrom h 4 = .ok ([1, 2, 3, 4, 5, 6], src)) :
    (udpReceive os (some 4) h).1 = .ok [1, 2, 3, 4] := by
  rw [((C12_socket_udp_receive_exact os (some 4) h (by decide)).1 _ _ hos)]; rfl

/-- A TCP receive is `read_to_end`: whatever buffers std offers to the reads (`os.bufPolicy`) and whatever size was
asked for (it is a capacity only), the result is everything the stream delivers up to its end — a read of 0 bytes —, with
`Interrupted` reads tried again; the first read that fails otherwise (the read timeout: `WouldBlock` / `TimedOut`, a
reset, …) makes the whole receive fail with `PacketReceive`, whatever had been read before.  The loop always ends
(its fuel is never exhausted) and every call it makes is a `read`. -/
theorem C12_socket_tcp_receive_to_end (os : Os) (size : Option Nat) (h : List Call) (hs : size.getD 1024 < 2 ^ 63) :
    (tcpReceive os size h).1 = (os.reads h).outcome []
    ∧ (tcpReceive os size h).1 ≠ .crash
    ∧ ∃ reads, (tcpReceive os size h).2 = h ++ reads ∧ ∀ c ∈ reads, ∃ n, c = .read n := by
  obtain ⟨lens, e⟩ := tcpReceive_eq os size h hs
  rw [e]
  refine ⟨rfl, outcome_not_crash _ _, _, rfl, ?_⟩
  intro c hc
  obtain ⟨n, _, rfl⟩ := List.mem_map.mp hc
  exact ⟨n, rfl⟩

/-- a peer that writes in three pieces (one of them after an interrupted read) and closes: everything, in order -/
example : (Stream.data [1, 2] (.fail .interrupted (.data [3] (.data [4, 5] .closed)))).outcome [] = .ok [1, 2, 3, 4, 5] := by
  decide +kernel
/-- a peer that writes 2 bytes and stalls: the read timeout ends the receive with an error, the 2 bytes are dropped -/
example : (Stream.data [1, 2] (.fail .wouldBlock .closed)).outcome [] = .err .packetReceive := by decide +kernel
/-- an instance of the theorem with buffers of one byte -/
example : (tcpReceive ⟨fun _ _ => .ok (), fun _ _ _ => .ok (), fun _ _ => .ok (), fun _ _ => .ok (), fun _ _ _ => .ok 0,
    fun _ _ => .error .wouldBlock, fun _ _ => .ok 0, fun _ => .data [1, 2, 3] .closed, fun _ _ => 0⟩ (some 2) []).1
      = .ok [1, 2, 3] := by decide +kernel

/-! ### which duration bounds which blocking step -/

/-- the whole history of a socket: the opening call, the two setters, then sends and receives only -/
theorem C12_socket_session_shape (k : Kind) (os : Os) (remote : Addr) (t : Option Timeout) (ops : List Op) :
    ∃ opening io, (session k os remote t ops).2.2 = opening ++ io
      ∧ (∀ c ∈ io, c.isIo = true)
      ∧ (io ≠ [] → (session k os remote t ops).1 = .ok ())
      ∧ (opening = [openCall k remote t]
        ∨ opening = [openCall k remote t, .setReadTimeout (readAndWriteOrDefaults t).1]
        ∨ opening = [openCall k remote t, .setReadTimeout (readAndWriteOrDefaults t).1,
            .setWriteTimeout (readAndWriteOrDefaults t).2])
      ∧ ((session k os remote t ops).1 = .ok () → opening = [openCall k remote t, .setReadTimeout (readAndWriteOrDefaults t).1,
            .setWriteTimeout (readAndWriteOrDefaults t).2]) := by
  rcases session_cases k os remote t ops with ⟨r, h, hr, hs, hh⟩ | hs <;> rw [hs]
  · exact ⟨h, [], by simp, by simp, by simp, hh, fun e => absurd e hr⟩
  · obtain ⟨io, e, hio⟩ := runOps_hist k os remote ops [openCall k remote t,
      .setReadTimeout (readAndWriteOrDefaults t).1, .setWriteTimeout (readAndWriteOrDefaults t).2]
    exact ⟨_, io, e, hio, fun _ => rfl, Or.inr (Or.inr rfl), fun _ => rfl⟩

example : (session .tcp quietOs (.v4 127 0 0 1 25565) none [.send [1], .receive none]).2.2
    = [.connectTimeout (.v4 127 0 0 1 25565) ⟨4, 0⟩, .setReadTimeout (some ⟨4, 0⟩), .setWriteTimeout (some ⟨4, 0⟩), .write [1], .read 1] := by
  decide +kernel

/-- For every kind of socket, every remote address, every settings value (or none: the defaults), every behaviour of the
system and every sequence of sends and receives — failed ones included: each blocking call is made under the bound the
settings ask for.  The connection attempt is bounded by the connect duration; every `send_to` / `write` is made after
`set_write_timeout(write)` and every `recv_from` / `read` after `set_read_timeout(read)`, no later call having changed
either option; the durations are passed on as they are (no arithmetic is done on them anywhere). -/
theorem C12_socket_timeouts_in_force (k : Kind) (os : Os) (remote : Addr) (t : Option Timeout) (ops : List Op) :
    ∀ b ∈ timedBy (session k os remote t ops).2.2, b.asAsked t = true := by
  obtain ⟨opening, io, hshape, hio, hne, hopen, hfull⟩ := C12_socket_session_shape k os remote t ops
  intro b hb
  rw [hshape, timedBy, timedByAux_append] at hb
  rcases List.mem_append.mp hb with hb | hb
  · -- the opening calls: the connection attempt blocks, a bind and the setters that may follow do not
    have hopening : ∀ rest, (∀ r w, timedByAux r w rest = []) →
        ∀ b ∈ timedByAux .unset .unset (openCall k remote t :: rest), b.asAsked t = true := by
      intro rest hrest b hb
      cases k with
      | udp =>
        rw [show timedByAux .unset .unset (openCall .udp remote t :: rest) = timedByAux .unset .unset rest from rfl,
          hrest] at hb
        cases hb
      | tcp =>
        have hc : timedByAux .unset .unset (openCall .tcp remote t :: rest) = [.connect (.set (connectOrDefault t))] := by
          simp only [openCall, connectCall]
          cases connectOrDefault t <;> simp only [timedByAux, hrest]
        rw [hc] at hb
        rw [List.mem_singleton.mp hb]
        exact beq_self_eq_true _
    rcases hopen with e | e | e <;> rw [e] at hb <;> exact hopening _ (fun _ _ => rfl) b hb
  · by_cases hnil : io = []
    · subst hnil; cases hb
    · have hbounds : boundsAfter (Bound.unset, Bound.unset) opening
          = (.set (readAndWriteOrDefaults t).1, .set (readAndWriteOrDefaults t).2) := by
        rw [hfull (hne hnil)]
        cases k
        · rfl
        · simp only [openCall, connectCall]; cases connectOrDefault t <;> rfl
      rw [hbounds] at hb
      rcases timedByAux_io io hio _ _ b hb with rfl | rfl <;> exact beq_self_eq_true _

/-- three different durations: the connection attempt carries the third, the receive runs under the first, the send under
the second -/
example : timedBy (session .tcp ⟨fun _ _ => .ok (), fun _ _ _ => .ok (), fun _ _ => .ok (), fun _ _ => .ok (), fun _ _ _ => .ok 0,
    fun _ _ => .error .wouldBlock, fun _ _ => .ok 0, fun _ => .closed, fun _ _ => 0⟩ (.v4 127 0 0 1 25565)
    (some ⟨some ⟨3, 0⟩, some ⟨1, 0⟩, some ⟨2, 0⟩, 0⟩) [.send [1], .receive none]).2.2
      = [.connect (.set (some ⟨3, 0⟩)), .send (.set (some ⟨2, 0⟩)), .recv (.set (some ⟨1, 0⟩))] := by decide +kernel

/-- The total table: whatever `io::ErrorKind` the system reports, the failure of the bind is `SocketBind`, of the
connection attempt `SocketConnect`, of a send `PacketSend`, of a receive `PacketReceive` (for the TCP read loop: of the first
read that fails other than by `Interrupted`).  The last two are the classes `retry_on_timeout` tries again, the first two
end the query at once. -/
theorem C12_socket_error_table (os : Os) (remote : Addr) (t : Option Timeout) (h : List Call) (k : IoKind) :
    (os.bind h (localFor remote) = .error k → (udpNew os remote t h).1 = .err .socketBind)
    ∧ (os.connect h remote (connectOrDefault t) = .error k → (tcpNew os remote t h).1 = .err .socketConnect)
    ∧ (∀ d, os.sendTo h d remote = .error k → (udpSend os remote d h).1 = .err .packetSend)
    ∧ (∀ d, os.write h d = .error k → (tcpSend os d h).1 = .err .packetSend)
    ∧ (∀ size, size.getD 1024 < 2 ^ 63 → os.recvFrom h (size.getD 1024) = .error k → (udpReceive os size h).1 = .err .packetReceive)
    ∧ (∀ size rest, size.getD 1024 < 2 ^ 63 → k ≠ .interrupted → os.reads h = .fail k rest → (tcpReceive os size h).1 = .err .packetReceive)
    ∧ ErrKind.socketBind.isTimeout = false ∧ ErrKind.socketConnect.isTimeout = false
    ∧ ErrKind.packetSend.isTimeout = true ∧ ErrKind.packetReceive.isTimeout = true := by
  refine ⟨?_, ?_, ?_, ?_, ?_, ?_, rfl, rfl, rfl, rfl⟩
  · intro hk; simp [udpNew, hk]
  · intro hk; simp [tcpNew, hk]
  · intro d hk; simp [udpSend, hk]
  · intro d hk; simp [tcpSend, hk]
  · intro size hs hk; rw [(C12_socket_udp_receive_exact os size h hs).2 k hk]
  · intro size rest hs hne hk
    rw [(C12_socket_tcp_receive_to_end os size h hs).1, hk]
    simp [Stream.outcome, hne]

/-- the table is about every kind the model knows -/
example : ∀ k ∈ allIoKinds, k ≠ .interrupted → (Stream.fail k .closed).outcome [] = .err .packetReceive := by decide +kernel

/-! ### the abstract transport is this code on top of the system the script stands for -/

/-- `Net.openSock`: a scripted `refused` is a failing bind (UDP) / connection attempt (TCP), anything else a system that
lets the socket be opened and configured — the results agree.  The hypothesis fixes the answer to the bind AND to the
connection attempt, so that it does not depend on the kind; only the call the kind makes is ever consulted.  `tcp : Bool`
is how `Net` names the kind (`openSock tcp`, `Sock.tcp`), `Kind` how the model of socket.rs does. -/
theorem C12_socket_refines_open (os : Os) (hos : SettersFailOnlyOnZero os) (remote : Addr) (t : Option Timeout)
    (ht : zeroOpt (readAndWriteOrDefaults t).1 = false ∧ zeroOpt (readAndWriteOrDefaults t).2 = false)
    (tcp : Bool) (w : Net) (k : IoKind)
    (hopen : match w.pending with
      | .refused :: _ => os.bind [] (localFor remote) = .error k ∧ os.connect [] remote (connectOrDefault t) = .error k
      | _ => os.bind [] (localFor remote) = .ok () ∧ os.connect [] remote (connectOrDefault t) = .ok ()) :
    (sockNew (if tcp then .tcp else .udp) os remote t []).1 = ((openSock tcp remote.port w).1.bind fun _ => .ok ()) := by
  have apply_ok := fun h => applyTimeout_not_crash os hos t h ht.1 ht.2
  rcases hp : w.pending with _ | ⟨_ | ds, rest⟩ <;> rw [hp] at hopen <;> cases tcp <;>
    simp [sockNew, udpNew, tcpNew, openSock, hp, hopen.1, hopen.2, apply_ok, Res.bind]

/-- `Net.send`: a scripted send fault is a failing `send_to` / `write` (both answers are fixed, for the same reason) -/
theorem C12_socket_refines_send (os : Os) (remote : Addr) (s : Sock) (data : Bytes) (h : List Call) (w : Net) (k : IoKind)
    (hsend : match w.faults with
      | true :: _ => os.sendTo h data remote = .error k ∧ os.write h data = .error k
      | _ => os.sendTo h data remote = .ok data.length ∧ os.write h data = .ok data.length) :
    (step (if s.tcp then .tcp else .udp) os remote (.send data) h).1 = ((Gd.send s data w).1.bind fun _ => .ok []) := by
  rcases hf : w.faults with _ | ⟨_ | _, rest⟩ <;> rw [hf] at hsend <;> cases hs : s.tcp <;>
    simp [step, udpSend, tcpSend, Gd.send, hf, hsend.1, hsend.2, Res.bind]

/-- `Net.recv`: a scripted datagram is what `recv_from` delivers (from any source), scripted silence a receive that runs
into its timeout; a scripted TCP delivery is a peer that writes it and closes, silence one that keeps the connection open
without writing, an exhausted script a peer that has closed.  On that system socket.rs returns what `Net.recv` returns. -/
theorem C12_socket_refines_recv (os : Os) (remote src : Addr) (s : Sock) (size : Option Nat) (h : List Call) (w : Net)
    (hs : size.getD 1024 < 2 ^ 63)
    (hudp : os.recvFrom h (size.getD 1024) = udpAnswer src (w.conns.getD s.id []))
    (htcp : os.reads h = tcpAnswer (w.conns.getD s.id [])) :
    (step (if s.tcp then .tcp else .udp) os remote (.receive size) h).1 = (Gd.recv s size w).1 := by
  unfold Gd.recv
  generalize w.conns.getD s.id [] = q at hudp htcp
  cases s.tcp
  · cases q with
    | nil => exact congrArg Prod.fst (udpReceive_error os size h _ hs hudp)
    | cons dl rest =>
      cases dl with
      | data d => exact congrArg Prod.fst (udpReceive_ok os size h _ _ hs hudp)
      | silence => exact congrArg Prod.fst (udpReceive_error os size h _ hs hudp)
  · obtain ⟨lens, e⟩ := tcpReceive_eq os size h hs
    refine (congrArg Prod.fst e).trans ?_
    rw [htcp]
    cases q with
    | nil => rfl
    | cons dl rest =>
      cases dl with
      | data d => cases d <;> rfl
      | silence => rfl

/-- the three refinement statements on an instance: a scripted datagram of 3 bytes read into a buffer of 2 -/
example : (step .udp { quietOs with recvFrom := fun _ _ => udpAnswer (.v4 127 0 0 1 9) [.data [1, 2, 3]] } (.v4 127 0 0 1 9) (.receive (some 2)) []).1
    = (Gd.recv ⟨0, 9, false⟩ (some 2) ⟨[], [[.data [1, 2, 3]]], [], []⟩).1 := by decide +kernel
