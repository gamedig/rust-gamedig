import GdVerif.Lemmas.QuakeCost
import GdVerif.Lemmas.QuakeBlock
/-
  C13 (requests sent) — Quake 1 / 2 / 3.  `units` = 1: the query is one exchange (status request out,
  one datagram back) and the whole exchange is the retried unit.
-/
open Gd Gd.Quake

/-- Whatever the server does, for every script, fault vector, version and retry setting, the Quake
query sends at most one datagram per attempt: `retries + 1` in all, however many datagrams it
receives (nothing a server sends earns a further request). -/
theorem C13_quake_send_bound (port : Nat) (v : Version) (retries : Nat) (script : List ConnScript) (faults : List Bool) :
    nSends (query port v retries (Net.init script faults)).2.log ≤ retries + 1 :=
  (sends_query port v retries).total script faults

/-- The form the trace oracle of `props/c13.py` checks (`send_units` = 1). -/
theorem C13_quake_send_bound_units (port : Nat) (v : Version) (retries : Nat) (script : List ConnScript) (faults : List Bool) :
    nSends (query port v retries (Net.init script faults)).2.log
      ≤ 1 * (retries + 1) + nRecvOk (query port v retries (Net.init script faults)).2.log := by
  have := C13_quake_send_bound port v retries script faults
  omega

/-- The bound is attained for every retry setting: against a server that never answers exactly
`retries + 1` requests are sent. -/
theorem C13_quake_send_bound_attained (port : Nat) (v : Version) (retries : Nat) :
    nSends (query port v retries (Net.init [] [])).2.log = retries + 1 :=
  (silent_query port v retries (Net.init [] []) rfl rfl).counts.2.1

example : nSends (query 27960 .three 2 (Net.init [.opened [.silence, .silence, .silence]] [])).2.log = 3 := by decide +kernel
