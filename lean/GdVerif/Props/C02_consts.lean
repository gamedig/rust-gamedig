import GdVerif.Gen.Consts
import GdVerif.Lemmas.Consts
import GdVerif.Spec.Valve
/-
  C02 — the constants of the Valve reply parsers: SOURCE = MODEL = SPEC (tie by TRANSLATION, `Gd.Gen.Consts`).

  Server-type and environment letters (both layouts), the Extra Data Flag bits, the 24-bit app id of the game id, the
  engine special cases (The Ship 2400, protocol 7 / app 240 split header, Risk of Rain 2 `Test` rule), the split
  header byte, the compression bit and the decompression bound.  Where the model has the literal inline in a
  definition, the theorem is that definition's equation with the generated constant in its place (`rfl`: it holds
  exactly when the two literals agree).
-/
open Gd Gd.Gen Gd.ConstsAux

/-! ### server type / environment letters -/

/-- lower-casing an already lower-cased byte changes nothing: why both `from_gldsrc` take either case of a letter -/
theorem asciiLowerNat_idem (n : Nat) : Valve.asciiLowerNat (Valve.asciiLowerNat n) = Valve.asciiLowerNat n := by
  simp only [Valve.asciiLowerNat, Bool.and_eq_true, decide_eq_true_eq]
  split
  · split <;> omega
  · rfl

/-- `Server::from_gldsrc`: the model accepts exactly the source's letters (and, as the source lower-cases first, their
upper-case forms) with the same variants -/
theorem C02_consts_valve_server_letters :
    (graph Valve.serverFromGldsrc serverTypeName).filter (fun p => isLower p.1) = Consts.valve_server_from_gldsrc
    ∧ ∀ n ∈ List.range 256, Valve.serverFromGldsrc n = Valve.serverFromGldsrc (Valve.asciiLowerNat n) :=
  ⟨by decide +kernel, fun n _ => by simp only [Valve.serverFromGldsrc, asciiLowerNat_idem]⟩

/-- `Environment::from_gldsrc` (`l`, `w`, `m` or `o`) -/
theorem C02_consts_valve_environment_letters :
    (graph Valve.environmentFromGldsrc environmentName).filter (fun p => isLower p.1) = Consts.valve_environment_from_gldsrc
    ∧ ∀ n ∈ List.range 256, Valve.environmentFromGldsrc n = Valve.environmentFromGldsrc (Valve.asciiLowerNat n) :=
  ⟨by decide +kernel, fun n _ => by simp only [Valve.environmentFromGldsrc, asciiLowerNat_idem]⟩

/-- the obsolete GoldSrc layout: `68 / 76 / 80`, `76 / 87`, no case folding -/
theorem C02_consts_valve_goldsrc_letters :
    graph Valve.goldServerType serverTypeName = Consts.valve_goldsrc_server_types
    ∧ graph Valve.goldEnvironment environmentName = Consts.valve_goldsrc_environments := by
  decide +kernel

/-- SPEC: the letters a server sends (either case / upper case in the obsolete layout) are the source's -/
theorem C02_consts_valve_spec_letters :
    (∀ t : Valve.ServerType, (Valve.Spec.serverTypeByte false t, serverTypeName t) ∈ Consts.valve_server_from_gldsrc
        ∧ (Valve.Spec.serverTypeByte true t, serverTypeName t) ∈ Consts.valve_goldsrc_server_types)
    ∧ (∀ t : Valve.Environment, (Valve.Spec.environmentByte false t, environmentName t) ∈ Consts.valve_environment_from_gldsrc)
    ∧ (∀ t : Valve.Environment, t ≠ .mac →
        (Valve.Spec.environmentByte true t, environmentName t) ∈ Consts.valve_goldsrc_environments) := by
  refine ⟨fun t => ?_, fun t => ?_, fun t h => ?_⟩
  · cases t <;> decide +kernel
  · cases t <;> decide +kernel
  · cases t
    · decide +kernel
    · decide +kernel
    · exact absurd rfl h

/-! ### Extra Data Flag -/

/-- SPEC: the flag byte of a block with exactly one of the fields (the SourceTV name shares the port's flag) -/
theorem C02_consts_valve_edf_spec :
    [("port", Valve.Spec.edf ⟨some 0, none, none, none, none, none⟩),
     ("steam_id", Valve.Spec.edf ⟨none, some 0, none, none, none, none⟩),
     ("tv_port", Valve.Spec.edf ⟨none, none, some 0, some [], none, none⟩),
     ("tv_name", Valve.Spec.edf ⟨none, none, some 0, some [], none, none⟩),
     ("keywords", Valve.Spec.edf ⟨none, none, none, none, some [], none⟩),
     ("game_id", Valve.Spec.edf ⟨none, none, none, none, none, some 0⟩)] = Consts.valve_edf_flags := by
  rfl

/-- MODEL: `parseExtra` is its definition with the source's flags and the source's app-id mask -/
theorem C02_consts_valve_edf_model (appid : Nat) :
    Valve.parseExtra appid = fun b =>
      match readU8 b with
      | .err _ => .ok ((none, appid), b)
      | .crash => .crash
      | .ok (value, b) =>
        (do
          let port ← Valve.readIf (value &&& num Consts.valve_edf_flags "port" > 0) (readUnsigned .little 2)
          let steamId ← Valve.readIf (value &&& num Consts.valve_edf_flags "steam_id" > 0) (readUnsigned .little 8)
          let tvPort ← Valve.readIf (value &&& num Consts.valve_edf_flags "tv_port" > 0) (readUnsigned .little 2)
          let tvName ← Valve.readIf (value &&& num Consts.valve_edf_flags "tv_name" > 0) readCStr
          let keywords ← Valve.readIf (value &&& num Consts.valve_edf_flags "keywords" > 0) readCStr
          let gameId ← Valve.readIf (value &&& num Consts.valve_edf_flags "game_id" > 0) (readUnsigned .little 8)
          let appid' := match gameId with
            | some gid => gid &&& (2 ^ Consts.valve_appid_mask_bits - 1)
            | none => appid
          pure (some (Valve.ExtraData.mk port steamId tvPort tvName keywords gameId), appid')) b := rfl

/-! ### engine special cases -/

/-- The Ship: `Engine::new(2400)` at the three places that read its extra fields -/
theorem C02_consts_valve_the_ship (engine : Valve.Engine) :
    Consts.valve_the_ship_appids = [2400, 2400, 2400]
    ∧ Valve.parsePlayer engine = (do
        moveCursor 1
        let name ← readCStr
        let score ← readSigned .little 4
        let duration ← readUnsigned .little 4
        let deaths ← Valve.readIf (engine == Valve.Engine.new (Consts.valve_the_ship_appids.getD 1 0)) (readUnsigned .little 4)
        let money ← Valve.readIf (engine == Valve.Engine.new (Consts.valve_the_ship_appids.getD 2 0)) (readUnsigned .little 4)
        pure ⟨name, score, duration, deaths, money⟩) := ⟨by rfl, rfl⟩

/-- … and in the info reply: mode, witnesses, duration are read exactly for that engine (a minimal reply, engines
around the source's id) -/
theorem C02_consts_valve_the_ship_info :
    ∀ d ∈ [0, 1, 2], ∀ tail ∈ [[], [7, 8, 9]],
      resMap (fun i => i.theShip.isSome)
        ((Valve.parseSourceInfo (Valve.Engine.new (Consts.valve_the_ship_appids.getD 0 0 + d - 1))).run
          ([17, 0, 0, 0, 0, 0, 0, 1, 2, 0, 100, 108, 0, 0] ++ tail ++ [0]))
        = (if d = 1 then (if tail = [] then .err .packetUnderflow else .ok true) else .ok false) := by
  decide +kernel

/-- protocol 7 + app 240: no size field in the split header (1248 assumed); bit 31 of the id = compressed -/
theorem C02_consts_valve_split_packet (engine : Valve.Engine) (protocol : Nat) :
    Valve.splitPacketNew engine protocol = (do
      let header ← readUnsigned .little 4
      let id ← readUnsigned .little 4
      match engine with
      | .goldSrc _ => do
        let b ← readU8
        let (lower, upper) := lowerUpper b
        let payload ← remainingBytes
        pure ⟨header, id, lower, upper, 0, none, payload⟩
      | .source _ => do
        let total ← readU8
        let number ← readU8
        let size ← (if protocol == Consts.valve_css_protocol && engine == Valve.Engine.new Consts.valve_css_appid
                    then pure Consts.valve_css_split_size else readUnsigned .little 2 : Par Nat)
        let isCompressed := (id >>> Consts.valve_compressed_bit) &&& 1 == 1
        let decompressed ← Valve.readIf (isCompressed && number == 0) (do
            let a ← readUnsigned .little 4
            let b ← readUnsigned .little 4
            pure (a, b))
        let payload ← remainingBytes
        pure ⟨header, id, total, number, size, decompressed, payload⟩) := rfl

/-- SPEC: which split headers carry the size field, and the size written there -/
theorem C02_consts_valve_spec_split (engine : Valve.Engine) (protocol id total number : Nat) (chunk : Bytes) :
    Valve.Spec.withSize engine protocol
      = !(protocol == Consts.valve_css_protocol && engine == Valve.Engine.new Consts.valve_css_appid)
    ∧ Valve.Spec.sourceFragment true id total number chunk
      = Valve.Spec.splitHeader ++ Valve.Spec.le 4 id ++ Valve.Spec.u8 total ++ Valve.Spec.u8 number
        ++ Valve.Spec.le 2 Consts.valve_css_split_size ++ chunk := ⟨rfl, rfl⟩

/-- SPEC: compressed transports are the ids with that bit set -/
theorem C02_consts_valve_spec_compressed_bit :
    Valve.Spec.wfTransport (.source none) (.sourceSplitBz (2 ^ Consts.valve_compressed_bit) [] [] 0) = true
    ∧ Valve.Spec.wfTransport (.source none) (.sourceSplitBz (2 ^ Consts.valve_compressed_bit - 1) [] [] 0) = false
    ∧ Valve.Spec.wfTransport (.source none) (.sourceSplit (2 ^ Consts.valve_compressed_bit - 1) []) = true
    ∧ Valve.Spec.wfTransport (.source none) (.sourceSplit (2 ^ Consts.valve_compressed_bit) []) = false := by
  decide +kernel

/-- `if header == 0xFE`: the first byte of a split packet; every receive into `PACKET_SIZE` bytes -/
theorem C02_consts_valve_split_header (ext : Valve.Ext) (s : Sock) (engine : Valve.Engine) (protocol : Nat) :
    Valve.receive ext s engine protocol = (do
      let data ← recv s (some Consts.valve_packet_size)
      let header ← parse readU8 data
      if header == Consts.valve_split_header then do
        let first ← parse (Valve.splitPacketNew engine protocol) data
        let rest ← Valve.recvChunks s engine protocol (first.total - 1)
        let payload ← Q.lift (Valve.assemble ext (Valve.sortChunks (first :: rest)))
        parse Valve.packetFromBuffer payload
      else parse Valve.packetFromBuffer data)
    ∧ Valve.Spec.splitHeader.head? = some (UInt8.ofNat Consts.valve_split_header) := ⟨rfl, rfl⟩

/-- Risk of Rain 2 (`Engine::new(632_360)`): the rule `Test` is dropped — MODEL and SPEC -/
theorem C02_consts_valve_ror2 (engine : Valve.Engine) (rs : Valve.Rules) :
    Valve.parseRules engine = (do
      let count ← readUnsigned .little 2
      let pairs ← repeatN Valve.parseRule count
      let rules := pairs.foldl (fun m p => Valve.mapInsert m p.1 p.2) []
      pure (if engine == Valve.Engine.new Consts.valve_ror2_appid
            then Valve.mapRemove rules (asciiBytes Consts.valve_ror2_removed_rule) else rules))
    ∧ Valve.Spec.expectedRules engine rs
      = (if engine == Valve.Engine.new Consts.valve_ror2_appid
         then rs.filter (fun p => p.1 != asciiBytes Consts.valve_ror2_removed_rule) else rs) := ⟨rfl, rfl⟩

/-- `MAX_DECOMPRESSED_SIZE` -/
theorem C02_consts_valve_max_decompressed_size : Valve.maxDecompressedSize = Consts.valve_max_decompressed_size := by
  rfl

example : (graph Valve.goldServerType serverTypeName).length = 3 := by decide +kernel
example : Consts.valve_the_ship_appids.getD 0 0 + 1 - 1 = 2400 := rfl
