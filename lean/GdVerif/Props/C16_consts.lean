import GdVerif.Gen.Consts
import GdVerif.Lemmas.Consts
import GdVerif.Proto.Master
import GdVerif.Spec.Master
import GdVerif.Props.C04_consts  -- for `sameSet_keys`
/-
  C16 — the texts of the master-server request and reply: SOURCE = MODEL = SPEC (tie by TRANSLATION).

  The key of each of the 18 filters with the way its value is written, the `nand` / `nor` group names, the characters
  for booleans, the tag separator and the terminator, the region codes, the reply header.
  `Gd.Gen.Consts.*` is regenerated from services/valve_master_server/{types,service}.rs on every run.
-/
open Gd Gd.Gen Gd.ConstsAux

/-- the model's filter for a variant of `enum Filter`, with a sample value of its kind: `true`, `7`, `x`, tags `a`, `b` -/
def C16_consts_sample (variant : String) : Option Master.Filter :=
  if variant == "IsSecured" then some (.isSecured true) else if variant == "RunsMap" then some (.runsMap [120])
  else if variant == "CanHavePassword" then some (.canHavePassword true) else if variant == "CanBeEmpty" then some (.canBeEmpty true)
  else if variant == "IsEmpty" then some (.isEmpty true) else if variant == "CanBeFull" then some (.canBeFull true)
  else if variant == "RunsAppID" then some (.runsAppID 7) else if variant == "NotAppID" then some (.notAppID 7)
  else if variant == "HasTags" then some (.hasTags [[97], [98]]) else if variant == "MatchName" then some (.matchName [120])
  else if variant == "MatchVersion" then some (.matchVersion [120]) else if variant == "RestrictUniqueIP" then some (.restrictUniqueIP true)
  else if variant == "OnAddress" then some (.onAddress [120]) else if variant == "Whitelisted" then some (.whitelisted true)
  else if variant == "SpectatorProxy" then some (.spectatorProxy true) else if variant == "IsDedicated" then some (.isDedicated true)
  else if variant == "RunsLinux" then some (.runsLinux true) else if variant == "HasGameDir" then some (.hasGameDir [120])
  else none

/-- how the sample value of a kind is written -/
def C16_consts_sampleText (kind : String) : Bytes :=
  if kind == "bool" then [UInt8.ofNat (num Consts.master_text_bytes "true")] else if kind == "number" then [55]
  else if kind == "text" then [120] else if kind == "tags" then [97, UInt8.ofNat (num Consts.master_text_bytes "tag_separator"), 98]
  else []

/-- `Filter::to_bytes`: for every arm of the source, the model writes the same `\key\` followed by the value -/
theorem C16_consts_master_filter_keys :
    Consts.master_filter_keys.map (fun f => (C16_consts_sample f.1).map Master.Filter.toBytes)
      = Consts.master_filter_keys.map (fun f => some (asciiBytes f.2.1 ++ C16_consts_sampleText f.2.2)) := by decide +kernel

/-- the variants of `enum Filter` in declaration order are the model's constructors in the order of `Filter.kind`
(`mem::discriminant`), and `to_bytes` has an arm for each -/
theorem C16_consts_master_filter_variants :
    Consts.master_filter_variants.map (fun v => (C16_consts_sample v).map Master.Filter.kind) = (List.range 18).map some
    ∧ sameSet (keys Consts.master_filter_variants) (keys (Consts.master_filter_keys.map (·.1))) = true :=
  ⟨by decide +kernel, sameSet_keys (by decide +kernel)⟩

/-- `bool_as_char_u8`, the `,` between tags, the NUL after the filters -/
theorem C16_consts_master_text_bytes :
    Master.boolChar true = [UInt8.ofNat (num Consts.master_text_bytes "true")]
    ∧ Master.boolChar false = [UInt8.ofNat (num Consts.master_text_bytes "false")]
    ∧ Master.joinTags [[1], [2], [3]] = [1, UInt8.ofNat (num Consts.master_text_bytes "tag_separator"), 2,
        UInt8.ofNat (num Consts.master_text_bytes "tag_separator"), 3]
    ∧ Master.toBytesOrdered [] [] [] = [UInt8.ofNat (num Consts.master_text_bytes "terminator")]
    ∧ (Master.Filter.hasTags []).toBytes = [] := by decide +kernel

/-- `special_filter_to_bytes("\\nand\\" / "\\nor\\", …)`: the group markers of the model and of the SPEC's grammar -/
theorem C16_consts_master_group_names :
    Master.toBytesOrdered [] [.runsMap [120]] [.runsMap [121], .isSecured false]
      = asciiBytes (Consts.master_group_names.getD 0 "") ++ [49] ++ (Master.Filter.runsMap [120]).toBytes
        ++ asciiBytes (Consts.master_group_names.getD 1 "") ++ [50] ++ (Master.Filter.runsMap [121]).toBytes
        ++ (Master.Filter.isSecured false).toBytes ++ [0]
    ∧ [0x5c] ++ Master.Spec.nandKey ++ [0x5c] = asciiBytes (Consts.master_group_names.getD 0 "")
    ∧ [0x5c] ++ Master.Spec.norKey ++ [0x5c] = asciiBytes (Consts.master_group_names.getD 1 "")
    ∧ Consts.master_group_names.length = 2 := by decide +kernel

/-- `enum Region`: every code is a byte (so `[region as u8]` = the model's `UInt8.ofNat region`), and the codes are the
nine the request generators iterate over (props/c16.py `REGIONS`, Run/GenMaster) -/
theorem C16_consts_master_regions :
    (∀ r ∈ Consts.master_regions, r.2 < 256)
    ∧ Consts.master_regions.map (·.2) = [0, 1, 2, 3, 4, 5, 6, 7, 255] := by decide +kernel

/-- the reply page: `u32::MAX` then `26122` (`66 0A`) in front of the entries -/
theorem C16_consts_master_reply_header :
    Master.parsePage = (do
      let h ← readUnsigned .big 4
      if h != Consts.master_reply_header.getD 0 0 then Par.fail .packetBad
      else do
        let k ← readUnsigned .big 2
        if k != Consts.master_reply_header.getD 1 0 then Par.fail .packetBad
        else fun b => Master.parseEntries (b.remaining + 1) b)
    ∧ Consts.master_reply_header.length = 2 := ⟨rfl, rfl⟩

/-- SPEC: a request starts with the source's first byte and its seed ends at the source's terminator (the reference
reader accepts the model's payload for the source's frame) -/
theorem C16_consts_master_spec_frame :
    Master.Spec.parse (Consts.master_payload_frame.getD 0 [] ++ [3] ++ asciiBytes "0.0.0.0"
        ++ Consts.master_payload_frame.getD 1 [] ++ [48] ++ Consts.master_payload_frame.getD 2 []
        ++ Consts.master_payload_frame.getD 3 [])
      = some ⟨3, asciiBytes "0.0.0.0:0", [], [], []⟩ := by decide +kernel

example : Consts.master_filter_keys.length = 18 := rfl
