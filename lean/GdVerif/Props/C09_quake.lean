import GdVerif.Lemmas.QuakeSafe
import GdVerif.Lemmas.QSteps
import GdVerif.Spec.Quake
/-
  C09 — Requests are the protocol's and go to the right port: the Quake 1 / 2 / 3 family.
  (The Quake status protocol has no challenge.)
-/
open Gd Gd.Quake

/-- The request of each version is byte for byte the specification's: the out-of-band marker, `status`
(Quake 1, 2) or `getstatus` (Quake 3), a NUL. -/
theorem C09_quake_request_bytes (v : Version) : request v = Spec.request v :=
  request_eq v

/-- Whatever the server does (any script), every datagram the Quake query emits goes out of the one UDP
socket it opened, to the port it was given, and is exactly the version's status request; every receive uses
the fixed 65535-byte buffer; nothing else is done to the transport. -/
theorem C09_quake_conforms (port : Nat) (v : Version) (retries : Nat) (script : List ConnScript) (faults : List Bool) :
    ∀ e ∈ (query port v retries (Net.init script faults)).2.log,
      match e with
      | .opened c tcp p _ => c = 0 ∧ tcp = false ∧ p = port
      | .send c p data _ => c = 0 ∧ p = port ∧ data = Spec.request v
      | .recv c size _ => c = 0 ∧ size = some 65535 := by
  intro e he
  have := log_of_init (query_safe port v retries (Net.init script faults)).2 e he
  cases e with
  | opened c tcp p r => exact this
  | send c p d f => exact ⟨this.1, this.2.1, by rw [← C09_quake_request_bytes]; exact this.2.2⟩
  | recv c s gt => exact this

/-- One attempt of the exchange sends exactly one datagram — the request — and then receives at most once:
the log of `get_data_impl` from any state is `send request` followed (if the send did not fail) by one
receive into the 65535-byte buffer. -/
theorem C09_quake_one_request_per_attempt (s : Sock) (v : Version) (w : Net) :
    ∃ failed, ∃ tail, (getDataImpl s v w).2.log = w.log ++ .send s.id s.port (Spec.request v) failed :: tail
      ∧ ∀ e ∈ tail, ∃ got, e = .recv s.id (some 65535) got := by
  rw [← C09_quake_request_bytes]
  exact exchange1_log s (request v) PACKET_SIZE (stripHeader v).run w

-- non-vacuity: the three requests
example : Spec.request .one = [0xFF, 0xFF, 0xFF, 0xFF, 0x73, 0x74, 0x61, 0x74, 0x75, 0x73, 0x00] := by decide +kernel
example : Spec.request .three = [0xFF, 0xFF, 0xFF, 0xFF, 0x67, 0x65, 0x74, 0x73, 0x74, 0x61, 0x74, 0x75, 0x73, 0x00] := by decide +kernel
