import GdVerif.Lemmas.Unreal2Faults
import GdVerif.Props.C06
/-
  C10 on WHOLE Unreal 2 queries with faults injected.

  `Props/C10.lean` proves C10 for the combinator, `Props/C10_unreal2.lean` names the three retried units (server info,
  mutators and rules, players: each ONE request and its FIRST reply datagram) and shows that the listening loops for the
  further datagrams are outside them.  Here the property is proved end to end for `Unreal2.query` against the SPEC's
  server (`Spec/Unreal2.lean`), on the scripts of `props/families/unreal2.py: c10_build / c10_build_multi`: a plan
  (`Spec/Unreal2Faults.lean`) gives for EACH unit the attempts that end in a timeout-class failure — `false`: the request
  goes out and nothing comes back, `true`: the request cannot be sent — and how the unit ends: the server's answer (for
  rules and players: all its datagrams; the rules answer is followed by the silence that ends the client's listening),
  nothing, or a malformed first datagram.  Units are gathered under their toggles: Skip — never asked for; Try — a
  failure leaves the response intact with the section absent; Enforce (and the server info, always) — a failure ends
  the query and later units are not asked for.  `faultyScript` / `faultyFaults` are the two arguments of `Net.init`;
  what follows them (`restQ`, `restF`) is arbitrary, except that when the client is still listening for players after the
  last players datagram (fewer players listed than announced) it must be nothing or begin with a silence
  (`stillListening` / `quiet`).  Quantified: state and cuts into datagrams in the SPEC's domain, all 9 toggle pairs, port,
  retry count, the plan.
-/
open Gd Gd.Unreal2 Gd.Unreal2.Spec Gd.Faults

/-- THE GENERAL STATEMENT.  For every plan in C10's domain for the retry count (`wfPlan`: every unit the query gets to
that is answered — validly, or by a first datagram shorter than the reply header or with another kind byte — had at
most `retries` timeout-class failures before, a unit that is given up exactly `retries + 1`): the query returns the
outcome the property prescribes (`faultyExpected`: each section present / absent / fatal according to its toggle and
its unit's ending, the error being the last failure's or the malformed datagram's), and the datagrams it sent are
exactly the plan's (`faultySends`: per unit that is reached its request once per attempt; a silence in a listening loop
causes no request). -/
theorem C10_unreal2_query_faulty (cfg : Config) (st : State) (hwf : wf cfg st = true) (port : Nat) (plan : Plan)
    (hplan : wfPlan cfg plan = true) (restQ : List Delivery) (restF : List Bool)
    (hrest : stillListening cfg st plan = true → quiet restQ = true) :
    (Unreal2.query port cfg.gather cfg.retries
        (Net.init [.opened (faultyScript cfg st plan ++ restQ)] (faultyFaults cfg plan ++ restF))).1
      = faultyExpected cfg st plan
    ∧ sentOf (Unreal2.query port cfg.gather cfg.retries
        (Net.init [.opened (faultyScript cfg st plan ++ restQ)] (faultyFaults cfg plan ++ restF))).2.log
      = faultySends cfg plan :=
  query_faulty cfg st hwf port plan hplan restQ restF hrest

/-- attempts per unit seen on the wire (requests of its kind): the plan's for a unit the query gets to, none for a unit
it does not get to (skipped, or behind a fatal failure) -/
theorem C10_unreal2_attempts (cfg : Config) (plan : Plan) (sec : Section) :
    attemptsOf sec (faultySends cfg plan) = if reached cfg plan sec then (plan.unit sec).attempts else 0 :=
  attemptsOf_faultySends cfg plan sec

/-- (a) RECOVERY.  Each unit loses `fi` / `fr` / `fp` attempts (any numbers ≤ `retries`, each a lost reply or a failed
send; every unit has its own `retries + 1` tries) before it is answered: the query returns exactly the fault-free
result (`Spec.expected` of the configuration with both sections answered — by `C06_query` what the query returns on the
fault-free script), and each unit that is gathered was tried `k + 1` times, a skipped one never. -/
theorem C10_unreal2_query_recovers (cfg : Config) (st : State) (hwf : wf cfg st = true) (port : Nat)
    (fi fr fp : List Bool) (hi : fi.length ≤ cfg.retries) (hr : fr.length ≤ cfg.retries) (hp : fp.length ≤ cfg.retries)
    (restQ : List Delivery) (restF : List Bool)
    (hrest : cfg.gather.players ≠ .skip → st.players.length < st.numPlayers → quiet restQ = true) :
    let plan : Plan := ⟨⟨fi, .valid⟩, ⟨fr, .valid⟩, ⟨fp, .valid⟩⟩
    let out := Unreal2.query port cfg.gather cfg.retries
        (Net.init [.opened (faultyScript cfg st plan ++ restQ)] (faultyFaults cfg plan ++ restF))
    out.1 = expected cfg.answered st
    ∧ sentOf out.2.log = faultySends cfg plan
    ∧ attemptsOf .info (sentOf out.2.log) = fi.length + 1
    ∧ attemptsOf .rules (sentOf out.2.log) = (if cfg.gather.mutatorsAndRules = .skip then 0 else fr.length + 1)
    ∧ attemptsOf .players (sentOf out.2.log) = (if cfg.gather.players = .skip then 0 else fp.length + 1) := by
  intro plan out
  have hplan : wfPlan cfg plan = true := by
    simp [wfPlan, wfUnit, plan, hi, hr, hp]
  have hst : rulesStops cfg plan = false := by simp [rulesStops, plan]
  obtain ⟨h1, h2⟩ := C10_unreal2_query_faulty cfg st hwf port plan hplan restQ restF
    (fun hs => hrest (stillListening_true hs).1 (stillListening_true hs).2.2)
  rw [faultyExpected_answered cfg st plan rfl rfl rfl] at h1
  have h2' : sentOf out.2.log = faultySends cfg plan := h2
  refine ⟨h1, h2', ?_, ?_, ?_⟩
  · rw [h2', C10_unreal2_attempts]; rfl
  · rw [h2', C10_unreal2_attempts]
    cases ht : cfg.gather.mutatorsAndRules <;>
      simp [reached, rulesReached, infoOk, plan, ht, Plan.unit, UnitPlan.attempts]
  · rw [h2', C10_unreal2_attempts]
    cases ht : cfg.gather.players <;>
      simp [reached, playersReached, infoOk, hst, plan, ht, Plan.unit, UnitPlan.attempts]

/-- A REQUIRED UNIT FAILS.  The query gets to unit `sec` (the server info, or a section set to Enforce) and that unit
ends with the error `k` — given up, or answered by a malformed first datagram: the query fails with `k` after exactly
the plan's attempts of that unit, and no later unit is asked for, whatever the script still holds.  (b) and (c) below
are its two cases. -/
theorem C10_unreal2_query_fatal (cfg : Config) (st : State) (hwf : wf cfg st = true) (port : Nat) (plan : Plan)
    (hplan : wfPlan cfg plan = true) (sec : Section) (hreach : reached cfg plan sec = true)
    (ht : toggleOf cfg sec = .enforce) (k : ErrKind) (hk : (plan.unit sec).error = some k)
    (restQ : List Delivery) (restF : List Bool) :
    let out := Unreal2.query port cfg.gather cfg.retries
        (Net.init [.opened (faultyScript cfg st plan ++ restQ)] (faultyFaults cfg plan ++ restF))
    out.1 = .err k
    ∧ attemptsOf sec (sentOf out.2.log) = (plan.unit sec).attempts
    ∧ ∀ later : Section, sec.kind < later.kind → attemptsOf later (sentOf out.2.log) = 0 := by
  intro out
  have hne : (plan.unit sec).ending ≠ .valid := fun he => by rw [error_valid he] at hk; cases hk
  obtain ⟨h1, h2⟩ := C10_unreal2_query_faulty cfg st hwf port plan hplan restQ restF (by
    rw [stillListening_fatal st ht hne]; exact Bool.noConfusion)
  rw [faultyExpected_stops cfg st plan sec k hreach ht hk] at h1
  have h2' : sentOf out.2.log = faultySends cfg plan := h2
  refine ⟨h1, ?_, ?_⟩
  · rw [h2', C10_unreal2_attempts, hreach]
    rfl
  · intro later hlt
    rw [h2', C10_unreal2_attempts, reached_after_fatal ht hne hlt]
    rfl

/-- (b) EXHAUSTION of a required unit.  The query gets to unit `sec` (the server info; or a section set to Enforce, the
units before it having ended without stopping the query), and all `retries + 1` attempts of that unit end in a
timeout-class failure: the query fails with the LAST attempt's error — `PacketReceive`, or `PacketSend` when that
attempt was a failed send — after exactly `retries + 1` requests of that unit, and no later unit is asked for, whatever
the script still holds. -/
theorem C10_unreal2_query_exhausted (cfg : Config) (st : State) (hwf : wf cfg st = true) (port : Nat) (plan : Plan)
    (hplan : wfPlan cfg plan = true) (sec : Section) (hreach : reached cfg plan sec = true)
    (ht : toggleOf cfg sec = .enforce) (hend : (plan.unit sec).ending = .gaveUp)
    (restQ : List Delivery) (restF : List Bool) :
    let out := Unreal2.query port cfg.gather cfg.retries
        (Net.init [.opened (faultyScript cfg st plan ++ restQ)] (faultyFaults cfg plan ++ restF))
    out.1 = .err (lastError attemptError (plan.unit sec).fails)
    ∧ (out.1 = .err .packetReceive ∨ out.1 = .err .packetSend)
    ∧ attemptsOf sec (sentOf out.2.log) = cfg.retries + 1
    ∧ (sec = .info → attemptsOf .rules (sentOf out.2.log) = 0)
    ∧ (sec ≠ .players → attemptsOf .players (sentOf out.2.log) = 0) := by
  intro out
  -- the unit is in the plan's domain: exactly `retries + 1` failures
  have hlen : (plan.unit sec).fails.length = cfg.retries + 1 := by
    simpa [wfUnit, hend] using wfUnit_of_reached hplan sec hreach
  have hnil : (plan.unit sec).fails ≠ [] := by intro h0; rw [h0] at hlen; cases hlen
  obtain ⟨h1, h2, h3⟩ := C10_unreal2_query_fatal cfg st hwf port plan hplan sec hreach ht
    (lastError attemptError (plan.unit sec).fails) (by simp [UnitPlan.error, hend]) restQ restF
  have h1' : out.1 = .err (lastError attemptError (plan.unit sec).fails) := h1
  refine ⟨h1', ?_, ?_, fun hs => h3 .rules (by rw [hs]; decide), fun hs => h3 .players (kind_lt_players hs)⟩
  · rw [h1']
    rcases lastError_class _ hnil with e | e <;> simp [e]
  · rw [show attemptsOf sec (sentOf out.2.log) = _ from h2]
    simp [UnitPlan.attempts, hend, hlen]

theorem C10_unreal2_last_error (fails : List Bool) (f : Bool) :
    lastError attemptError (fails ++ [f]) = (if f then .packetSend else .packetReceive) :=
  lastError_attempt fails f

/-- (b') A unit that is only TRIED and fails — all `retries + 1` attempts time out, or its first datagram is malformed —
leaves the response intact with the section absent: for the rules unit (players answered) the query returns what the
SPEC prescribes for a rules section that is tried and not answered, and the rules request was sent once per attempt
of the plan; the players unit is still asked for. -/
theorem C10_unreal2_query_rules_tried (cfg : Config) (st : State) (hwf : wf cfg st = true) (port : Nat) (plan : Plan)
    (hplan : wfPlan cfg plan = true) (hi : plan.info.ending = .valid) (ht : cfg.gather.mutatorsAndRules = .try_)
    (hr : plan.rules.ending ≠ .valid) (hpl : plan.players.ending = .valid) (restQ : List Delivery) (restF : List Bool)
    (hrest : cfg.gather.players ≠ .skip → st.players.length < st.numPlayers → quiet restQ = true) :
    let out := Unreal2.query port cfg.gather cfg.retries
        (Net.init [.opened (faultyScript cfg st plan ++ restQ)] (faultyFaults cfg plan ++ restF))
    out.1 = expected { cfg.answered with rulesOutcome := .silent } st
    ∧ (∃ r, out.1 = .ok r ∧ r.mutatorsAndRules = .empty)
    ∧ attemptsOf .rules (sentOf out.2.log) = plan.rules.attempts
    ∧ attemptsOf .players (sentOf out.2.log) = (if cfg.gather.players = .skip then 0 else plan.players.attempts) := by
  intro out
  obtain ⟨k, hk⟩ := error_of_not_valid hr
  have hst : rulesStops cfg plan = false := by simp [rulesStops, ht]
  obtain ⟨h1, h2⟩ := C10_unreal2_query_faulty cfg st hwf port plan hplan restQ restF
    (fun hs => hrest (stillListening_true hs).1 (stillListening_true hs).2.2)
  rw [faultyExpected_rules_tried cfg st plan hi ht k hk hpl] at h1
  have h1' : out.1 = expected { cfg.answered with rulesOutcome := .silent } st := h1
  have h2' : sentOf out.2.log = faultySends cfg plan := h2
  refine ⟨h1', ?_, ?_, ?_⟩
  · rw [h1']
    unfold expected sectionResult Config.answered
    simp only [ht]
    cases cfg.gather.players <;> exact ⟨_, rfl, rfl⟩
  · rw [h2', C10_unreal2_attempts]
    simp [reached, rulesReached, infoOk, hi, ht, Plan.unit]
  · rw [h2', C10_unreal2_attempts]
    cases htp : cfg.gather.players <;> simp [reached, playersReached, infoOk, hi, hst, htp, Plan.unit]

/-- the same for the players unit (rules answered): the response without players -/
theorem C10_unreal2_query_players_tried (cfg : Config) (st : State) (hwf : wf cfg st = true) (port : Nat) (plan : Plan)
    (hplan : wfPlan cfg plan = true) (hi : plan.info.ending = .valid) (hr : plan.rules.ending = .valid)
    (ht : cfg.gather.players = .try_) (hpl : plan.players.ending ≠ .valid) (restQ : List Delivery) (restF : List Bool) :
    let out := Unreal2.query port cfg.gather cfg.retries
        (Net.init [.opened (faultyScript cfg st plan ++ restQ)] (faultyFaults cfg plan ++ restF))
    out.1 = expected { cfg.answered with playersOutcome := .silent } st
    ∧ (∃ r, out.1 = .ok r ∧ r.players = .empty)
    ∧ attemptsOf .players (sentOf out.2.log) = plan.players.attempts := by
  intro out
  obtain ⟨k, hk⟩ := error_of_not_valid hpl
  have hst : rulesStops cfg plan = false := by simp [rulesStops, hr]
  obtain ⟨h1, h2⟩ := C10_unreal2_query_faulty cfg st hwf port plan hplan restQ restF
    (fun hs => absurd (stillListening_true hs).2.1 hpl)
  rw [faultyExpected_players_tried cfg st plan hi hr ht k hk] at h1
  have h1' : out.1 = expected { cfg.answered with playersOutcome := .silent } st := h1
  have h2' : sentOf out.2.log = faultySends cfg plan := h2
  refine ⟨h1', ?_, ?_⟩
  · rw [h1']
    unfold expected sectionResult Config.answered
    simp only [ht]
    cases cfg.gather.mutatorsAndRules <;> exact ⟨_, rfl, rfl⟩
  · rw [h2', C10_unreal2_attempts]
    simp [reached, playersReached, infoOk, hi, hst, ht, Plan.unit]

/-- (c) A MALFORMED REPLY IS NOT RETRIED.  The query gets to a required unit `sec`; after any number ≤ `retries` of
timed-out attempts the first datagram that comes back is one the header check rejects — ANY datagram (within the
receive buffer) shorter than the 5 header bytes or whose kind byte is not the unit's (`Spec.malformedAt`).  Whatever
`retries` is, the query fails at once with `PacketBad` / `PacketUnderflow` (not a timeout-class error), no further
request of that unit is sent — `fails.length + 1` in all — and no later unit is asked for. -/
theorem C10_unreal2_query_malformed_not_retried (cfg : Config) (st : State) (hwf : wf cfg st = true) (port : Nat)
    (plan : Plan) (hplan : wfPlan cfg plan = true) (sec : Section) (hreach : reached cfg plan sec = true)
    (ht : toggleOf cfg sec = .enforce) (m : Bytes) (hend : (plan.unit sec).ending = .malformed m)
    (restQ : List Delivery) (restF : List Bool) :
    let out := Unreal2.query port cfg.gather cfg.retries
        (Net.init [.opened (faultyScript cfg st plan ++ restQ)] (faultyFaults cfg plan ++ restF))
    out.1 = .err (malformedError m)
    ∧ (malformedError m).isTimeout = false
    ∧ attemptsOf sec (sentOf out.2.log) = (plan.unit sec).fails.length + 1
    ∧ (plan.unit sec).fails.length ≤ cfg.retries
    ∧ (sec ≠ .players → attemptsOf .players (sentOf out.2.log) = 0) := by
  intro out
  have hlen : (plan.unit sec).fails.length ≤ cfg.retries := by
    have := wfUnit_of_reached hplan sec hreach
    simp only [wfUnit, hend, Bool.and_eq_true, decide_eq_true_eq] at this
    exact this.1.1
  obtain ⟨h1, h2, h3⟩ := C10_unreal2_query_fatal cfg st hwf port plan hplan sec hreach ht (malformedError m)
    (by simp [UnitPlan.error, hend]) restQ restF
  refine ⟨h1, malformedError_not_timeout m, ?_, hlen, fun hs => h3 .players (kind_lt_players hs)⟩
  rw [show attemptsOf sec (sentOf out.2.log) = _ from h2]
  simp [UnitPlan.attempts, hend]

/-! ### non-vacuity: the server of `Props/C06.lean` (rules and players over two datagrams each, retries = 1) -/

theorem C10_unreal2_exWf : wf C06Example.cfg C06Example.st = true := C06Example.wf_holds

/-- the same server asked with the rules section only tried -/
def C10_unreal2_exCfgTry : Config := { C06Example.cfg with gather := ⟨.enforce, .try_⟩ }

theorem C10_unreal2_exWf' : wf C10_unreal2_exCfgTry C06Example.st = true :=
  (wf_gather C06Example.cfg _ C06Example.st).trans C10_unreal2_exWf

/-- a failed send at the info unit, a lost reply at the rules unit, a lost reply at the players unit -/
abbrev C10_unreal2_exPlan : Plan := ⟨⟨[true], .valid⟩, ⟨[false], .valid⟩, ⟨[false], .valid⟩⟩

-- (a) every unit recovers from one failure: the plan is in the domain, its script holds 1 + (1 + 2 + 1) + (1 + 2)
-- deliveries and six send flags, the query answers the fault-free response after 2 requests per unit
theorem C10_unreal2_exPlan_facts :
    wfPlan C06Example.cfg C10_unreal2_exPlan = true
    ∧ (faultyScript C06Example.cfg C06Example.st C10_unreal2_exPlan).length = 8
    ∧ faultyFaults C06Example.cfg C10_unreal2_exPlan = [true, false, false, false, false, false]
    ∧ ([true] : List Bool).length ≤ C06Example.cfg.retries
    ∧ (if C06Example.cfg.gather.players = .skip then 0 else ([false] : List Bool).length + 1) = 2 := by decide +kernel

example (port : Nat) :
    (Unreal2.query port C06Example.cfg.gather C06Example.cfg.retries (Net.init
        [.opened (faultyScript C06Example.cfg C06Example.st C10_unreal2_exPlan ++ [])]
        (faultyFaults C06Example.cfg C10_unreal2_exPlan ++ []))).1 = expected C06Example.cfg.answered C06Example.st
    ∧ attemptsOf .players (sentOf (Unreal2.query port C06Example.cfg.gather C06Example.cfg.retries (Net.init
        [.opened (faultyScript C06Example.cfg C06Example.st C10_unreal2_exPlan ++ [])]
        (faultyFaults C06Example.cfg C10_unreal2_exPlan ++ []))).2.log) = 2 := by
  obtain ⟨h1, _, _, _, h5⟩ := C10_unreal2_query_recovers C06Example.cfg C06Example.st C10_unreal2_exWf port [true]
    [false] [false] C10_unreal2_exPlan_facts.2.2.2.1 C10_unreal2_exPlan_facts.2.2.2.1 C10_unreal2_exPlan_facts.2.2.2.1 [] []
    (fun _ _ => rfl)
  refine ⟨h1, ?_⟩
  rw [h5]
  exact C10_unreal2_exPlan_facts.2.2.2.2

-- (b) both attempts of the (enforced) rules unit are lost: PacketReceive, two rules requests, players never asked for
abbrev C10_unreal2_exPlanB : Plan := ⟨⟨[], .valid⟩, ⟨[false, false], .gaveUp⟩, ⟨[], .valid⟩⟩

theorem C10_unreal2_exPlanB_facts :
    wfPlan C06Example.cfg C10_unreal2_exPlanB = true ∧ reached C06Example.cfg C10_unreal2_exPlanB .rules = true
    ∧ toggleOf C06Example.cfg .rules = .enforce := by decide +kernel

example (port : Nat) (restQ : List Delivery) :
    (Unreal2.query port C06Example.cfg.gather C06Example.cfg.retries (Net.init
        [.opened (faultyScript C06Example.cfg C06Example.st C10_unreal2_exPlanB ++ restQ)]
        (faultyFaults C06Example.cfg C10_unreal2_exPlanB ++ []))).1 = .err .packetReceive
    ∧ attemptsOf .players (sentOf (Unreal2.query port C06Example.cfg.gather C06Example.cfg.retries (Net.init
        [.opened (faultyScript C06Example.cfg C06Example.st C10_unreal2_exPlanB ++ restQ)]
        (faultyFaults C06Example.cfg C10_unreal2_exPlanB ++ []))).2.log) = 0 := by
  obtain ⟨h1, _, _, _, h5⟩ := C10_unreal2_query_exhausted C06Example.cfg C06Example.st C10_unreal2_exWf port
    C10_unreal2_exPlanB C10_unreal2_exPlanB_facts.1 .rules C10_unreal2_exPlanB_facts.2.1 C10_unreal2_exPlanB_facts.2.2
    rfl restQ []
  exact ⟨h1, h5 (by decide)⟩

-- (b') the same failure (a lost reply, then a failed send) with the rules section only tried: the response without rules
abbrev C10_unreal2_exPlanT : Plan := ⟨⟨[], .valid⟩, ⟨[false, true], .gaveUp⟩, ⟨[], .valid⟩⟩

theorem C10_unreal2_exPlanT_facts : wfPlan C10_unreal2_exCfgTry C10_unreal2_exPlanT = true := by decide +kernel

example (port : Nat) :
    ∃ r, (Unreal2.query port C10_unreal2_exCfgTry.gather C10_unreal2_exCfgTry.retries (Net.init
        [.opened (faultyScript C10_unreal2_exCfgTry C06Example.st C10_unreal2_exPlanT ++ [])]
        (faultyFaults C10_unreal2_exCfgTry C10_unreal2_exPlanT ++ []))).1 = .ok r
      ∧ r.mutatorsAndRules = .empty :=
  (C10_unreal2_query_rules_tried C10_unreal2_exCfgTry C06Example.st C10_unreal2_exWf' port C10_unreal2_exPlanT
    C10_unreal2_exPlanT_facts rfl rfl (by decide) rfl [] [] (fun _ _ => rfl)).2.1

-- (c) the check's malformed datagram `ff ff` as the first players datagram after a lost attempt; a four-byte datagram
-- and one with the wrong kind byte are malformed too
abbrev C10_unreal2_exPlanM : Plan := ⟨⟨[], .valid⟩, ⟨[], .valid⟩, ⟨[false], .malformed [0xFF, 0xFF]⟩⟩

theorem C10_unreal2_exPlanM_facts :
    wfPlan C06Example.cfg C10_unreal2_exPlanM = true ∧ reached C06Example.cfg C10_unreal2_exPlanM .players = true
    ∧ toggleOf C06Example.cfg .players = .enforce ∧ malformedError [0xFF, 0xFF] = .packetBad
    ∧ malformedAt 2 [0x80, 0, 0, 0] = true ∧ malformedError [0x80, 0, 0, 0] = .packetUnderflow
    ∧ malformedAt 2 [0x80, 0, 0, 0, 1, 5] = true := by decide +kernel

example (port : Nat) :
    (Unreal2.query port C06Example.cfg.gather C06Example.cfg.retries (Net.init
        [.opened (faultyScript C06Example.cfg C06Example.st C10_unreal2_exPlanM ++ [])]
        (faultyFaults C06Example.cfg C10_unreal2_exPlanM ++ []))).1 = .err .packetBad :=
  (C10_unreal2_query_malformed_not_retried C06Example.cfg C06Example.st C10_unreal2_exWf port C10_unreal2_exPlanM
    C10_unreal2_exPlanM_facts.1 .players C10_unreal2_exPlanM_facts.2.1 C10_unreal2_exPlanM_facts.2.2.1 [0xFF, 0xFF] rfl
    [] []).1
