import GdVerif.Lemmas.Jc2m
/-
  C01 (Just Cause 2: Multiplayer) — hostile server responses never crash or hang
  `jc2m::query` / `jc2m::query_with_timeout`.

  MODEL: `GdVerif/Proto/Jc2m.lean` on top of `GdVerif/Proto/Gs3.lean` (single-packet mode), tied to
  games/jc2m and protocols/gamespy/protocols/three by `./check C01` and `./check C07` on every run.
-/
open Gd

/-- For EVERY reply script, port (given or omitted) and retry count the query returns a response or
an error. -/
theorem C01_jc2m_query (port : Option Nat) (retries : Nat) (script : List ConnScript) (faults : List Bool) :
    (Jc2m.query port retries (Net.init script faults)).1 ≠ .crash :=
  (Jc2m.query_safe port retries (Net.init script faults)).1

/-- The player block and the whole post-processing on any bytes; the count field sizes a vector of at
most 65535 entries (it is a `u16`) and is not otherwise used. -/
theorem C01_jc2m_parsers (data : Bytes) (packets : List Bytes) :
    Jc2m.parsePlayers.run data ≠ .crash ∧ Jc2m.buildResponse packets ≠ .crash ∧ Gs3.readSingle.run data ≠ .crash :=
  ⟨Safe.run_ne_crash Jc2m.safe_parsePlayers data, Jc2m.buildResponse_ne packets, Safe.run_ne_crash Gs3.safe_readSingle data⟩

/-- the reservation made from the count field is bounded whatever the reply says -/
theorem C01_jc2m_count_bounded (data : Bytes) (n : Nat) (b : Buf) (h : readUnsigned .big 2 (Buf.new data) = .ok (n, b)) :
    n < 65536 := by
  unfold readUnsigned at h
  split at h
  · cases h
  · cases h
    have := leNat_lt ((Buf.new data).rest.take 2).reverse
    simp only [Endian.decode, beNat_eq_leNat_reverse]
    have hl : ((Buf.new data).rest.take 2).reverse.length ≤ 2 := by simp; omega
    calc leNat ((Buf.new data).rest.take 2).reverse < 256 ^ ((Buf.new data).rest.take 2).reverse.length := this
      _ ≤ 256 ^ 2 := Nat.pow_le_pow_right (by omega) hl
      _ = 65536 := by decide

-- non-vacuity: a hostile script — a valid handshake, then a packet that ends inside the split header
example : (Jc2m.query none 0 (Net.init [.opened [.data [9, 0, 0, 0, 1, 0x30, 0], .data [0, 0, 0, 0, 1, 1, 2, 3]]] [])).1
    = .err .packetBad := by
  decide +kernel
