import GdVerif.Lemmas.Cli
/-
  C19 — The CLI prints a well-formed, faithful document or a clean error.   (PARTIAL)

  What is the tool's own logic and is proved here, for every JSON value: the XML converter only emits
  element names that are XML names, its tags are properly nested, escaped text contains no markup
  and no raw control character; and `main` exits non-zero with a message, without a document, on every
  failure.  `mainOutcome` / `C19_exit_status` are the abstract (five Booleans) of `CliPlan.main` /
  `C19_cli_exit_status` in `C19_cli.lean`.  serde_json, quick-xml's writer (mirrored by `renderEv` /
  `renderDocument`), clap and the resolver are parameters: checked by running the real binary (`props/c19.py`),
  not proved; for bson and base64 / hex, `C19_bson.lean` and `C19_cli.lean` prove decode ∘ encode on mirrors of the crates.
-/
open Gd Gd.Cli
/-- For EVERY JSON value (any keys: spaces, markup, leading digits, control characters, empty): every
element the converter opens, closes or writes empty has a name that is an XML name. -/
theorem C19_xml_element_names_are_names (j : J) : ∀ e ∈ documentEvents j, evNameOk e = true := by
  simp only [documentEvents, List.forall_mem_append, List.forall_mem_singleton]
  exact ⟨⟨by decide, names_json none j⟩, by decide⟩

/-- For EVERY JSON value the document's tags are properly nested: every end tag closes the element
that is open, and nothing is left open at the end. -/
theorem C19_xml_tags_nested (j : J) : nest (documentEvents j) [] = some [] := by
  have := nest_append_start_end dataName none (jsonToXml none j) [] [] (fun st' => nest_json none j _ st')
  simpa [documentEvents, nest] using this

/-- Escaping: for every Unicode scalar value, what is written for it contains no `<`, and no raw
control character except TAB / LF in element text; in an attribute value neither `"` nor TAB / LF either. -/
theorem C19_escape_has_no_markup (isAttr : Bool) (c : Nat) (hc : c < 0x110000) :
    (60 : UInt8) ∉ escapeScalar isAttr c
    ∧ (∀ b ∈ escapeScalar isAttr c, b.toNat < 32 → (isAttr = false ∧ (b.toNat = 9 ∨ b.toNat = 10)))
    ∧ (isAttr = true → (34 : UInt8) ∉ escapeScalar isAttr c) := by
  rcases escapeScalar_cases isAttr c with h | h | ⟨hctl, _, h⟩ | ⟨hlit, ⟨_, h60, _, h34, _⟩, h⟩
  · exact harmless_of_all isAttr _ fun b hb => (namedRef_bytes _ h b hb).1
  · rw [h]
    exact harmless_of_all isAttr _ (by decide)
  · rw [h]
    have hc256 : c < 256 := by have := (isControl_iff c).mp hctl; omega
    exact harmless_of_all isAttr _ fun b hb => (charRef_bytes c hc256 b hb).1
  · -- the character itself: a byte below 0x80 of its encoding is the character
    rw [h]
    have hutf := utf8EncodeChar_bytes c hc
    have hne : ∀ x : UInt8, x.toNat < 128 → c ≠ x.toNat → x ∉ utf8EncodeChar c := fun x hx hcx hm =>
      (hutf x hm).elim (fun h => hcx h.2.symm) (fun h => absurd h (by omega))
    refine ⟨hne 60 (by decide) h60, fun b hb hlt => ?_, fun _ => hne 34 (by decide) h34⟩
    rcases hutf _ hb with ⟨_, hbc⟩ | hbc
    · rcases hlit with ⟨htl, ha⟩ | hctl
      · exact ⟨ha, hbc ▸ htl⟩
      · exact absurd ((isControl_iff c).mpr (by omega)) hctl
    · omega

/-- `main`: every failure — invalid flag, unknown game, unresolvable host, failed query, value that
cannot be serialised — gives a non-zero exit status and a message and prints no document; only
complete success prints a document and exits 0. -/
theorem C19_exit_status (flagsOk gameKnown hostResolves queryOk serialisesOk : Bool) :
    let o := mainOutcome flagsOk gameKnown hostResolves queryOk serialisesOk
    ((flagsOk && gameKnown && hostResolves && queryOk && serialisesOk) = true → o = ⟨0, true, false⟩)
    ∧ ((flagsOk && gameKnown && hostResolves && queryOk && serialisesOk) = false → o.exitCode ≠ 0 ∧ o.document = false ∧ o.message = true) := by
  cases flagsOk <;> cases gameKnown <;> cases hostResolves <;> cases queryOk <;> cases serialisesOk <;> decide

-- non-vacuity: a value with a key that is not an XML name, a control character and markup in text
example : renderDocument (.obj (.cons (asciiBytes "sv tags") (.str [60, 1, 38]) (.cons (asciiBytes "ok") (.num (asciiBytes "5")) .nil)))
    = asciiBytes "<?xml version=\"1.1\" encoding=\"utf-8\"?><data><entry key=\"sv tags\">&lt;&#x1;&amp;</entry><ok>5</ok></data>" := by
  rw [asciiBytes_ofList, asciiBytes_ofList, asciiBytes_ofList, asciiBytes_ofList]
  decide +kernel

