import GdVerif.Gen.Consts
import GdVerif.Lemmas.Consts
import GdVerif.Props.C13
import GdVerif.Proto.Gs1
import GdVerif.Proto.Gs2
import GdVerif.Proto.Gs3
import GdVerif.Proto.Quake
import GdVerif.Proto.Master
/-
  C13 — the size constants of the SOURCE are the ones the MODEL and the classification table use (tie by TRANSLATION).

  Receive-buffer sizes (every `socket.receive(Some(n))` / `None`), the Unreal 2 pre-allocation constants, the Valve
  decompression bound, the HTTP response bound.  `Gd.Gen.Consts.*` is regenerated from the source on every run.
-/
open Gd Gd.Gen Gd.ConstsAux

/-- every receive-buffer size of the source is the model's, and none exceeds a datagram (`C13.maxDatagram`, the bound
under which `C13_single_request_datagram` is stated) -/
theorem C13_consts_receive_sizes :
    [Valve.PACKET_SIZE, Gs1.PACKET_SIZE, Gs2.PACKET_SIZE, Gs3.PACKET_SIZE, Quake.PACKET_SIZE, Unreal2.PACKET_SIZE,
     Mindustry.MAX_BUFFER_SIZE]
      = [Consts.valve_packet_size, Consts.gs1_packet_size, Consts.gs2_packet_size, Consts.gs3_packet_size,
         Consts.quake_packet_size, Consts.unreal2_packet_size, Consts.mindustry_max_buffer_size]
    ∧ ∀ n ∈ [Consts.valve_packet_size, Consts.gs1_packet_size, Consts.gs2_packet_size, Consts.gs3_packet_size,
             Consts.gs3_handshake_receive.getD 0 0, Consts.quake_packet_size, Consts.unreal2_packet_size,
             Consts.mindustry_max_buffer_size, Consts.master_receive_size, Consts.socket_default_packet_size],
        n ≤ C13.maxDatagram := by decide +kernel

/-- Unreal 2: `num_players.unwrap_or(DEFAULT).min(MAXIMUM)` never exceeds the maximum, which is the cap of the table
entry of that site (and of the two `Players::with_capacity` vectors: players, bots = half) -/
theorem C13_consts_unreal2_preallocation (announced : Option Nat) :
    min (announced.getD Consts.unreal2_default_player_preallocation) Consts.unreal2_maximum_player_preallocation
      ≤ Consts.unreal2_maximum_player_preallocation
    ∧ C13.classOf 54424510 = some (.clamped Consts.unreal2_maximum_player_preallocation 128)
    ∧ C13.classOf 1041756046 = some (.param Consts.unreal2_maximum_player_preallocation 128)
    ∧ C13.classOf 3909279960 = some (.param (Consts.unreal2_maximum_player_preallocation / 2) 128) :=
  ⟨Nat.min_le_right _ _, rfl, rfl, rfl⟩

/-- Valve: `decompressed_size.min(MAX_DECOMPRESSED_SIZE) + 1` is the limit the table entries of `get_payload` carry,
and the model's bound -/
theorem C13_consts_valve_max_decompressed :
    Valve.maxDecompressedSize = Consts.valve_max_decompressed_size
    ∧ C13.classOf 2080138757 = some (.drained (Consts.valve_max_decompressed_size + 1))
    ∧ C13.classOf 2449476907 = some (.clamped (Consts.valve_max_decompressed_size + 1) 1) := by decide +kernel

/-- HTTP: `MAX_RESPONSE_LENGTH` (1 GiB) is beyond the allowance of one request, which is why the three sites of
`HttpClient::request` are only acceptable as unreachable from a query -/
theorem C13_consts_http_max_response_length :
    10 * C13.MiB < Consts.http_max_response_length
    ∧ C13.classOf 966780026 = some .unreachable ∧ C13.classOf 717832595 = some .unreachable
    ∧ C13.classOf 1531723834 = some .unreachable := by decide +kernel

example : min ((some 100000).getD Consts.unreal2_default_player_preallocation) Consts.unreal2_maximum_player_preallocation = 50 := by
  rfl
