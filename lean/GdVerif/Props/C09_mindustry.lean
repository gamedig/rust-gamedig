import GdVerif.Lemmas.Mindustry
/-
  C09 — requests are the protocol's and go to the right port: Mindustry.
-/
open Gd Gd.Mindustry

/-- The request is byte for byte the discovery ping of the game's `ArcNetProvider` (`-2, 1`), and the
default port is the game's (`Vars.port` = 6567). -/
theorem C09_mindustry_request_bytes : ping = Spec.pingRequest ∧ DEFAULT_PORT = Spec.defaultPort := by decide

/-- Whatever the server does (any script), every socket the query opens is a UDP socket to the given port,
every datagram it sends goes to that port and is exactly the ping, every receive uses the 500-byte buffer;
nothing else is done to the transport. -/
theorem C09_mindustry_conforms (port retries : Nat) (script : List ConnScript) (faults : List Bool) :
    ∀ e ∈ (query port retries (Net.init script faults)).2.log,
      match e with
      | .opened _ tcp p _ => tcp = false ∧ p = port
      | .send _ p data _ => p = port ∧ data = [0xFE, 0x01]
      | .recv _ size _ => size = some 500 := by
  intro e he
  have := ((logSafe_query port retries).run script faults).2 e he
  cases e with
  | opened c tcp p r => exact this
  | send c p d f => exact this
  | recv c s g => exact this

/-- Against a conforming server exactly one socket is opened and exactly one ping is sent: the log is
`open, send ping, receive` and nothing else. -/
theorem C09_mindustry_exchange (st : Spec.State) (h : Spec.wf st = true) (port retries : Nat) :
    (query port retries (Net.init [.opened [.data (Spec.encode st)]] [])).2.log
      = [.opened 0 false port false, .send 0 port Spec.pingRequest false,
         .recv 0 (some 500) (some (Spec.encode st).length)] := by
  rw [query_script st h port retries]
  rfl
