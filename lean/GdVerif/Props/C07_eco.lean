import GdVerif.Spec.Eco
/-
  C07 — single-game protocols and the HTTP/JSON game map every field: Eco (the pure part).

  MODEL: `GdVerif/Proto/Eco.lean: fromRoot` = `impl From<Root> for Response` (tied to games/eco/types.rs on every run:
         the real `serde_json::from_reader::<Root>` + `Response::from` are run on SPEC-rendered documents and on
         mutations of them, and compared with the model behind a serde_json mirror).
  SPEC:  `GdVerif/Spec/Eco.lean` (the member-name → response-field table).
  `ureq`, the serde derive (member names) and serde_json (text → `Info`) are parameters: nothing below is about them.
-/
open Gd Gd.Eco

/-- Every member of `Info` arrives in the correspondingly named response field — the 37 equations, one per
response field (JSON member names are the doc comments of `Info`'s fields): `GamePort → port`,
`WebPort → query_port`, `DetailedDescription → description_detailed`, `EconomyDesc → description_economy`,
`OnlinePlayers → players_online`, `TotalPlayers → players_maximum`, `OnlinePlayersNames → players` (one player per
name, in order), `Version → game_version`, `JoinUrl → connect`, every other one under its own name. -/
theorem C07_eco_fields (i : Info) :
    (fromRoot i).external = i.external ∧
    (fromRoot i).port = i.gamePort ∧
    (fromRoot i).queryPort = i.webPort ∧
    (fromRoot i).isLan = i.isLan ∧
    (fromRoot i).description = i.description ∧
    (fromRoot i).descriptionDetailed = i.detailedDescription ∧
    (fromRoot i).category = i.category ∧
    (fromRoot i).playersOnline = i.onlinePlayers ∧
    (fromRoot i).playersMaximum = i.totalPlayers ∧
    (fromRoot i).players = i.onlinePlayersNames.map Player.mk ∧
    (fromRoot i).adminOnline = i.adminOnline ∧
    (fromRoot i).timeSinceStart = i.timeSinceStart ∧
    (fromRoot i).timeLeft = i.timeLeft ∧
    (fromRoot i).animals = i.animals ∧
    (fromRoot i).plants = i.plants ∧
    (fromRoot i).laws = i.laws ∧
    (fromRoot i).worldSize = i.worldSize ∧
    (fromRoot i).gameVersion = i.version ∧
    (fromRoot i).descriptionEconomy = i.economyDesc ∧
    (fromRoot i).skillSpecializationSetting = i.skillSpecializationSetting ∧
    (fromRoot i).language = i.language ∧
    (fromRoot i).hasPassword = i.hasPassword ∧
    (fromRoot i).hasMeteor = i.hasMeteor ∧
    (fromRoot i).distributionStationItems = i.distributionStationItems ∧
    (fromRoot i).playtimes = i.playtimes ∧
    (fromRoot i).discordAddress = i.discordAddress ∧
    (fromRoot i).isPaused = i.isPaused ∧
    (fromRoot i).activeAndOnlinePlayers = i.activeAndOnlinePlayers ∧
    (fromRoot i).peakActivePlayers = i.peakActivePlayers ∧
    (fromRoot i).maxActivePlayers = i.maxActivePlayers ∧
    (fromRoot i).shelfLifeMultiplier = i.shelfLifeMultiplier ∧
    (fromRoot i).exhaustionAfterHours = i.exhaustionAfterHours ∧
    (fromRoot i).isLimitingHours = i.isLimitingHours ∧
    (fromRoot i).serverAchievementsDict = i.serverAchievementsDict ∧
    (fromRoot i).relayAddress = i.relayAddress ∧
    (fromRoot i).access = i.access ∧
    (fromRoot i).connect = i.joinUrl :=
  ⟨rfl, rfl, rfl, rfl, rfl, rfl, rfl, rfl, rfl, rfl, rfl, rfl, rfl, rfl, rfl, rfl, rfl, rfl, rfl, rfl, rfl, rfl, rfl, rfl, rfl, rfl, rfl, rfl, rfl, rfl, rfl, rfl, rfl, rfl, rfl, rfl, rfl⟩

/-- The model's map is the SPEC's table, for every state (the doubles as their bit patterns). -/
theorem C07_eco (st : Spec.State) (h : Spec.wf st = true) : fromRoot st.info = Spec.expected st := by
  -- among the conjuncts of `wf` are the four equations `info.<double> = <decimal>.bits`
  simp only [Spec.wf, Bool.and_eq_true, beq_iff_eq] at h
  simp only [fromRoot, Spec.expected, h]

/-- Nothing is lost and nothing is fabricated: the response determines the document's `Info` (the map is
injective), so every response field is a function of the reply alone and no two replies are confused. -/
theorem C07_eco_nothing_fabricated (i j : Info) (h : fromRoot i = fromRoot j) : i = j := by
  have hmap : ∀ a b : List Bytes, a.map Player.mk = b.map Player.mk → a = b := by
    intro a b hab
    have := congrArg (List.map Player.name) hab
    simpa [List.map_map, Function.comp_def] using this
  cases i
  cases j
  simp only [fromRoot, Response.mk.injEq] at h
  -- the players are the eleventh field of the response
  simp only [h, hmap _ _ h.2.2.2.2.2.2.2.2.2.2.1]

/-- The same number of players as names, in the same order. -/
theorem C07_eco_players (i : Info) :
    (fromRoot i).players.length = i.onlinePlayersNames.length
    ∧ (fromRoot i).players.map (·.name) = i.onlinePlayersNames := by
  simp [fromRoot, List.map_map, Function.comp_def]

-- non-vacuity: a concrete state in the SPEC's domain; 3.75 is `400E000000000000`, -0 is `8000000000000000`
example :
    let d : Spec.Decimal := ⟨false, 375, -2⟩
    let z : Spec.Decimal := ⟨true, 0, 0⟩
    let i : Info := ⟨true, 3000, 3001, false, [69], [], [], 5, 100, [[97], [98]], false, d.bits, z.bits, 1, 2, 3, [], [49], [],
      [], [], false, true, [], [], [], false, 0, 0, 4294967295, d.bits, d.bits, false, [([107], [118])], [], [], [117]⟩
    Spec.wf ⟨i, d, z, d, d⟩ = true ∧ d.bits = 0x400E000000000000 ∧ z.bits = 0x8000000000000000
    ∧ d.text = [51, 55, 53, 101, 45, 50]
    ∧ (fromRoot i).port = 3000 ∧ (fromRoot i).players = [⟨[97]⟩, ⟨[98]⟩] ∧ (fromRoot i).connect = [117] := by
  decide

/-- The value of a decimal literal: the nearest double, ties to even — e.g. 2^53 + 1 (a tie) goes to the even
neighbour 2^53, the largest double is reached, one more unit in its 17th digit overflows, half the smallest
subnormal goes to zero and anything above it to the smallest subnormal. -/
theorem C07_eco_nearest_double_examples :
    Spec.nearestDouble 9007199254740993 1 = some 0x4340000000000000
    ∧ Spec.nearestDouble (17976931348623157 * 10 ^ 292) 1 = some 0x7FEFFFFFFFFFFFFF
    ∧ Spec.nearestDouble (18 * 10 ^ 307) 1 = none
    ∧ Spec.nearestDouble 2 (10 ^ 324) = some 0
    ∧ Spec.nearestDouble 25 (10 ^ 325) = some 1
    ∧ Spec.nearestDouble 1 10 = some 0x3FB999999999999A := by
  decide +kernel
