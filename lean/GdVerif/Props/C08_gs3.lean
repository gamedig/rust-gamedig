import GdVerif.Lemmas.Gs3Whole
import GdVerif.Lemmas.Gs3Cut
/-
  C08 (GameSpy 3) — `splitnum` packets: the response does not depend on the order of arrival; a
  packet that arrives twice gives an error or the same response.

  MODEL: the receive loop of `get_server_packets_impl` (repaired tree): `Gs3.recvPackets` (on the
  transport) = `Gs3.feed` (on the packets in arrival order, `recvPackets_result`), with
  `Gs3.accept` storing one packet by its id.
  A response = payloads `ps` (n ≥ 1 of them, none empty) in packets with ids 0 … n-1, exactly the
  one with id n-1 flagged last (`Gs3.frags ps`).  For EVERY n, by an invariant of the loop — no
  enumeration of permutations.
-/
open Gd Gd.Gs3

/-- Any arrival order of the packets of a response gives the payloads in order of their ids —
the same as in-order arrival. -/
theorem C08_gs3_any_order (ps : List Bytes) (hne : ps ≠ []) (hpay : ∀ p ∈ ps, p ≠ []) (arrival : List Frag)
    (h : arrival.Perm (frags ps)) : feed Acc.init (arrival.map .ok) = .ok ps := by
  have hids : (ids arrival).Perm (List.range ps.length) := by
    rw [← ids_frags]; exact h.map _
  rcases feed_frags ps hne hpay arrival [] Acc.init (Rep.init ps) (by simp [ids])
      (fun f hf => (mem_frags ps f).mp (h.subset (by simpa using hf)))
      (fun i hi => by simpa using hids.symm.subset (List.mem_range.mpr hi)) with hok | ⟨_, hdup⟩
  · exact hok
  · exact absurd (hids.symm.nodup List.nodup_range) (by simpa using hdup)

/-- in-order arrival, in particular -/
theorem C08_gs3_in_order (ps : List Bytes) (hne : ps ≠ []) (hpay : ∀ p ∈ ps, p ≠ []) :
    feed Acc.init ((frags ps).map .ok) = .ok ps :=
  C08_gs3_any_order ps hne hpay _ (List.Perm.refl _)

/-- One packet of the response delivered twice (the copy inserted at any position of any arrival
order): the result is an error (`PacketBad`: the copy arrived while the response was incomplete) or
the same response (the copy arrived after the last missing packet and is never read). -/
theorem C08_gs3_duplicate (ps : List Bytes) (hne : ps ≠ []) (hpay : ∀ p ∈ ps, p ≠ []) (before after : List Frag)
    (x : Frag) (h : (before ++ after).Perm (frags ps)) (hx : x ∈ before ++ after) :
    feed Acc.init ((before ++ x :: after).map .ok) = .ok ps
    ∨ feed Acc.init ((before ++ x :: after).map .ok) = .err .packetBad := by
  have hmem : ∀ f, f ∈ before ++ x :: after → f ∈ frags ps := by
    intro f hf
    rcases List.mem_append.mp hf with hf | hf
    · exact h.subset (List.mem_append_left _ hf)
    · rcases List.mem_cons.mp hf with rfl | hf
      · exact h.subset hx
      · exact h.subset (List.mem_append_right _ hf)
  have hids : (ids (before ++ after)).Perm (List.range ps.length) := by
    rw [← ids_frags]; exact h.map _
  rcases feed_frags ps hne hpay (before ++ x :: after) [] Acc.init (Rep.init ps) (by simp [ids])
      (fun f hf => (mem_frags ps f).mp (hmem f (by simpa using hf)))
      (fun i hi => by
        have := hids.symm.subset (List.mem_range.mpr hi)
        simp only [ids, List.map_append, List.mem_append, List.nil_append, List.map_cons, List.mem_cons] at this ⊢
        rcases this with h1 | h1
        · exact Or.inl h1
        · exact Or.inr (Or.inr h1)) with hok | ⟨herr, _⟩
  · exact Or.inl hok
  · exact Or.inr herr

/-- On the wire: the receive loop on a UDP socket whose queue holds the SPEC's data packets of a
well-formed reply in ANY order returns the SPEC's payloads, as it does for in-order arrival. -/
theorem C08_gs3_wire_any_order (cfg : Spec.Config) (st : Spec.State) (h : Spec.wf cfg st = true)
    (arrival : List Bytes) (harr : arrival.Perm (Spec.dataPackets cfg st))
    (s : Sock) (hudp : s.tcp = false) (w : Net) (hq : w.conns.getD s.id [] = arrival.map .data) :
    (recvAll s w).1 = .ok (Spec.payloads cfg st) := by
  obtain ⟨hcount, hpay, hsize, _, _⟩ := wf_wire cfg st h
  unfold recvAll
  have hlen : (w.conns.getD s.id []).length = arrival.length := by rw [hq]; simp
  rw [recvPackets_result s hudp arrival _ _ w hq (by simp only [queued]; omega)]
  exact feed_arrival cfg st hcount hpay hsize arrival harr

/-- Lifted to the whole query: against the SPEC's server for a well-formed state, every arrival order
of the data packets gives the same result as in-order arrival (namely the expected response). -/
theorem C08_gs3_query_any_order (cfg : Spec.Config) (st : Spec.State) (h : Spec.wf cfg st = true) (port retries : Nat)
    (arrival : List Bytes) (harr : arrival.Perm (Spec.dataPackets cfg st)) :
    (query port retries (Net.init [.opened ((Spec.handshakeReply cfg.challenge :: arrival).map .data)] [])).1
      = (query port retries (Net.init [.opened ((Spec.script cfg st).map .data)] [])).1 := by
  rw [query_eq, (exchange_spec cfg st h port retries buildResponse arrival harr).1]
  exact (exchange_spec cfg st h port retries buildResponse _ (List.Perm.refl _)).1.symm

/-- and likewise `query_vars` -/
theorem C08_gs3_query_vars_any_order (cfg : Spec.Config) (st : Spec.State) (h : Spec.wf cfg st = true) (port retries : Nat)
    (arrival : List Bytes) (harr : arrival.Perm (Spec.dataPackets cfg st)) :
    (queryVars port retries (Net.init [.opened ((Spec.handshakeReply cfg.challenge :: arrival).map .data)] [])).1
      = (queryVars port retries (Net.init [.opened ((Spec.script cfg st).map .data)] [])).1 := by
  rw [queryVars_eq, (exchange_spec cfg st h port retries buildVars arrival harr).1]
  exact (exchange_spec cfg st h port retries buildVars _ (List.Perm.refl _)).1.symm

-- non-vacuity: three packets arriving as 2 (flagged last), 0, 1
example : feed Acc.init ([⟨2, true, [7]⟩, ⟨0, false, [5]⟩, ⟨1, false, [6]⟩].map .ok) = .ok [[5], [6], [7]] := by
  decide +kernel
-- and the same with packet 0 delivered twice before the response is complete: an error
example : feed Acc.init ([⟨2, true, [7]⟩, ⟨0, false, [5]⟩, ⟨0, false, [5]⟩, ⟨1, false, [6]⟩].map .ok) = .err .packetBad := by
  decide +kernel

/-! ### replies whose packets may end inside value lists (`Spec.ConfigC`, see `Props/C04_gs3.lean`)

`C08_gs3_any_order` / `C08_gs3_duplicate` speak about ANY non-empty payloads, so they cover such
packets as they are.  The statements against the SPEC's server, for `Spec.ConfigC` / `Spec.wfC` — any
allowed extra sections, any packets ending inside the value list of their last section; `Spec.Config` /
`Spec.wf` above is the case `cfg.toX.toC` (`C04_gs3_cut_conservative`, `C04_gs3_extra_conservative`).
Here the order matters for more than the packet numbers: each packet is read from its own buffer, in
the order of the ids — and the result is still that of in-order arrival. -/

theorem C08_gs3_wire_any_order_cut (cfg : Spec.ConfigC) (st : Spec.State) (h : Spec.wfC cfg st = true)
    (arrival : List Bytes) (harr : arrival.Perm (Spec.dataPacketsC cfg st))
    (s : Sock) (hudp : s.tcp = false) (w : Net) (hq : w.conns.getD s.id [] = arrival.map .data) :
    (recvAll s w).1 = .ok (Spec.payloadsC cfg st) := by
  obtain ⟨hcount, hpay, hsize, _, _⟩ := wfC_wire cfg st h
  unfold recvAll
  have hlen : (w.conns.getD s.id []).length = arrival.length := by rw [hq]; simp
  rw [recvPackets_result s hudp arrival _ _ w hq (by simp only [queued]; omega)]
  exact feed_arrival_ps cfg.unknown (Spec.payloadsC cfg st) (payloadsC_ne_nil cfg st) hcount hpay hsize arrival harr

theorem C08_gs3_query_any_order_cut (cfg : Spec.ConfigC) (st : Spec.State) (h : Spec.wfC cfg st = true) (port retries : Nat)
    (arrival : List Bytes) (harr : arrival.Perm (Spec.dataPacketsC cfg st)) :
    (query port retries (Net.init [.opened ((Spec.handshakeReply cfg.challenge :: arrival).map .data)] [])).1
      = (query port retries (Net.init [.opened ((Spec.scriptC cfg st).map .data)] [])).1 := by
  rw [query_eq, (exchangeC_spec cfg st h port retries buildResponse arrival harr).1]
  exact (exchangeC_spec cfg st h port retries buildResponse _ (List.Perm.refl _)).1.symm

theorem C08_gs3_query_vars_any_order_cut (cfg : Spec.ConfigC) (st : Spec.State) (h : Spec.wfC cfg st = true) (port retries : Nat)
    (arrival : List Bytes) (harr : arrival.Perm (Spec.dataPacketsC cfg st)) :
    (queryVars port retries (Net.init [.opened ((Spec.handshakeReply cfg.challenge :: arrival).map .data)] [])).1
      = (queryVars port retries (Net.init [.opened ((Spec.scriptC cfg st).map .data)] [])).1 := by
  rw [queryVars_eq, (exchangeC_spec cfg st h port retries buildVars arrival harr).1]
  exact (exchangeC_spec cfg st h port retries buildVars _ (List.Perm.refl _)).1.symm

-- non-vacuity: three packets, the first two ending inside the value list of `a_` (no closing 00), arriving as 2, 0, 1
example : feed Acc.init ([⟨2, true, [97, 95, 0, 2, 55, 0, 0]⟩, ⟨0, false, [97, 95, 0, 0, 53, 0]⟩, ⟨1, false, [97, 95, 0, 1, 54, 0]⟩].map .ok)
    = .ok [[97, 95, 0, 0, 53, 0], [97, 95, 0, 1, 54, 0], [97, 95, 0, 2, 55, 0, 0]] := by
  decide +kernel
