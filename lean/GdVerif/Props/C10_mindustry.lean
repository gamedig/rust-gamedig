import GdVerif.Lemmas.Mindustry
/-
  C10 — retries: Mindustry.  The retried unit is the whole exchange (new socket, ping, one datagram, decode);
  the combinator theorems of `Props/C10.lean` (`C10_at_most_r_plus_one`, `C10_first_non_timeout_decides`,
  `C10_all_timeouts`) are generic in the unit and apply to it verbatim.
-/
open Gd

/-- `mindustry::query` is `retry_on_timeout(retries, attempt)`. -/
theorem C10_mindustry_unit (port retries : Nat) :
    Mindustry.query port retries = retryOnTimeout retries (Mindustry.attempt port) := rfl

/-- On the wire: never more than `retries + 1` pings, for any script. -/
theorem C10_mindustry_attempts_on_wire (port retries : Nat) (script : List ConnScript) (faults : List Bool) :
    countSends (Mindustry.query port retries (Net.init script faults)).2.log ≤ retries + 1 :=
  (Mindustry.sendBound_query port retries).run script faults

-- non-vacuity: two silent attempts (each on its own socket), then an answer on the third socket, r = 2
example :
    (Mindustry.query 6567 2 (Net.init [.opened [.silence], .opened [], .opened [.data [0, 0, 0, 0, 0, 1, 0, 0, 0, 2, 0, 0, 0, 3, 0, 3, 0, 0, 0, 9, 0]]] [])).1
      = .ok ⟨[], [], 1, 2, 3, [], .pvp, 9, [], none⟩ := by
  decide +kernel
