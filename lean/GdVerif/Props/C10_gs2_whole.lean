import GdVerif.Lemmas.Gs2Faults
import GdVerif.Props.C04_gs2
/-
  C10 on WHOLE GameSpy 2 queries with faults injected.

  `Props/C10.lean` proves C10 for the combinator, `Props/C10_gs2.lean` names the retried unit (the one request/response
  exchange including the header check; GameSpy 2 has no handshake).  Here the property is proved end to end for
  `Gs2.query` against the SPEC's server (`Spec/Gs2.lean`), on the scripts `props/families/gs2.py: c10_build` injects: a
  plan (`Faults.Plan1`, `Spec/Faults.lean`) lists the attempts that end in a timeout-class failure — `false`: the request
  goes out and the reply is lost, `true`: the request cannot be sent — and then the datagram that answers, if any.
  `Plan1.deliveries` / `Plan1.faults` are the two arguments of `Net.init`; whatever follows them (`restQ`, `restF`) is
  arbitrary.  Quantified: state and table style in the SPEC's domain, port, retry count, the failures.
-/
open Gd Gd.Gs Gd.Gs2 Gd.Gs2.Spec Gd.Faults

/-- THE GENERAL STATEMENT: for every plan in C10's domain (`Plan1.wf`: an answered unit had at most `retries` failures
before, a unit given up exactly `retries + 1`; the answer fits the 2048-byte receive buffer) whose answer, if rejected
by the header check, is rejected with an error that is not a timeout, the query's result is the plan's outcome — header
check and decoder applied to the answer, or the last failure's error — and it sent the request exactly once per attempt
of the plan. -/
theorem C10_gs2_query_faulty (port retries : Nat) (p : Plan1) (hp : p.wf retries 2048 = true)
    (hcheck : ∀ d e, p.answer = some d → headerCheck d = .err e → e.isTimeout = false)
    (restQ : List Delivery) (restF : List Bool) :
    (Gs2.query port retries (Net.init [.opened (p.deliveries ++ restQ)] (p.faults ++ restF))).1
      = (p.outcome headerCheck >>= decode)
    ∧ sentOf (Gs2.query port retries (Net.init [.opened (p.deliveries ++ restQ)] (p.faults ++ restF))).2.log
      = p.sends Gs2.request := by
  rw [query_exchange1]
  exact query1_plan port retries request PACKET_SIZE headerCheck decode p hp hcheck restQ restF

/-- (a) RECOVERY.  `fails` (any number ≤ `retries`, each a lost reply or a failed send) precede the server's reply: the
query returns exactly `Spec.expected st` — by `C04_gs2_query` the result with no faults —, and the request was sent
`fails.length + 1` times. -/
theorem C10_gs2_query_recovers (y : Style) (st : State) (hw : wf y st = true) (port retries : Nat)
    (fails : List Bool) (hk : fails.length ≤ retries) (restQ : List Delivery) (restF : List Bool) :
    let p := recovering y st fails
    let out := Gs2.query port retries (Net.init [.opened (p.deliveries ++ restQ)] (p.faults ++ restF))
    out.1 = .ok (expected st)
    ∧ sentOf out.2.log = fails.map (fun f => (Gs2.request, f)) ++ [(Gs2.request, false)]
    ∧ (sentOf out.2.log).length = fails.length + 1 := by
  intro p out
  have hW := Wf.of_wf hw
  have hp : p.wf retries 2048 = true := by
    simp [p, recovering, Plan1.wf, hk, hW.size]
  obtain ⟨h1, h2⟩ := C10_gs2_query_faulty port retries p hp
    (fun d e hd he => by
      have : d = reply y st := by simpa [p, recovering] using hd.symm
      subst this
      rw [headerCheck_reply] at he
      cases he) restQ restF
  have ho : (p.outcome headerCheck >>= decode) = .ok (expected st) := by
    simp only [p, recovering, Plan1.outcome, headerCheck_reply, Res.bind_ok]
    exact decode_reply hW
  refine ⟨h1.trans ho, h2, ?_⟩
  show (sentOf out.2.log).length = _
  rw [show sentOf out.2.log = _ from h2]
  simp [p, recovering, Plan1.sends]

/-- (b) EXHAUSTION.  All `retries + 1` attempts end in a timeout-class failure: the query fails with the last attempt's
error — `PacketReceive`, or `PacketSend` when that attempt was a failed send (`C10_gs2_last_error`) — after exactly
`retries + 1` requests, whatever the script still holds. -/
theorem C10_gs2_query_exhausted (port retries : Nat) (fails : List Bool)
    (hk : fails.length = retries + 1) (restQ : List Delivery) (restF : List Bool) :
    let p : Plan1 := ⟨fails, none⟩
    let out := Gs2.query port retries (Net.init [.opened (p.deliveries ++ restQ)] (p.faults ++ restF))
    out.1 = .err (lastError attemptError fails)
    ∧ (out.1 = .err .packetReceive ∨ out.1 = .err .packetSend)
    ∧ sentOf out.2.log = fails.map (fun f => (Gs2.request, f))
    ∧ (sentOf out.2.log).length = retries + 1 := by
  intro p out
  obtain ⟨h1, h2⟩ := C10_gs2_query_faulty port retries p (by simp [p, Plan1.wf, hk])
    (fun d e hd _ => by simp [p] at hd) restQ restF
  have h1' : out.1 = .err (lastError attemptError fails) := h1
  have h2' : sentOf out.2.log = fails.map (fun f => (Gs2.request, f)) := by
    rw [show sentOf out.2.log = _ from h2]; simp [p, Plan1.sends]
  refine ⟨h1', ?_, h2', by rw [h2', List.length_map, hk]⟩
  rw [h1']
  obtain ⟨init, f, rfl⟩ : ∃ init f, fails = init ++ [f] := by
    cases hne : fails.reverse with
    | nil => simp at hne; subst hne; simp at hk
    | cons f r => exact ⟨r.reverse, f, by rw [← List.reverse_reverse fails, hne]; simp⟩
  rw [lastError_attempt]
  cases f <;> simp

theorem C10_gs2_last_error (fails : List Bool) (f : Bool) :
    lastError attemptError (fails ++ [f]) = (if f then .packetSend else .packetReceive) :=
  lastError_attempt fails f

/-- (c) A MALFORMED REPLY IS NOT RETRIED.  After any number ≤ `retries` of timed-out attempts the client receives a
datagram the header check rejects — ANY datagram that does not start with `00` or is shorter than the 5-byte header
(`Spec.malformed`; within the receive buffer).  Whatever `retries` is, the query fails at once with `PacketBad` /
`PacketUnderflow` (not a timeout-class error), and no further request is sent: `fails.length + 1` in all. -/
theorem C10_gs2_query_malformed_not_retried (port retries : Nat) (fails : List Bool)
    (hk : fails.length ≤ retries) (m : Bytes) (hm : malformed m = true) (hl : m.length ≤ 2048)
    (restQ : List Delivery) (restF : List Bool) :
    let p : Plan1 := ⟨fails, some m⟩
    let out := Gs2.query port retries (Net.init [.opened (p.deliveries ++ restQ)] (p.faults ++ restF))
    out.1 = .err (malformedError m)
    ∧ (malformedError m).isTimeout = false
    ∧ sentOf out.2.log = fails.map (fun f => (Gs2.request, f)) ++ [(Gs2.request, false)]
    ∧ (sentOf out.2.log).length = fails.length + 1 := by
  intro p out
  obtain ⟨h1, h2⟩ := C10_gs2_query_faulty port retries p (by simp [p, Plan1.wf, hk, hl])
    (fun d e hd he => by
      have : d = m := by simpa [p] using hd.symm
      subst this
      rw [headerCheck_malformed d hm] at he
      cases he
      exact malformedError_not_timeout d) restQ restF
  have h1' : out.1 = .err (malformedError m) := by
    rw [show out.1 = _ from h1]
    simp [p, Plan1.outcome, headerCheck_malformed m hm]
  have h2' : sentOf out.2.log = fails.map (fun f => (Gs2.request, f)) ++ [(Gs2.request, false)] := by
    rw [show sentOf out.2.log = _ from h2]; simp [p, Plan1.sends]
  exact ⟨h1', malformedError_not_timeout m, h2', by rw [h2']; simp⟩

-- non-vacuity, on the servers of `Props/C04_gs2.lean`
-- (a) a failed send and a lost reply before the reply: the state, 3 requests
example (port : Nat) :
    (recovering C04_gs2_exStyle C04_gs2_exState2 [true, false]).deliveries.length = 2
    ∧ (recovering C04_gs2_exStyle C04_gs2_exState2 [true, false]).faults = [true, false, false]
    ∧ (Gs2.query port 2 (Net.init [.opened ((recovering C04_gs2_exStyle C04_gs2_exState2 [true, false]).deliveries ++ [])]
        ((recovering C04_gs2_exStyle C04_gs2_exState2 [true, false]).faults ++ []))).1 = .ok (expected C04_gs2_exState2)
    ∧ (sentOf (Gs2.query port 2 (Net.init [.opened ((recovering C04_gs2_exStyle C04_gs2_exState2 [true, false]).deliveries ++ [])]
        ((recovering C04_gs2_exStyle C04_gs2_exState2 [true, false]).faults ++ []))).2.log).length = 3 := by
  have h := C10_gs2_query_recovers C04_gs2_exStyle C04_gs2_exState2 C04_gs2_ex_wf.2 port 2 [true, false] (by decide)
    [] []
  exact ⟨rfl, rfl, h.1, h.2.2⟩

-- (b) three lost replies: PacketReceive after 3 requests, whatever is still queued
example (port : Nat) (restQ : List Delivery) :
    (Gs2.query port 2 (Net.init [.opened ((Plan1.mk [false, false, false] none).deliveries ++ restQ)]
      ((Plan1.mk [false, false, false] none).faults ++ []))).1 = .err .packetReceive :=
  (C10_gs2_query_exhausted port 2 [false, false, false] rfl restQ []).1

-- (c) retries = 4: the check's malformed datagram `09 00 00 00 01` (wrong first byte) and a 3-byte one
example (port : Nat) :
    (Gs2.query port 4 (Net.init [.opened ((Plan1.mk [true] (some [9, 0, 0, 0, 1])).deliveries ++ [])]
      ((Plan1.mk [true] (some [9, 0, 0, 0, 1])).faults ++ []))).1 = .err .packetBad
    ∧ malformed [0, 0, 0] = true ∧ malformedError [0, 0, 0] = .packetUnderflow :=
  ⟨(C10_gs2_query_malformed_not_retried port 4 [true] (by decide) [9, 0, 0, 0, 1] (by decide) (by decide) [] []).1,
    by decide, by decide⟩
