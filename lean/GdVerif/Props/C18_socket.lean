import GdVerif.Lemmas.Socket
import GdVerif.Props.C18
/-
  C18 — socket.rs inside the model: the two `unwrap`s of `apply_timeout` are the only panics of socket setup, and no
  accepted settings value reaches them; the buffers of `receive` panic only for sizes from `isize::MAX` on.
-/
open Gd Gd.SockRs Gd.Settings

/-- what `TimeoutSettings::new` accepts has no zero read / write duration (and neither have the defaults) -/
theorem C18_socket_accepted_nonzero (t : Option Timeout)
    (h : t = none ∨ ∃ t' r w c n, t = some t' ∧ Settings.new r w c n = .ok t') :
    zeroOpt (readAndWriteOrDefaults t).1 = false ∧ zeroOpt (readAndWriteOrDefaults t).2 = false := by
  rcases h with rfl | ⟨t', r, w, c, n, rfl, hn⟩
  · exact ⟨rfl, rfl⟩
  · -- the settings' own model of `apply_timeout` panics iff one of the two is zero, and does not on `t'`
    have := (C18_accepted_cannot_panic t' (Or.inl ⟨r, w, c, n, hn⟩)).1
    simp only [Settings.applyTimeout, Option.getD_some] at this
    split at this
    · cases this
    · next hz => exact (by simpa using hz : zeroOpt t'.read = false ∧ zeroOpt t'.write = false)

/-- For every kind of socket, every remote address, every behaviour of the system that keeps std's contract for the
setters ("an Err is returned if the zero Duration is passed", nothing else), every settings value `TimeoutSettings::new`
accepts — nanoseconds, `u64::MAX` seconds, `None` — or no settings at all, and every sequence of sends and receives with
buffer sizes below `isize::MAX`: nothing panics.  `new` returns `Ok` or the bind / connect error, every operation a
value or an error. -/
theorem C18_socket_accepted_no_panic (k : Kind) (os : Os) (hos : SettersFailOnlyOnZero os) (remote : Addr)
    (t : Option Timeout) (ht : t = none ∨ ∃ t' r w c n, t = some t' ∧ Settings.new r w c n = .ok t')
    (ops : List Op) (hops : ∀ op ∈ ops, op.sizeOk) :
    (session k os remote t ops).1 ≠ .crash ∧ ∀ r ∈ (session k os remote t ops).2.1, r ≠ .crash := by
  obtain ⟨hr, hw⟩ := C18_socket_accepted_nonzero t ht
  refine ⟨?_, ?_⟩
  · -- `new` panics only when a setter is answered `Err`
    rw [session_fst]
    rcases sockNew_cases k os remote t [] with ⟨e, he⟩ | ⟨⟨e, he⟩, _⟩ | ⟨⟨e, he⟩, _⟩ | he
    · rw [he]; simp
    · have := hos.1 _ _ _ he; rw [hr] at this; cases this
    · have := hos.2 _ _ _ he; rw [hw] at this; cases this
    · rw [he]; simp
  · rcases session_cases k os remote t ops with ⟨r, h, _, hs, _⟩ | hs <;> rw [hs]
    · simp
    · exact (runOps_sent k os remote ops _ hops).2

/-- the hypotheses are satisfiable on a non-trivial instance: nanosecond and `u64::MAX`-second durations, a failing send,
a truncated datagram -/
example : (session .udp ⟨fun _ _ => .ok (), fun _ _ _ => .ok (), fun _ d => if zeroOpt d then .error .invalidInput else .ok (),
    fun _ d => if zeroOpt d then .error .invalidInput else .ok (), fun _ _ _ => .error .networkUnreachable,
    fun _ _ => .ok ([1, 2, 3], .v4 127 0 0 1 9), fun _ _ => .ok 0, fun _ => .closed, fun _ _ => 0⟩ (.v4 127 0 0 1 27015)
    (some ⟨none, some ⟨0, 1⟩, some ⟨18446744073709551615, 999999999⟩, 18446744073709551615⟩) [.send [7], .receive (some 2)]).2.1
      = [.err .packetSend, .ok [1, 2]] := by decide +kernel

/-- The validation is what keeps the `unwrap`s from firing: on a system that refuses a zero duration (as std does), a
zero read or write duration — which `TimeoutSettings::new` rejects — would panic inside `new`. -/
theorem C18_socket_zero_would_panic (k : Kind) (os : Os) (remote : Addr) (t : Timeout)
    (hos : (∀ h d, zeroOpt d = true → ∃ e, os.setRead h d = .error e) ∧ (∀ h d, zeroOpt d = true → ∃ e, os.setWrite h d = .error e))
    (hopen : os.bind [] (localFor remote) = .ok () ∧ os.connect [] remote t.connect = .ok ())
    (hz : zeroOpt t.read = true ∨ zeroOpt t.write = true) :
    (session k os remote (some t) []).1 = .crash := by
  have happ : ∀ h, (SockRs.applyTimeout os (some t) h).1 = .crash := by
    intro h
    unfold SockRs.applyTimeout
    simp only [readAndWriteOrDefaults]
    cases h1 : os.setRead h t.read with
    | error e => simp
    | ok u =>
      rcases hz with hz | hz
      · obtain ⟨e, he⟩ := hos.1 h _ hz; rw [he] at h1; cases h1
      · obtain ⟨e, he⟩ := hos.2 (h ++ [.setReadTimeout t.read]) _ hz; simp [he]
  have hnew : (sockNew k os remote (some t) []).1 = .crash := by
    cases k with
    | udp => simp only [sockNew, udpNew, hopen.1]; exact happ _
    | tcp =>
      have : connectOrDefault (some t) = t.connect := rfl
      simp only [sockNew, tcpNew, this, hopen.2]; exact happ _
  rw [session_fst]
  exact hnew

example : (session .udp quietOs (.v4 127 0 0 1 27015) (some ⟨none, some ⟨0, 0⟩, none, 0⟩) []).1 = .crash := by decide +kernel

/-- A zero CONNECT duration — also rejected by the constructor — would not even panic: `connect_timeout` answers it with an
error value, which is `SocketConnect`. -/
theorem C18_socket_connect_failure_is_an_error (os : Os) (remote : Addr) (t : Option Timeout) (e : IoKind)
    (h : os.connect [] remote (connectOrDefault t) = .error e) :
    (session .tcp os remote t []).1 = .err .socketConnect := by
  simp [session, sockNew, tcpNew, h]

/-- Buffer sizes: the only other panic of the file is the capacity overflow of `vec![0; size]` / `Vec::with_capacity(size)`
from `isize::MAX + 1` on; every size below is fine (the protocols pass constants: 16 … 6144, or nothing = 1024). -/
theorem C18_socket_buffer_sizes (k : Kind) (os : Os) (remote : Addr) (size : Option Nat) (h : List Call) :
    (step k os remote (.receive size) h).1 = .crash ↔ 2 ^ 63 ≤ size.getD 1024 := by
  constructor
  · intro hc
    by_cases hs : size.getD 1024 < 2 ^ 63
    · exact absurd hc (step_not_crash k os remote (.receive size) h hs)
    · omega
  · intro hs
    rw [step_receive_overflow k os remote size h hs]

example : (step .udp quietOs (.v4 127 0 0 1 1) (.receive (some (2 ^ 63))) []).1 = .crash := by decide +kernel
example : (step .tcp quietOs (.v4 127 0 0 1 1) (.receive none) []) = (.err .packetReceive, [.read 1]) := by decide +kernel
