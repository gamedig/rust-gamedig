import GdVerif.Lemmas.McUnits
/-
  C10 (Minecraft) — retries.  The combinator theorems are in Props/C10.lean (`retryOnTimeout`: at most r+1
  attempts, only after timeout-class errors, first non-timeout attempt decides).  Here: every Minecraft
  client routes its WHOLE exchange through that combinator (the units), what one attempt of each unit
  puts on the wire, and that an attempt ending in a malformed reply is not repeated.
-/
open Gd Gd.Mc Gd.Mc.Spec

/-- Java: handshake + status request + ping + receive + decode is ONE retried unit on ONE socket. -/
theorem C10_minecraft_java_unit (ext : Ext) (port : Nat) (rs : RequestSettings) (r : Nat) :
    queryJava ext port rs r = (openSock true port >>= fun s => retryOnTimeout r (javaGetInfoImpl ext s rs)) := rfl

/-- Bedrock: ping + receive + decode is one retried unit. -/
theorem C10_minecraft_bedrock_unit (port r : Nat) :
    queryBedrock port r = (openSock false port >>= fun s => retryOnTimeout r (bedrockGetInfoImpl s)) := rfl

/-- Legacy (each of the three): ping + receive + decode is one retried unit. -/
theorem C10_minecraft_legacy_unit (g : LegacyGroup) (port r : Nat) :
    queryLegacySpecific g port r = (openSock true port >>= fun s => retryOnTimeout r (legacyGetInfoImpl g s)) := rfl

/-- A Java attempt on which nothing arrives has sent all three packets again and ends in the timeout-class error
`PacketReceive` — so it is retried, and each retry re-sends the handshake too. -/
theorem C10_minecraft_java_attempt_timeout (ext : Ext) (rs : RequestSettings) (port : Nat) (hh : rs.hostname.length < 2 ^ 31)
    (w0 : Net) (rest : List ConnScript) (q : List Delivery) (evs : List Ev) :
    javaGetInfoImpl ext ⟨w0.conns.length, port, true⟩ rs (own w0 rest (.silence :: q) evs)
      = (.err .packetReceive, own w0 rest q (evs ++ sendEvs ⟨w0.conns.length, port, true⟩ (javaRequests rs port)
          ++ [.recv w0.conns.length none none])) := by
  have := (behaves_java ext ⟨w0.conns.length, port, true⟩ rs w0 rfl rest _ (javaHandshakePayload_ok rs port hh)).silence q evs
  rw [javaReqs_eq rs port hh] at this
  exact this

/-- A reply that does not decode (any error that is not timeout-class: wrong packet id, bad JSON, wrong length, …) ends
the unit at once with that error: the malformed reply is never retried. -/
theorem C10_minecraft_malformed_not_retried {α : Type} (tcp : Bool) (port r : Nat) (f : Sock → Q α) (reqs : List Bytes)
    (dec : Bytes → Res α) (w0 : Net) (d : Bytes) (q : List Delivery) (rest : List ConnScript) (k : ErrKind)
    (hb : Behaves (f ⟨w0.conns.length, port, tcp⟩) ⟨w0.conns.length, port, tcp⟩ w0 rest reqs dec)
    (hp : w0.pending = .opened (.data d :: q) :: rest) (hf : w0.faults = [])
    (hdec : dec (if tcp then d else d.take 1024) = .err k) (hk : k.isTimeout = false) :
    (openSock tcp port >>= fun s => retryOnTimeout r (f s)) w0
      = (.err k, own w0 rest q ([.opened w0.conns.length tcp port false] ++ sendEvs ⟨w0.conns.length, port, tcp⟩ reqs
          ++ [.recv w0.conns.length none (some (if tcp then d else d.take 1024).length)])) := by
  rw [Q.bind_apply, openSock_opened tcp port w0 _ rest hp hf]
  simp only
  have := hb.data d q [.opened w0.conns.length tcp port false]
  simp only [hdec] at this
  exact retryOnTimeout_err this hk r

/-- the three attempts have the shape `C10_minecraft_malformed_not_retried` asks for -/
theorem C10_minecraft_attempts_behave (ext : Ext) (rs : RequestSettings) (port : Nat) (hh : rs.hostname.length < 2 ^ 31)
    (g : LegacyGroup) (w0 : Net) (rest : List ConnScript) :
    Behaves (javaGetInfoImpl ext ⟨w0.conns.length, port, true⟩ rs) ⟨w0.conns.length, port, true⟩ w0 rest (javaRequests rs port) (javaDec ext)
    ∧ Behaves (bedrockGetInfoImpl ⟨w0.conns.length, port, false⟩) ⟨w0.conns.length, port, false⟩ w0 rest [bedrockRequest] bedrockParse.run
    ∧ Behaves (legacyGetInfoImpl g ⟨w0.conns.length, port, true⟩) ⟨w0.conns.length, port, true⟩ w0 rest [legacyRequest g]
        (fun d => (legacyParse g d.length).run d) := by
  refine ⟨?_, behaves_bedrock _ w0 rfl rest, behaves_legacy g _ w0 rfl rest⟩
  have := behaves_java ext ⟨w0.conns.length, port, true⟩ rs w0 rfl rest _ (javaHandshakePayload_ok rs port hh)
  rwa [javaReqs_eq rs port hh] at this

-- non-vacuity: two silent reads, then a malformed stream, retries = 3: three attempts, the third decides
example : (queryLegacySpecific .v1_4 25565 3 (Net.init [.opened [.silence, .silence, .data [0x00]]] [])).1 = .err .protocolFormat
    ∧ ((queryLegacySpecific .v1_4 25565 3 (Net.init [.opened [.silence, .silence, .data [0x00]]] [])).2.log.filter
        (fun e => match e with | .send _ _ _ _ => true | _ => false)).length = 3 := by
  decide
