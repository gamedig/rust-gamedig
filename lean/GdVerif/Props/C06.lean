import GdVerif.Lemmas.Unreal2Faults
/-
  C06 — Unreal 2 replies decode strings and lists without loss or addition.

  MODEL: `GdVerif/Proto/Unreal2.lean` (the repaired `protocols/unreal2`, tied to the code by
         `props/c06.py` on every run: families `unreal2` — whole exchanges — and `u2str` — the string
         decoder alone, every length byte 0–255).
  SPEC:  `GdVerif/Spec/Unreal2.lean` (encoders and the expected response, written from the format as
         node-gamedig's `protocols/unreal2.js` reads it).
-/
open Gd Gd.Unreal2 Gd.Unreal2.Spec

/-! ### strings -/

/-- The string codec, for EVERY string of the format's domain — every length 0–127 the length byte
can announce, in both encodings, with or without the terminating NUL, with or without the stray
`0x01`, any colour escapes (components of any value, 27 included) and control characters anywhere —
and whatever follows the string in the packet: the reader returns exactly the SPEC's text (the
characters sent minus colour escapes, minus control characters `0x01–0x1A`, minus the terminating
NUL, and nothing else: the length byte is not text), and leaves the cursor exactly behind the
string. -/
theorem C06_string (s : UStr) (h : wfStr s = true) (post : Bytes) :
    ∃ b, readU2Str (Buf.new (encStr s ++ post)) = .ok (s.text, b)
      ∧ b.pos = (encStr s).length ∧ b.rest = post ∧ b.data = encStr s ++ post := by
  obtain ⟨b, h1, h2, h3⟩ := decodes_u2Str s h (Buf.new (encStr s ++ post)) post (by simp)
  refine ⟨b, h1, ?_, h2, by simpa using h3⟩
  have := b.data_length
  rw [h3] at this
  simp only [Buf.data_new, List.length_append, Buf.remaining, h2] at this
  omega

/-- the same on the decoder function itself (what `u2str` cases exercise): text and bytes consumed -/
theorem C06_string_decoder (s : UStr) (h : wfStr s = true) (post : Bytes) :
    u2Dec (encStr s ++ post) = .ok (s.text, (encStr s).length) :=
  u2Dec_encStr s h post

/-- what that text is, Latin-1: each byte through windows-1252, then `strip` -/
theorem C06_text_latin1 (units : List Nat) (nul stray : Bool) :
    (UStr.mk .latin1 units nul stray).text = utf8Encode (strip (units.map fun u => cp1252Char (UInt8.ofNat u))) := rfl

/-- what that text is, UCS-2: the code units as UTF-16 (surrogate pairs combined), then `strip` -/
theorem C06_text_ucs2 (units : List Nat) (nul stray : Bool) (cs : List Nat) (h : utf16Decode units = some cs) :
    (UStr.mk .ucs2 units nul stray).text = utf8Encode (strip cs) := by
  simp [UStr.text, UStr.chars, h]

/-- `strip` keeps every character that is neither part of a colour escape nor a control character, in
order: on text without ESC it is exactly the removal of `0x01–0x1A` -/
theorem C06_strip_plain (cs : List Nat) (h : ∀ c ∈ cs, c ≠ 0x1b) :
    strip cs = cs.filter (fun c => !(1 ≤ c && c ≤ 0x1a)) := by
  unfold strip
  congr 1
  induction cs with
  | nil => rfl
  | cons c r ih =>
    rw [stripColour_cons_ne c r (h c (by simp)), ih (fun d hd => h d (by simp [hd]))]

/-- … and a colour escape in front of it disappears with its three colour characters, whatever they
are (27 included) -/
theorem C06_strip_escape (r g b : Nat) (cs : List Nat) : strip (0x1b :: r :: g :: b :: cs) = strip cs := by
  unfold strip
  rw [stripColour_cons_esc]
  rfl

theorem utf16Decode_replicate_A (n : Nat) : utf16Decode (List.replicate n 0x41) = some (List.replicate n 0x41) := by
  induction n with
  | zero => rfl
  | succ n ih =>
    rw [List.replicate_succ]
    unfold utf16Decode
    simp [ih]

/-- non-vacuity of `C06_string` at every length: for each encoding and each count 1–127 the length
byte can announce (and 0 for Latin-1; the empty UCS-2 string is `C06_string_empty_ucs2`) there is a
string of the domain with exactly that count -/
theorem C06_string_every_length (enc : Enc) (n : Nat) (h1 : 1 ≤ n) (h2 : n < 128) :
    let s : UStr := ⟨enc, List.replicate (n - 1) 0x41, true, false⟩
    s.count = n ∧ wfStr s = true ∧ s.text = List.replicate (n - 1) 0x41 := by
  intro s
  have hcount : s.count = n := by
    simp [s, UStr.count, UStr.wire]; omega
  have hall : ∀ u ∈ List.replicate (n - 1) 0x41, u = 0x41 := fun u hu => (List.mem_replicate.mp hu).2
  have hstrip : strip (List.replicate (n - 1) 0x41) = List.replicate (n - 1) 0x41 := by
    rw [C06_strip_plain _ (fun c hc => by rw [hall c hc]; decide)]
    rw [List.filter_eq_self]
    intro c hc
    rw [hall c hc]; decide
  have hutf8 : utf8Encode (List.replicate (n - 1) 0x41) = List.replicate (n - 1) (0x41 : UInt8) := by
    unfold utf8Encode
    generalize n - 1 = k
    induction k with
    | zero => rfl
    | succ k ih => simp only [List.replicate_succ, List.flatMap_cons, ih]; rfl
  have hrange : ∀ u ∈ s.units, 0 < u ∧ u < 256 := fun u hu => by
    rw [hall u hu]; exact ⟨by decide, by decide⟩
  refine ⟨hcount, ?_, ?_⟩
  · unfold wfStr
    rw [hcount]
    cases enc with
    | latin1 =>
      have : s.units.all (fun u => decide (0 < u) && decide (u < 256)) = true :=
        List.all_eq_true.mpr fun u hu => by simp [hrange u hu]
      simp [s, h2] at this ⊢
    | ucs2 =>
      have hall2 : s.units.all (fun u => decide (0 < u) && decide (u < 65536)) = true :=
        List.all_eq_true.mpr fun u hu => by
          have := hrange u hu
          simp [this.1]; omega
      have hdec : (utf16Decode s.units).isSome = true := by
        simp [s, utf16Decode_replicate_A]
      have henc : s.enc = .ucs2 := rfl
      simp only [henc, hall2, hdec, h2, decide_true, Bool.true_and]
      have hs : s.stray = false := rfl
      rw [hs, Bool.false_or]
      simp only [s, UStr.wire, ↓reduceIte]
      cases n - 1 with
      | zero => rfl
      | succ k => rfl
  · cases enc with
    | latin1 =>
      rw [C06_text_latin1]
      have : (List.replicate (n - 1) 0x41).map (fun u => cp1252Char (UInt8.ofNat u)) = List.replicate (n - 1) 0x41 := by
        rw [List.map_replicate]; rfl
      rw [this, hstrip, hutf8]
    | ucs2 =>
      rw [C06_text_ucs2 _ _ _ _ (utf16Decode_replicate_A _), hstrip, hutf8]

/-- length 0: a lone length byte `0x00` is the empty string -/
theorem C06_string_empty_latin1 (post : Bytes) : u2Dec (0x00 :: post) = .ok ([], 1) := by
  simp [u2Dec, latin1Part, cleanText, cp1252Decode, colourFilter, trimNul, utf8Encode]

/-- length 0 in UCS-2 (`0x80`): the empty string, provided the next byte of the packet is not `0x01`
(which the format cannot tell from the stray byte) -/
theorem C06_string_empty_ucs2 (post : Bytes) (h : post.head? ≠ some 1) : u2Dec (0x80 :: post) = .ok ([], 1) := by
  have hs : strayOf post = 0 := by
    unfold strayOf
    have : (post.head? == some 1) = false := by simpa using h
    simp [this]
  have h1 : (0x80 : UInt8).toNat = 0x80 := rfl
  simp [u2Dec, h1, hs, ucs2Part, unitsOf, utf16Decode, cleanText, colourFilter, trimNul, utf8Encode]

/-! ### the defect this property found, on the model of the code as it was -/

/-- the colour filter before the repair: ESC restarts the count also inside an escape -/
def colourFilterOld : Nat → List Nat → List Nat
  | _, [] => []
  | skip, c :: r =>
    if c == 0x1b then colourFilterOld 4 r
    else if skip - 1 == 0 then c :: colourFilterOld (skip - 1) r else colourFilterOld (skip - 1) r

/-- the Latin-1 branch before the repair: the text is `data[0 .. first NUL]`, i.e. it starts with the
length byte, and the announced length is ignored -/
def latin1Old (data : Bytes) : Bytes × Nat :=
  let position := findByte 0 data
  (utf8Encode (trimNul ((colourFilterOld 0 (cp1252Decode (data.take position))).filter (fun c => !isCtl c))), position + 1)

/-- `C06_finding_1`: a 30-character name (length byte 31 = 0x1F) came back prefixed with U+001F; the
repaired decoder returns the 30 characters. -/
theorem C06_finding_1 :
    latin1Old (0x1f :: List.replicate 30 0x41 ++ [0]) = (0x1f :: List.replicate 30 0x41, 32)
    ∧ u2Dec (0x1f :: List.replicate 30 0x41 ++ [0]) = .ok (List.replicate 30 0x41, 32) := by
  decide +kernel

/-- `C06_finding_2`: a 26-character name (length byte 27 = ESC) lost its first three characters. -/
theorem C06_finding_2 :
    latin1Old (0x1b :: List.replicate 26 0x42 ++ [0]) = (List.replicate 23 0x42, 28)
    ∧ u2Dec (0x1b :: List.replicate 26 0x42 ++ [0]) = .ok (List.replicate 26 0x42, 28) := by
  decide +kernel

/-- `C06_finding_3`: a colour whose red component is 27 swallowed the character after the escape. -/
theorem C06_finding_3 :
    colourFilterOld 0 [0x1b, 0x1b, 0x40, 0x40, 0x41, 0x42, 0x43] = [0x42, 0x43]
    ∧ colourFilter 0 [0x1b, 0x1b, 0x40, 0x40, 0x41, 0x42, 0x43] = [0x41, 0x42, 0x43] := by
  decide

/-! ### server info -/

/-- The server-info reply (4 header bytes of any value, kind 0, the nine fields, then whatever else
the game appends): the numeric fields and the four strings exactly as sent. -/
theorem C06_info (st : State) (hh : st.header.length = 4) (h1 : st.serverId < 2 ^ 32) (h2 : wfStr st.ip = true)
    (h3 : st.gamePort < 2 ^ 32) (h4 : st.queryPort < 2 ^ 32) (h5 : wfStr st.name = true) (h6 : wfStr st.map = true)
    (h7 : wfStr st.gameType = true) (h8 : st.numPlayers < 2 ^ 32) (h9 : st.maxPlayers < 2 ^ 32) :
    (consumeHeaders .serverInfo >>= fun _ => parseServerInfo).run (infoDatagram st)
      = .ok ⟨st.serverId, st.ip.text, st.gamePort, st.queryPort, st.name.text, st.map.text, st.gameType.text,
             st.numPlayers, st.maxPlayers, false⟩ :=
  info_run st hh (decodes_serverInfo st h1 h2 h3 h4 h5 h6 h7 h8 h9)

/-! ### mutators and rules, over any number of datagrams -/

/-- One datagram of the rules answer, folded into whatever has been accumulated so far. -/
theorem C06_rules_datagram (st : State) (hh : st.header.length = 4) (acc : MutatorsAndRules) (c : List (UStr × UStr))
    (hw : ∀ p ∈ c, wfStr p.1 = true ∧ wfStr p.2 = true) :
    rulesRound acc (reply st 1 (c.map encPair).flatten)
      = .ok (c.foldl (fun a p => a.add p.1.text (some p.2.text)) acc, true) :=
  rulesRound_dg st hh acc c hw

/-- The rules answer cut into datagrams at ANY positions (1 datagram, 6, any number; empty ones
included): taking the datagrams one after the other from the empty accumulator, every one is
accepted and the result is the SPEC's: every mutator once, every rule value under its key in the
order sent. -/
theorem C06_rules (st : State) (cuts : List Nat) (hh : st.header.length = 4)
    (hw : ∀ p ∈ st.pairs, wfStr p.1 = true ∧ wfStr p.2 = true) :
    Rounds rulesRound .empty ((split cuts st.pairs).map fun c => reply st 1 (c.map encPair).flatten) (expectedMR st) := by
  have hflat := split_flatten cuts st.pairs
  have := rules_rounds st hh (split cuts st.pairs) (fun c hc p hp => hw p (by
    rw [← hflat]; exact List.mem_flatten.mpr ⟨c, hc, hp⟩)) []
  rw [hflat] at this
  exact this

/-- every mutator is listed, and nothing else is -/
theorem C06_mutators_complete (kv : List (Bytes × Bytes)) (m : Bytes) :
    m ∈ expectedMutators kv ↔ ∃ k, (k, m) ∈ kv ∧ isMutatorKey k = true := by
  unfold expectedMutators
  rw [mem_firsts, List.mem_map]
  constructor
  · rintro ⟨p, hp, rfl⟩
    obtain ⟨h1, h2⟩ := List.mem_filter.mp hp
    exact ⟨p.1, h1, h2⟩
  · rintro ⟨k, h1, h2⟩
    exact ⟨(k, m), List.mem_filter.mpr ⟨h1, h2⟩, rfl⟩

/-- no mutator is listed twice, no rule key appears twice -/
theorem C06_no_duplicates (kv : List (Bytes × Bytes)) :
    (expectedMutators kv).Nodup ∧ ((expectedRules kv).map (·.1)).Nodup := by
  refine ⟨nodup_firsts _, ?_⟩
  unfold expectedRules
  simp only [List.map_map]
  have : ((fun (p : Bytes × List Bytes) => p.1) ∘ fun k => (k, valuesOf (kv.filter fun x => !isMutatorKey x.1) k)) = id := rfl
  rw [this, List.map_id]
  exact nodup_firsts _

/-- every rule value is kept under its key, and nothing is added: `v` is listed under `k` exactly when
the pair `k = v` was sent (and `k` is not the mutator key) -/
theorem C06_rules_complete (kv : List (Bytes × Bytes)) (k v : Bytes) :
    (∃ vs, (k, vs) ∈ expectedRules kv ∧ v ∈ vs) ↔ ((k, v) ∈ kv ∧ isMutatorKey k = false) := by
  unfold expectedRules
  simp only [List.mem_map, mem_firsts]
  constructor
  · rintro ⟨vs, ⟨k', ⟨p, hp, hpk⟩, heq⟩, hv⟩
    cases heq
    unfold valuesOf at hv
    obtain ⟨q, hq, rfl⟩ := List.mem_map.mp hv
    obtain ⟨hq1, hq2⟩ := List.mem_filter.mp hq
    obtain ⟨hq3, hq4⟩ := List.mem_filter.mp hq1
    have hk : q.1 = k := by simpa using hq2
    subst hk
    exact ⟨hq3, by simpa using hq4⟩
  · rintro ⟨h1, h2⟩
    have hmem : (k, v) ∈ kv.filter (fun x => !isMutatorKey x.1) := List.mem_filter.mpr ⟨h1, by simp [h2]⟩
    refine ⟨_, ⟨k, ⟨(k, v), hmem, rfl⟩, rfl⟩, ?_⟩
    unfold valuesOf
    exact List.mem_map.mpr ⟨(k, v), List.mem_filter.mpr ⟨hmem, by simp⟩, rfl⟩

/-! ### players, over any number of datagrams -/

/-- One datagram of the players answer, folded into whatever has been accumulated so far; the flag
says whether fewer entries than announced have been read. -/
theorem C06_players_datagram (st : State) (hh : st.header.length = 4) (n : Nat) (acc : Players) (c : List SPlayer)
    (hw : ∀ p ∈ c, wfPlayer p = true) :
    ∃ acc', playersRound n acc (reply st 2 (c.map encPlayer).flatten) = .ok (acc', decide (acc'.totalLen < n))
      ∧ acc' = ⟨acc.players ++ (c.filter (·.ping != 0)).map expectedPlayer,
                acc.bots ++ (c.filter (·.ping == 0)).map expectedPlayer⟩ :=
  ⟨_, playersRound_dg st hh n acc c hw, foldl_pushPlayer c acc⟩

/-- The players answer cut into datagrams at ANY positions, with the announced number not reached
before the last datagram: every datagram is taken and the result is every player exactly once, in
the order sent, among the bots if its ping is 0 and among the players otherwise. -/
theorem C06_players (st : State) (cuts : List Nat) (hh : st.header.length = 4)
    (hw : ∀ p ∈ st.players, wfPlayer p = true)
    (hann : (split cuts st.players).length ≤ 1 ∨ (split cuts st.players).dropLast.flatten.length < st.numPlayers) :
    RoundsStop (playersRound st.numPlayers) .empty
      ((split cuts st.players).map fun c => reply st 2 (c.map encPlayer).flatten) (expectedPlayers st) :=
  players_answer st cuts hh hw hann

/-- a player is reported as a bot if and only if its ping is 0, and every player appears once -/
theorem C06_bot_iff (st : State) :
    (∀ p ∈ (expectedPlayers st).bots, p.ping = 0) ∧ (∀ p ∈ (expectedPlayers st).players, p.ping ≠ 0)
    ∧ (∀ sp ∈ st.players, (sp.ping = 0 → expectedPlayer sp ∈ (expectedPlayers st).bots)
        ∧ (sp.ping ≠ 0 → expectedPlayer sp ∈ (expectedPlayers st).players))
    ∧ (expectedPlayers st).players.length + (expectedPlayers st).bots.length = st.players.length := by
  unfold expectedPlayers
  refine ⟨?_, ?_, ?_, ?_⟩
  · intro p hp
    obtain ⟨sp, hsp, rfl⟩ := List.mem_map.mp hp
    simpa [expectedPlayer] using (List.mem_filter.mp hsp).2
  · intro p hp
    obtain ⟨sp, hsp, rfl⟩ := List.mem_map.mp hp
    simpa [expectedPlayer] using (List.mem_filter.mp hsp).2
  · intro sp hsp
    exact ⟨fun h0 => List.mem_map.mpr ⟨sp, List.mem_filter.mpr ⟨hsp, by simp [h0]⟩, rfl⟩,
      fun h0 => List.mem_map.mpr ⟨sp, List.mem_filter.mpr ⟨hsp, by simp [h0]⟩, rfl⟩⟩
  · simp only [List.length_map]
    induction st.players with
    | nil => rfl
    | cons p r ih =>
      by_cases h0 : p.ping = 0 <;> simp [List.filter_cons, h0] at ih ⊢ <;> omega

/-! ### the whole query -/

/-- The property, on the whole query: for EVERY server state and configuration of the format's
domain (strings as in `C06_string`, any number of key/value pairs with repeated keys, any number of
players, each list cut into any number of datagrams of at most 1024 bytes, all 9 toggle pairs, each
optional section answered, not answered, or answered with garbage, any retry count), running
`unreal2::query` against the server's script returns exactly the response the SPEC entitles the user
to — the numeric fields and strings as sent, every rule value under its key, every mutator, every
player once, a bot iff its ping is 0, the password flag from the `GamePassword` rule — or, when a
section set to Enforce fails, exactly that failure. -/
theorem C06_query (cfg : Config) (st : State) (hwf : wf cfg st = true) (port : Nat) :
    (query port cfg.gather cfg.retries (Net.init [.opened (script cfg st)] [])).1 = expected cfg st :=
  query_spec cfg st hwf port

/-! ### non-vacuity: a concrete server in the domain -/

namespace C06Example
/-- "ЁA" in UCS-2 behind a colour escape whose red component is 27, with the stray byte -/
def name : UStr := ⟨.ucs2, [0x1b, 27, 64, 64, 0x401, 0x41], true, true⟩
def l1 (l : List Nat) : UStr := ⟨.latin1, l, true, false⟩
/-- info; `Mutator = IG`, `A = x`, `A = y` over two datagrams; a bot and a player with a 30-character
name over two datagrams -/
def st : State := ⟨[0x80, 0, 0, 0], 7, l1 [49, 48], 7777, 7778, name, l1 [68, 77], l1 [120, 68], 2, 16, [9],
  [(l1 [77, 117, 116, 97, 116, 111, 114], l1 [73, 71]), (l1 [65], l1 [120]), (l1 [65], l1 [121])],
  [⟨1, l1 [66], 0, -3, 0⟩, ⟨2, ⟨.latin1, List.replicate 30 0x41, true, false⟩, 50, 12, 99⟩]⟩
def cfg : Config := ⟨⟨.enforce, .enforce⟩, 1, [2], [1], .valid, .valid⟩
end C06Example

theorem C06Example.wf_holds : wf C06Example.cfg C06Example.st = true := by decide +kernel

set_option maxRecDepth 4000 in
example : wf C06Example.cfg C06Example.st = true := C06Example.wf_holds

set_option maxRecDepth 4000 in
example : expected C06Example.cfg C06Example.st
    = .ok ⟨⟨7, [49, 48], 7777, 7778, [0xD0, 0x81, 0x41], [68, 77], [120, 68], 2, 16, false⟩,
        ⟨[[73, 71]], [([65], [[120], [121]])]⟩,
        ⟨[⟨2, List.replicate 30 0x41, 50, 12, 99⟩], [⟨1, [66], 0, -3, 0⟩]⟩⟩ := by decide +kernel
