import GdVerif.Lemmas.Gs1Block
/-
  C12 (blocking steps that can run into their timeout) — GameSpy 1.
-/
open Gd Gd.Gs1

/-- Whatever the server does — for every script, fault vector and retry setting — at most
`retries + 1` blocking steps of a GameSpy 1 query run into their timeout (a failed socket creation, a
failed send, a timed-out receive): one per attempt.  The receive loop that collects the parts of the
answer ends the attempt at its first timeout, so the number of parts delivered does not enter the
bound.  Wall time ≤ (retries + 1) · timeout + the server's own delays. -/
theorem C12_gs1_blocking_bound (port retries : Nat) (script : List ConnScript) (faults : List Bool) :
    nBlocked (query port retries (Net.init script faults)).2.log ≤ retries + 1 := by
  have := (block_query port retries).total script faults
  omega

/-- the same for `query_vars` -/
theorem C12_gs1_vars_blocking_bound (port retries : Nat) (script : List ConnScript) (faults : List Bool) :
    nBlocked (queryVars port retries (Net.init script faults)).2.log ≤ retries + 1 := by
  have := (block_queryVars port retries).total script faults
  omega

/-- A silent server (the socket is created, its first `retries + 1` receives time out; the rest of
the script is arbitrary): the query fails with the receive-class error after exactly `retries + 1`
attempts — `retries + 1` requests, `retries + 1` timed-out receives, nothing received, one socket. -/
theorem C12_gs1_silent_server (port retries : Nat) (script : List ConnScript)
    (h : PendingSilent false (retries + 1) script) :
    (query port retries (Net.init script [])).1 = .err .packetReceive
      ∧ nSends (query port retries (Net.init script [])).2.log = retries + 1
      ∧ nBlocked (query port retries (Net.init script [])).2.log = retries + 1
      ∧ nRecvOk (query port retries (Net.init script [])).2.log = 0
      ∧ nOpened (query port retries (Net.init script [])).2.log = 1 :=
  (silent_query port retries (Net.init script []) rfl h).counts

/-- the hypothesis is satisfiable: no script at all, or `retries + 1` silences followed by anything -/
example (retries : Nat) (rest : List Delivery) (more : List ConnScript) :
    PendingSilent false (retries + 1) [] ∧
    PendingSilent false (retries + 1) (.opened (List.replicate (retries + 1) .silence ++ rest) :: more) :=
  ⟨rfl, SilentFor.replicate false (retries + 1) rest⟩

/-- the bound is attained by a server that stops in the middle of an answer: a first part
(`\\hostname\\x\\queryid\\1.1`, not final) is delivered, then nothing — one timeout per attempt -/
example : nBlocked (query 7777 1 (Net.init [.opened [.data [92, 104, 111, 115, 116, 110, 97, 109, 101, 92, 120, 92, 113, 117, 101, 114, 121, 105, 100, 92, 49, 46, 49, 0], .silence, .silence]] [])).2.log = 2 := by
  decide +kernel
