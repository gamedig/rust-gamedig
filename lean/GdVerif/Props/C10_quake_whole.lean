import GdVerif.Props.C05
/-
  C10 on WHOLE Quake 1 / 2 / 3 queries with faults injected.

  `Props/C10.lean` proves C10 for the combinator, `Props/C10_quake.lean` names the retried unit (the one status
  exchange).  Here the property is proved end to end for `Quake.query` against the SPEC's server (`Spec/Quake.lean`),
  on the scripts `props/families/quake.py: c10_build` injects: a plan (`Faults.Plan1`, `Spec/Faults.lean`) lists the
  attempts that end in a timeout-class failure — `false`: the request goes out and the reply is lost (a silence in the
  script), `true`: the request cannot be sent (a `true` in the send-fault vector) — and then the datagram that answers,
  if any.  `Plan1.deliveries` / `Plan1.faults` are the two arguments of `Net.init`; whatever follows them in the script
  and in the fault vector (`restQ`, `restF`) is arbitrary.  Quantified: version, state in the SPEC's domain, port, retry
  count, the failures.
-/
open Gd Gd.Quake Gd.Quake.Spec Gd.Faults

/-- THE GENERAL STATEMENT: for every plan in C10's domain (`Plan1.wf`: an answered unit had at most `retries` failures
before, a unit given up exactly `retries + 1`; the answer fits the 65535-byte receive buffer) whose answer, if rejected,
is rejected with an error that is not a timeout, the query's result is the plan's outcome — the header check and decoder
applied to the answer, or the last failure's error — and it sent the request exactly once per attempt of the plan. -/
theorem C10_quake_query_faulty (port retries : Nat) (v : Version) (p : Plan1) (hp : p.wf retries 65535 = true)
    (hcheck : ∀ d e, p.answer = some d → (stripHeader v).run d = .err e → e.isTimeout = false)
    (restQ : List Delivery) (restF : List Bool) :
    (Quake.query port v retries (Net.init [.opened (p.deliveries ++ restQ)] (p.faults ++ restF))).1
      = (p.outcome (stripHeader v).run >>= (parseBody v).run)
    ∧ sentOf (Quake.query port v retries (Net.init [.opened (p.deliveries ++ restQ)] (p.faults ++ restF))).2.log
      = p.sends (Spec.request v) :=
  query_faulty port retries v p hp hcheck restQ restF

/-- (a) RECOVERY.  `fails` (any number ≤ `retries`, each a lost reply or a failed send) precede the server's reply: the
query returns exactly `Spec.expected cfg st` — by `C05_query` the result with no faults —, and the request was sent
`fails.length + 1` times: once per failed attempt (flagged failed for a send fault) and once more. -/
theorem C10_quake_query_recovers (cfg : Config) (st : State) (hw : wf cfg st = true) (port retries : Nat)
    (fails : List Bool) (hk : fails.length ≤ retries) (restQ : List Delivery) (restF : List Bool) :
    let p := recovering cfg st fails
    let out := Quake.query port cfg.version retries (Net.init [.opened (p.deliveries ++ restQ)] (p.faults ++ restF))
    out.1 = expected cfg st
    ∧ sentOf out.2.log = fails.map (fun f => (Spec.request cfg.version, f)) ++ [(Spec.request cfg.version, false)]
    ∧ (sentOf out.2.log).length = fails.length + 1 := by
  intro p out
  obtain ⟨h1, h2⟩ := query_recovers cfg st hw port retries fails hk restQ restF
  refine ⟨h1, h2, ?_⟩
  show (sentOf out.2.log).length = _
  rw [show sentOf out.2.log = _ from h2]
  simp [recovering, Plan1.sends]

/-- (b) EXHAUSTION.  All `retries + 1` attempts end in a timeout-class failure: the query fails with the last attempt's
error — `PacketReceive`, or `PacketSend` when that attempt was a failed send (`C10_quake_last_error`) — after exactly
`retries + 1` requests, whatever the script still holds (`restQ`: for instance the reply the server would still send). -/
theorem C10_quake_query_exhausted (port retries : Nat) (v : Version) (fails : List Bool)
    (hk : fails.length = retries + 1) (restQ : List Delivery) (restF : List Bool) :
    let p : Plan1 := ⟨fails, none⟩
    let out := Quake.query port v retries (Net.init [.opened (p.deliveries ++ restQ)] (p.faults ++ restF))
    out.1 = .err (lastError attemptError fails)
    ∧ (out.1 = .err .packetReceive ∨ out.1 = .err .packetSend)
    ∧ sentOf out.2.log = fails.map (fun f => (Spec.request v, f))
    ∧ (sentOf out.2.log).length = retries + 1 := by
  intro p out
  obtain ⟨h1, h2⟩ := C10_quake_query_faulty port retries v p (by simp [p, Plan1.wf, hk])
    (fun d e hd _ => by simp [p] at hd) restQ restF
  have h1' : out.1 = .err (lastError attemptError fails) := h1
  have h2' : sentOf out.2.log = fails.map (fun f => (Spec.request v, f)) := by
    rw [show sentOf out.2.log = _ from h2]; simp [p, Plan1.sends]
  refine ⟨h1', ?_, h2', by rw [h2', List.length_map, hk]⟩
  rw [h1']
  obtain ⟨init, f, rfl⟩ : ∃ init f, fails = init ++ [f] := by
    cases hne : fails.reverse with
    | nil => simp at hne; subst hne; simp at hk
    | cons f r => exact ⟨r.reverse, f, by rw [← List.reverse_reverse fails, hne]; simp⟩
  rw [lastError_attempt]
  cases f <;> simp

/-- the error of an exhausted unit is the LAST attempt's -/
theorem C10_quake_last_error (fails : List Bool) (f : Bool) :
    lastError attemptError (fails ++ [f]) = (if f then .packetSend else .packetReceive) :=
  lastError_attempt fails f

/-- (c) A MALFORMED REPLY IS NOT RETRIED.  After any number ≤ `retries` of timed-out attempts the client receives a
datagram the header check rejects — ANY datagram shorter than the 4-byte out-of-band marker, or the marker followed by
anything that does not start with the version's response header (`Spec.malformed`; at most a UDP datagram long).
Whatever `retries` is, the query fails at once with `PacketUnderflow` / `PacketBad` (not a timeout-class error), and no
further request is sent: `fails.length + 1` in all. -/
theorem C10_quake_query_malformed_not_retried (port retries : Nat) (v : Version) (fails : List Bool)
    (hk : fails.length ≤ retries) (m : Bytes) (hm : malformed v m = true) (hl : m.length ≤ 65535)
    (restQ : List Delivery) (restF : List Bool) :
    let p : Plan1 := ⟨fails, some m⟩
    let out := Quake.query port v retries (Net.init [.opened (p.deliveries ++ restQ)] (p.faults ++ restF))
    out.1 = .err (malformedError m)
    ∧ (malformedError m).isTimeout = false
    ∧ sentOf out.2.log = fails.map (fun f => (Spec.request v, f)) ++ [(Spec.request v, false)]
    ∧ (sentOf out.2.log).length = fails.length + 1 := by
  intro p out
  obtain ⟨h1, h2⟩ := C10_quake_query_faulty port retries v p (by simp [p, Plan1.wf, hk, hl])
    (fun d e hd he => by
      have : d = m := by simpa [p] using hd.symm
      subst this
      rw [stripHeader_malformed v d hm] at he
      cases he
      exact malformedError_not_timeout d) restQ restF
  have h1' : out.1 = .err (malformedError m) := by
    rw [show out.1 = _ from h1]
    simp [p, Plan1.outcome, stripHeader_malformed v m hm]
  have h2' : sentOf out.2.log = fails.map (fun f => (Spec.request v, f)) ++ [(Spec.request v, false)] := by
    rw [show sentOf out.2.log = _ from h2]; simp [p, Plan1.sends]
  exact ⟨h1', malformedError_not_timeout m, h2', by rw [h2']; simp⟩

/-! ### non-vacuity: the Quake 2 server of `Props/C05.lean`, retries = 2 -/

-- (a) a lost reply and a failed send before the reply: the state, 3 requests
example (port : Nat) :
    let cfg : Config := ⟨.two, false⟩
    let p := recovering cfg C05_exampleQ2 [false, true]
    p.deliveries = [.silence, .data (reply cfg C05_exampleQ2)] ∧ p.faults = [false, true, false]
    ∧ (Quake.query port .two 2 (Net.init [.opened (p.deliveries ++ [])] (p.faults ++ []))).1
        = expected cfg C05_exampleQ2
    ∧ (sentOf (Quake.query port .two 2 (Net.init [.opened (p.deliveries ++ [])] (p.faults ++ []))).2.log).length = 3 := by
  have h := C10_quake_query_recovers ⟨.two, false⟩ C05_exampleQ2 C05_exampleQ2_wf port 2 [false, true] (by decide) [] []
  -- `h` and the goal in one written form (`let`s unfolded, `cfg.version` reduced), so that they match as they stand
  dsimp only at h ⊢
  exact ⟨rfl, rfl, h.1, h.2.2⟩

-- (b) three timeouts (the last one a failed send): PacketSend after 3 requests, the reply still queued is never read
example (port : Nat) (restQ : List Delivery) :
    let p : Plan1 := ⟨[false, false, true], none⟩
    (Quake.query port .three 2 (Net.init [.opened (p.deliveries ++ restQ)] (p.faults ++ []))).1 = .err .packetSend := by
  intro p
  exact (C10_quake_query_exhausted port 2 .three [false, false, true] rfl restQ []).1

-- (c) retries = 5, one lost reply, then `FF FF` / a Quake 3 reply sent to a Quake 2 client: rejected at once
example (port : Nat) :
    (Quake.query port .two 5 (Net.init [.opened ((Plan1.mk [false] (some [0xFF, 0xFF])).deliveries ++ [])]
      ((Plan1.mk [false] (some [0xFF, 0xFF])).faults ++ []))).1 = .err .packetUnderflow
    ∧ malformed .two ([0xFF, 0xFF, 0xFF, 0xFF] ++ header .three ++ [0x5C]) = true := by
  refine ⟨?_, by decide +kernel⟩
  exact (C10_quake_query_malformed_not_retried port 5 .two [false] (by decide) [0xFF, 0xFF] (by decide) (by decide)
    [] []).1
