import GdVerif.Lemmas.McFaults
import GdVerif.Props.C03
/-
  C10 on WHOLE legacy Minecraft queries (1.6 / 1.4 / beta 1.8, each on its own) with faults injected.

  The retried unit is ping + read + decode on ONE TCP socket (`Props/C10_minecraft.lean`).  Here the property is proved
  end to end for `queryLegacySpecific g` on the scripts of `props/families/mclegacy.py: c10_build` (`props/mc_c10.py`):
  a plan (`Spec/FaultsN.lean: PlanN`, one request per attempt) lists the attempts that end in a timeout-class failure —
  the ping cannot be sent, or it goes out and the read TIMES OUT ON THE OPEN STREAM — and then what the peer writes (the
  server's kick packet, or a malformed stream), or nothing.  A stream the peer has CLOSED is an empty read: a malformed
  reply, not retried (`C10_mclegacy_query_closed_not_retried`).  What follows the plan in the script is arbitrary.
-/
open Gd Gd.Mc Gd.Mc.Spec Gd.Faults

/-- THE GENERAL STATEMENT, for each of the three clients: for every plan in C10's domain (TCP: any answer is read whole)
whose answer, if the decoder rejects it, is rejected with an error that is not a timeout: the result is the plan's
outcome and the ping was sent exactly as the plan says. -/
theorem C10_mclegacy_query_faulty (g : LegacyGroup) (port retries : Nat) (p : PlanN)
    (hp : p.wf retries 1 (fitsRead true none) = true)
    (hcheck : ∀ d e, p.answer = some d → legacyCheck g d = .err e → e.isTimeout = false)
    (restQ : List Delivery) (restF : List Bool) :
    (queryLegacySpecific g port retries (Net.init [.opened (p.deliveries ++ restQ)] (p.faults 1 ++ restF))).1
      = p.outcome (legacyCheck g)
    ∧ sentOf (queryLegacySpecific g port retries (Net.init [.opened (p.deliveries ++ restQ)] (p.faults 1 ++ restF))).2.log
      = p.sends [legacyRequest g] := by
  rw [queryLegacy_queryN]
  exact queryN_faulty true port retries [legacyRequest g] none (legacyCheck g) p hp hcheck restQ restF

/-- (a) RECOVERY, for any kick packet `pkt` the client's parser decodes to `x` (`C10_mclegacy_kicks`: the SPEC's
packets of `C03_legacy16 / 14 / b18`): `fails` (≤ `retries`) precede it: the query returns `x`, the ping was sent
`fails.length + 1` times. -/
theorem C10_mclegacy_query_recovers (g : LegacyGroup) (pkt : Bytes) (x : JavaResponse)
    (hdec : DecodesEnd (legacyParse g pkt.length) pkt x) (port retries : Nat)
    (fails : List AttemptN) (hfails : ∀ a ∈ fails, a.wf 1 = true) (hk : fails.length ≤ retries)
    (restQ : List Delivery) (restF : List Bool) :
    let p : PlanN := ⟨fails, some pkt⟩
    let out := queryLegacySpecific g port retries (Net.init [.opened (p.deliveries ++ restQ)] (p.faults 1 ++ restF))
    out.1 = .ok x
    ∧ sentOf out.2.log = fails.map (fun a => (legacyRequest g, a.sendFault)) ++ [(legacyRequest g, false)]
    ∧ (sentOf out.2.log).length = fails.length + 1 := by
  intro p out
  have := queryN_recovers true port retries [legacyRequest g] none (legacyCheck g) pkt x hdec.run (by simp [fitsRead])
    fails hfails hk restQ restF
  rw [← queryLegacy_queryN] at this
  exact ⟨this.1, sent_one hfails this.2⟩

/-- the kick packets of the SPEC's servers are decoded to the expected responses (the hypotheses of
`C10_mclegacy_query_recovers` for the four combinations of `Props/C03.lean`) -/
theorem C10_mclegacy_kicks :
    (∀ st, wf16 st = true → DecodesEnd (legacyParse .v1_6 (kick16 st).length) (kick16 st) (expected16 st))
    ∧ (∀ st, wf16 st = true → DecodesEnd (legacyParse .v1_4 (kick16 st).length) (kick16 st) (expected16 st))
    ∧ (∀ st, wfOld st = true → DecodesEnd (legacyParse .v1_4 (kickOld st).length) (kickOld st) (expectedOld .v1_4 st))
    ∧ (∀ st, wfOld st = true → DecodesEnd (legacyParse .vb1_8 (kickOld st).length) (kickOld st) (expectedOld .vb1_8 st)) :=
  ⟨fun st h => decodesEnd_legacy16 st h .v1_6 (Or.inl rfl), fun st h => decodesEnd_legacy16 st h .v1_4 (Or.inr rfl),
   fun st h => decodesEnd_legacy14 st h, fun st h => decodesEnd_legacyB18 st h⟩

/-- (b) EXHAUSTION.  All `retries + 1` attempts end in a timeout-class failure (the stream stays open and silent, or
the ping cannot be sent): the last attempt's error after exactly `retries + 1` pings. -/
theorem C10_mclegacy_query_exhausted (g : LegacyGroup) (port retries : Nat) (fails : List AttemptN)
    (hfails : ∀ a ∈ fails, a.wf 1 = true) (hk : fails.length = retries + 1) (restQ : List Delivery)
    (restF : List Bool) :
    let p : PlanN := ⟨fails, none⟩
    let out := queryLegacySpecific g port retries (Net.init [.opened (p.deliveries ++ restQ)] (p.faults 1 ++ restF))
    out.1 = .err (lastError AttemptN.error fails)
    ∧ (out.1 = .err .packetReceive ∨ out.1 = .err .packetSend)
    ∧ sentOf out.2.log = fails.map (fun a => (legacyRequest g, a.sendFault))
    ∧ (sentOf out.2.log).length = retries + 1 := by
  intro p out
  have := queryN_exhausted true port retries [legacyRequest g] none (legacyCheck g) fails hfails hk restQ restF
  rw [← queryLegacy_queryN, sends_one_flatMap _ _ hfails] at this
  exact ⟨this.1, this.2.1, this.2.2, (congrArg List.length this.2.2).trans (by rw [List.length_map, hk])⟩

/-- (c) A MALFORMED REPLY IS NOT RETRIED.  After any number ≤ `retries` of timed-out attempts the peer writes a stream
that is not a kick packet — ANY stream that does not start with `FF` or ends inside the 3-byte header
(`Spec.malformedLegacy`).  The query fails at once with `ProtocolFormat` / `PacketUnderflow` (not a timeout-class
error), and no further ping is sent. -/
theorem C10_mclegacy_query_malformed_not_retried (g : LegacyGroup) (port retries : Nat) (fails : List AttemptN)
    (hfails : ∀ a ∈ fails, a.wf 1 = true) (hk : fails.length ≤ retries) (m : Bytes)
    (hm : malformedLegacy m = true) (restQ : List Delivery) (restF : List Bool) :
    let p : PlanN := ⟨fails, some m⟩
    let out := queryLegacySpecific g port retries (Net.init [.opened (p.deliveries ++ restQ)] (p.faults 1 ++ restF))
    out.1 = .err (malformedLegacyError m)
    ∧ (malformedLegacyError m).isTimeout = false
    ∧ sentOf out.2.log = fails.map (fun a => (legacyRequest g, a.sendFault)) ++ [(legacyRequest g, false)]
    ∧ (sentOf out.2.log).length = fails.length + 1 := by
  intro p out
  have := queryN_malformed true port retries [legacyRequest g] none (legacyCheck g) m _ (legacy_malformed g m hm)
    (malformedLegacyError_not_timeout m) (by simp [fitsRead]) fails hfails hk restQ restF
  rw [← queryLegacy_queryN] at this
  exact ⟨this.1, malformedLegacyError_not_timeout m, sent_one hfails this.2⟩

/-- (c') A CLOSED STREAM IS NOT RETRIED.  After any number ≤ `retries` of timed-out attempts the peer closes the
connection (the script ends): the read returns nothing, which is a malformed reply — `PacketUnderflow`, at once, one
more ping and no further one. -/
theorem C10_mclegacy_query_closed_not_retried (g : LegacyGroup) (port retries : Nat) (fails : List AttemptN)
    (hfails : ∀ a ∈ fails, a.wf 1 = true) (hk : fails.length ≤ retries) (restF : List Bool) :
    let out := queryLegacySpecific g port retries (Net.init [.opened (fails.flatMap AttemptN.deliveries)]
      (fails.flatMap AttemptN.faults ++ (List.replicate 1 false ++ restF)))
    out.1 = .err .packetUnderflow
    ∧ sentOf out.2.log = fails.map (fun a => (legacyRequest g, a.sendFault)) ++ [(legacyRequest g, false)] := by
  intro out
  have hc : legacyCheck g [] = .err .packetUnderflow := legacy_malformed g [] (by decide)
  have := queryN_closed port retries [legacyRequest g] none (legacyCheck g) fails hfails hk
    (fun e he => by rw [hc] at he; cases he; rfl) restF
  rw [hc, sends_one_flatMap _ _ hfails] at this
  show (queryLegacySpecific g port retries _).1 = _ ∧ sentOf (queryLegacySpecific g port retries _).2.log = _
  rw [queryLegacy_queryN g port retries]
  exact this

/-! ### non-vacuity (the servers of `Props/C03.lean`) -/

-- (a) retries = 2, the 1.4 client: a failed send and a read that times out before the kick packet: the status
example (port : Nat) :
    (queryLegacySpecific .v1_4 port 2 (Net.init
      [.opened ((PlanN.mk [⟨0, true⟩, ⟨1, false⟩] (some (kickOld exOld))).deliveries ++ [])]
      ((PlanN.mk [⟨0, true⟩, ⟨1, false⟩] (some (kickOld exOld))).faults 1 ++ []))).1 = .ok (expectedOld .v1_4 exOld) :=
  (C10_mclegacy_query_recovers .v1_4 _ _ (C10_mclegacy_kicks.2.2.1 exOld (by decide +kernel)) port 2
    [⟨0, true⟩, ⟨1, false⟩] (by decide) (by decide) [] []).1

-- (b) retries = 1, the 1.4 client: a failed send, then a read that times out: PacketReceive after 2 pings
example (port : Nat) (restQ : List Delivery) :
    (queryLegacySpecific .v1_4 port 1 (Net.init [.opened ((PlanN.mk [⟨0, true⟩, ⟨1, false⟩] none).deliveries ++ restQ)]
      ((PlanN.mk [⟨0, true⟩, ⟨1, false⟩] none).faults 1 ++ []))).1 = .err .packetReceive :=
  (C10_mclegacy_query_exhausted .v1_4 port 1 [⟨0, true⟩, ⟨1, false⟩] (by decide) rfl restQ []).1

-- (c) retries = 4: the check's malformed stream `ff ff` (ends inside the header) and one with a wrong first byte
example (port : Nat) :
    (queryLegacySpecific .vb1_8 port 4 (Net.init [.opened ((PlanN.mk [⟨1, false⟩] (some [0xFF, 0xFF])).deliveries ++ [])]
      ((PlanN.mk [⟨1, false⟩] (some [0xFF, 0xFF])).faults 1 ++ []))).1 = .err .packetUnderflow
    ∧ malformedLegacy [0x00, 1, 2, 3] = true ∧ malformedLegacyError [0x00, 1, 2, 3] = .protocolFormat :=
  ⟨(C10_mclegacy_query_malformed_not_retried .vb1_8 port 4 [⟨1, false⟩] (by decide) (by decide) [0xFF, 0xFF] (by decide)
    [] []).1, by decide, by decide⟩

-- (c') retries = 3, the 1.6 client: one read times out, then the peer closes the stream
example (port : Nat) :
    (queryLegacySpecific .v1_6 port 3 (Net.init [.opened ([⟨1, false⟩].flatMap AttemptN.deliveries)]
      ([⟨1, false⟩].flatMap AttemptN.faults ++ (List.replicate 1 false ++ [])))).1 = .err .packetUnderflow :=
  (C10_mclegacy_query_closed_not_retried .v1_6 port 3 [⟨1, false⟩] (by decide) (by decide) []).1
