import GdVerif.Lemmas.Gs1
/-
  C10 — Retries: GameSpy 1.  The retried unit is the whole status exchange (request + all parts):
  `get_server_values` is `retry_on_timeout(retries, get_server_values_impl)` over one socket, so
  the generic theorems of `Props/C10.lean` (`C10_at_most_r_plus_one`, `C10_first_non_timeout_decides`,
  `C10_all_timeouts`, stated for any unit) apply to it as they are.
-/
open Gd Gd.Gs1

/-- `query_vars` opens the socket once and retries the status exchange. -/
theorem C10_gs1_unit (port retries : Nat) :
    queryVars port retries = (do
      let s ← openSock false port
      retryOnTimeout retries (getServerValuesImpl s)) := rfl

/-- `query` does no I/O of its own: it is `query_vars` followed by pure decoding. -/
theorem C10_gs1_query_unit (port retries : Nat) :
    query port retries = (do
      let vars ← queryVars port retries
      Q.lift (buildResponse vars)) := rfl

/-- Every attempt starts from scratch: nothing received during a timed-out attempt (parts, query
id, values) is carried into the next one — the loop state is re-initialised. -/
theorem C10_gs1_attempt_is_fresh (s : Sock) :
    getServerValuesImpl s = (do
      send s statusRequest
      fun w => recvLoop s (Gs.queued s w + 1) LoopSt.init w) := rfl

-- non-vacuity: r = 1, first attempt gets one part and then silence, second attempt gets the reply
example : (queryVars 7777 1 (Net.init [.opened [.data (asciiBytes "\\a\\b\\queryid\\1.1"), .silence,
    .data (asciiBytes "\\c\\d\\final\\\\queryid\\2.1")]] [])).1 = .ok [(asciiBytes "c", asciiBytes "d")] := by
  rw [asciiBytes_ofList, asciiBytes_ofList, asciiBytes_ofList, asciiBytes_ofList]
  decide +kernel
