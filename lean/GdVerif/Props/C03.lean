import GdVerif.Lemmas.McUnits
/-
  C03 — Minecraft status replies decode exactly; auto-detect order holds.

  MODEL: `GdVerif/Proto/Minecraft.lean` (+ `McCodec.lean`, `Buffer.lean`, `Net.lean`).
  SPEC:  `GdVerif/Spec/Minecraft.lean` (encoders written from the protocol documentation).

  For EVERY well-formed status (all strings, all `u32` counts, all `i32` protocol numbers, 6-9+ Bedrock
  fields, every retry count and port) the matching query, run against what a conforming server sends
  for that status, returns exactly the expected response.  `serde_json` is a parameter: the Java theorem
  holds for every `ext` and every JSON text `text` such that `ext.parseJson text` is a document that
  represents the status (`Spec.Represents`: the documented members have the status's values — member
  order, unknown members and `null`-vs-absent do not matter); the correspondence check compares the
  driver's instance of `ext` with the real crate on every run.
-/
open Gd Gd.Mc Gd.Mc.Spec

/-! ### the property theorems -/

/-- Bedrock: every well-formed status (6-9+ fields, any text without `;`, `u32` counts, every game mode) sent as
an unconnected pong is returned exactly. -/
theorem C03_bedrock (st : BedrockStatus) (h : wfBedrock st = true) (port retries : Nat) :
    (queryBedrock port retries (Net.init [.opened [.data (unconnectedPong clientTime st)]] [])).1
      = .ok (expectedBedrock st) := by
  rw [bedrock_answered st h port retries _ [] [] rfl rfl]

/-- Legacy 1.6: `§1\0protocol\0version\0motd\0online\0max` in a kick packet is returned exactly. -/
theorem C03_legacy16 (st : Legacy16Status) (h : wf16 st = true) (port retries : Nat) :
    (queryLegacySpecific .v1_6 port retries (Net.init [.opened [.data (kick16 st)]] [])).1 = .ok (expected16 st) := by
  rw [legacy_answered .v1_6 _ _ (decodesEnd_legacy16 st h .v1_6 (Or.inl rfl)) port retries _ [] [] rfl rfl]

/-- Legacy 1.4: `motd§online§max` is returned exactly (version name `1.4+`, protocol -1). -/
theorem C03_legacy14 (st : LegacyOldStatus) (h : wfOld st = true) (port retries : Nat) :
    (queryLegacySpecific .v1_4 port retries (Net.init [.opened [.data (kickOld st)]] [])).1 = .ok (expectedOld .v1_4 st) := by
  rw [legacy_answered .v1_4 _ _ (decodesEnd_legacy14 st h) port retries _ [] [] rfl rfl]

/-- A 1.6 server answers the 1.4 ping (`FE 01`) in the 1.6 format: the 1.4 query returns the 1.6 status,
labelled 1.6. -/
theorem C03_legacy14_answered_in_16_format (st : Legacy16Status) (h : wf16 st = true) (port retries : Nat) :
    (queryLegacySpecific .v1_4 port retries (Net.init [.opened [.data (kick16 st)]] [])).1 = .ok (expected16 st) := by
  rw [legacy_answered .v1_4 _ _ (decodesEnd_legacy16 st h .v1_4 (Or.inr rfl)) port retries _ [] [] rfl rfl]

/-- Legacy beta 1.8: `motd§online§max` is returned exactly (version name `Beta 1.8+`, protocol -1). -/
theorem C03_legacyb18 (st : LegacyOldStatus) (h : wfOld st = true) (port retries : Nat) :
    (queryLegacySpecific .vb1_8 port retries (Net.init [.opened [.data (kickOld st)]] [])).1 = .ok (expectedOld .vb1_8 st) := by
  rw [legacy_answered .vb1_8 _ _ (decodesEnd_legacyB18 st h) port retries _ [] [] rfl rfl]

/-- Java: for every JSON crate behaviour `ext`, every status `st` and every JSON text `text` that the crate
parses to a document representing `st`, the status response (followed by anything the server still writes)
is returned exactly; `description` is the crate's compact rendering of the `description` member. -/
theorem C03_java (ext : Ext) (st : JavaStatus) (text trailing : Bytes) (j : Json)
    (hparse : ext.parseJson text = some j) (hrep : Represents j st) (hwf : wfJava st text = true)
    (port retries : Nat) (rs : RequestSettings) (hh : rs.hostname.length < 2 ^ 31) :
    (queryJava ext port rs retries (Net.init [.opened [.data (statusResponse text trailing)]] [])).1
      = .ok (expectedJava ext st) := by
  rw [java_answered ext text trailing j st hparse hrep hwf port retries rs hh _ [] [] rfl rfl]

/-- The documented status document itself represents the status (so the hypothesis of `C03_java` is satisfiable by
any parser that reads back the document a server writes). -/
theorem C03_java_document_represents (st : JavaStatus) : Represents (statusJson st) st := by
  have player (p : Player) : RepresentsPlayer (playerJson p) p :=
    have member (i : Nat) {k : Bytes} {v : Json} (hm : (playerDoc p)[i]? = some (k, some v)) : (playerJson p).get k = v :=
      get_present i hm (playerDoc_distinct p)
    ⟨member 1 rfl, member 0 rfl⟩
  have players : ∀ ps : List Player, RepresentsPlayers (ps.map playerJson) ps := by
    intro ps
    induction ps with
    | nil => exact .nil
    | cons p r ih => exact .cons (player p) ih
  have top (i : Nat) {k : Bytes} {o : Option Json} (hm : (statusDoc st)[i]? = some (k, o)) :
      (statusJson st).get k = o.getD .null :=
    (congrArg (Json.get · k) (statusJson_eq st)).trans (get_present i hm (statusDoc_distinct st))
  have inPlayers (i : Nat) {k : Bytes} {o : Option Json} (hm : (playersDoc st)[i]? = some (k, o)) :
      ((statusJson st).get (key "players")).get k = o.getD .null :=
    (congrArg (Json.get · k) (top 3 rfl)).trans (get_present i hm (playersDoc_distinct st))
  have inVersion (i : Nat) {k : Bytes} {o : Option Json} (hm : (versionDoc st)[i]? = some (k, o)) :
      ((statusJson st).get (key "version")).get k = o.getD .null :=
    (congrArg (Json.get · k) (top 5 rfl)).trans (get_present i hm (versionDoc_distinct st))
  have sample := inPlayers 2 rfl
  refine ⟨inVersion 0 rfl, inVersion 1 rfl, inPlayers 0 rfl, inPlayers 1 rfl, ?_, top 0 rfl,
    (top 2 rfl).trans (optJson_eq _ _).symm, (top 4 rfl).trans (optJson_eq _ _).symm,
    (top 1 rfl).trans (optJson_eq _ _).symm⟩
  cases hs : st.sample with
  | none => rw [hs] at sample; exact sample
  | some ps => rw [hs] at sample; exact ⟨_, sample, players ps⟩

/-- In particular: a crate that parses `text` to the documented status document (the law `parseJson (render j) = some j`
instantiated at the document a server renders) makes the Java query return the status exactly. -/
theorem C03_java_canonical (ext : Ext) (st : JavaStatus) (text trailing : Bytes)
    (hlaw : ext.parseJson text = some (statusJson st)) (hwf : wfJava st text = true)
    (port retries : Nat) (rs : RequestSettings) (hh : rs.hostname.length < 2 ^ 31) :
    (queryJava ext port rs retries (Net.init [.opened [.data (statusResponse text trailing)]] [])).1
      = .ok (expectedJava ext st) :=
  C03_java ext st text trailing _ hlaw (C03_java_document_represents st) hwf port retries rs hh

/-- Auto-detect, over all 32 subsets of variants a server speaks (`w.java`, `w.bedrock`, `w.v16`, `w.v14`,
`w.vb18` each present or absent) and every way the variants not spoken fail (`Mute`): the result is the
expected response of the FIRST variant spoken in the order Java, Bedrock, 1.6, 1.4, beta 1.8, labelled with that
variant; `AutoQuery` iff none is spoken; and the sockets opened are exactly the prefix of [tcp, udp, tcp, tcp, tcp] up
to that variant. -/
theorem C03_auto (ext : Ext) (w : World) (hwf : w.wf = true) (port retries : Nat) (rs : RequestSettings)
    (hh : rs.hostname.length < 2 ^ 31)
    (hjson : ∀ st text, w.java = some (st, text) → ∃ j, ext.parseJson text = some j ∧ Represents j st) :
    (queryAuto ext port rs retries (Net.init w.script [])).1 = w.expected ext
    ∧ opens (queryAuto ext port rs retries (Net.init w.script [])).2.log = w.opened := by
  obtain ⟨java, bedrock, v16, v14, vb18, mj, mb, m16, m14, mb18⟩ := w
  simp only [World.wf, Bool.and_eq_true] at hwf
  obtain ⟨⟨⟨⟨hwj, hwb⟩, hw16⟩, hw14⟩, hwb18⟩ := hwf
  simp only [World.script, World.expected, World.opened]
  generalize hw0 : Net.init _ [] = w0
  have hf0 : w0.faults = [] := by rw [← hw0]; rfl
  have hl0 : opens w0.log = [] := by rw [← hw0]; rfl
  have hp0 : w0.pending = [connOf mj (java.map fun p => statusResponse p.2 []), connOf mb (bedrock.map (unconnectedPong clientTime)),
      connOf m16 (v16.map kick16), connOf m14 (v14.map kickOld), connOf mb18 (vb18.map kickOld)] := by rw [← hw0]; rfl
  unfold queryAuto
  -- Each variant in turn: if the server speaks it, the unit answers (`*_answered'`) and `orElse` stops; if not, the unit
  -- fails (`*_mute`) and leaves, by `After`, the remaining scripts pending and no faults: the next unit's hypotheses.
  -- Java
  cases java with
  | some p =>
    obtain ⟨js, text⟩ := p
    obtain ⟨j, hparse, hrep⟩ := hjson js text rfl
    obtain ⟨w1, h1, a1⟩ := java_answered' ext text j js hparse hrep (by simpa using hwj) port retries rs hh w0 _ hp0 hf0
    rw [orElse_ok h1]
    exact ⟨rfl, by simp [a1.opened, hl0]⟩
  | none =>
  obtain ⟨e1, w1, h1, a1⟩ := java_mute ext mj port retries rs hh w0 _ hp0 hf0
  rw [orElse_err h1]
  -- Bedrock
  cases bedrock with
  | some st =>
    obtain ⟨w2, h2, a2⟩ := bedrock_answered' st (by simpa using hwb) port retries w1 _ a1.pending a1.faults
    rw [orElse_ok h2]
    exact ⟨rfl, by simp [a2.opened, a1.opened, hl0]⟩
  | none =>
  obtain ⟨e2, w2, h2, a2⟩ := bedrock_mute mb port retries w1 _ a1.pending a1.faults
  rw [orElse_err h2]
  unfold queryLegacy
  -- 1.6
  cases v16 with
  | some st =>
    obtain ⟨w3, h3, a3⟩ := legacy_answered' .v1_6 _ _ (decodesEnd_legacy16 st (by simpa using hw16) .v1_6 (Or.inl rfl))
      port retries w2 _ a2.pending a2.faults
    rw [orElse_ok (orElse_ok h3)]
    exact ⟨rfl, by simp [a3.opened, a2.opened, a1.opened, hl0]⟩
  | none =>
  obtain ⟨e3, w3, h3, a3⟩ := legacy_mute .v1_6 m16 port retries w2 _ a2.pending a2.faults
  -- 1.4
  cases v14 with
  | some st =>
    obtain ⟨w4, h4, a4⟩ := legacy_answered' .v1_4 _ _ (decodesEnd_legacy14 st (by simpa using hw14))
      port retries w3 _ a3.pending a3.faults
    rw [orElse_ok (by rw [orElse_err h3]; exact orElse_ok h4)]
    exact ⟨rfl, by simp [a4.opened, a3.opened, a2.opened, a1.opened, hl0]⟩
  | none =>
  obtain ⟨e4, w4, h4, a4⟩ := legacy_mute .v1_4 m14 port retries w3 _ a3.pending a3.faults
  -- beta 1.8
  cases vb18 with
  | some st =>
    obtain ⟨w5, h5, a5⟩ := legacy_answered' .vb1_8 _ _ (decodesEnd_legacyB18 st (by simpa using hwb18))
      port retries w4 _ a4.pending a4.faults
    rw [orElse_ok (by rw [orElse_err h3, orElse_err h4]; exact orElse_ok h5)]
    exact ⟨rfl, by simp [a5.opened, a4.opened, a3.opened, a2.opened, a1.opened, hl0]⟩
  | none =>
  obtain ⟨e5, w5, h5, a5⟩ := legacy_mute .vb1_8 mb18 port retries w4 _ a4.pending a4.faults
  have hleg : orElse (queryLegacySpecific .v1_6 port retries) id
      (orElse (queryLegacySpecific .v1_4 port retries) id
        (orElse (queryLegacySpecific .vb1_8 port retries) id (Q.fail .autoQuery))) w2 = (.err .autoQuery, w5) := by
    rw [orElse_err h3, orElse_err h4, orElse_err h5]; rfl
  rw [orElse_err hleg]
  exact ⟨rfl, by simp [Q.fail, a5.opened, a4.opened, a3.opened, a2.opened, a1.opened, hl0]⟩

/-! ### non-vacuity: the hypotheses are satisfiable by non-trivial objects -/

/-- a Bedrock status with all nine fields and two more, non-ASCII name -/
def exBedrock : BedrockStatus :=
  ⟨asciiBytes "MCPE", utf8Encode [0x44, 0xE9, 0x64, 0x1F600], asciiBytes "527", asciiBytes "1.19.1", 0, 4294967295,
   some (asciiBytes "13253860892328930865"), some (asciiBytes "Bedrock level"), some .adventure,
   [asciiBytes "1", asciiBytes "19132", []], [1, 2, 3, 4, 5, 6, 7, 8]⟩

example : wfBedrock exBedrock = true := by
  rw [exBedrock]
  repeat rw [asciiBytes_ofList]
  decide +kernel

/-- a 1.6 status with an astral character and a section sign in the MOTD -/
def ex16 : Legacy16Status := ⟨-2147483648, scalarsOf (asciiBytes "1.6.4"), [0x41, 0x1F600, 0xA7, 0x63], 4294967295, 0⟩
example : wf16 ex16 = true := by decide +kernel

def exOld : LegacyOldStatus := ⟨[0x41, 0x20AC, 0x10FFFF], 5, 20⟩
example : wfOld exOld = true := by decide +kernel

/-- a Java status with a chat-object description, sample players and all optional members -/
def exJava : JavaStatus :=
  ⟨asciiBytes "1.19.2", 760, 20, 1, some [⟨asciiBytes "Notch", asciiBytes "069a79f4-44e9-4726-a5be-fca90e38aaf5"⟩],
   .obj [(key "extra", .arr [.obj [(key "bold", .bool true), (key "text", .str (asciiBytes "hi"))]]), (key "text", .str [])],
   some (asciiBytes "data:image/png;base64,AAAA"), some false, some true⟩

/-- an instance of the JSON parameter that parses one text to the documented status document -/
def exExt : Ext := ⟨fun t => if t == asciiBytes "{}" then some (statusJson exJava) else none, fun _ => asciiBytes "<chat>"⟩

example : (queryJava exExt 25565 RequestSettings.default 2
    (Net.init [.opened [.data (statusResponse (asciiBytes "{}") [9, 1, 0, 0, 0, 0, 0, 0, 0, 0])]] [])).1
    = .ok (expectedJava exExt exJava) :=
  C03_java exExt exJava _ _ (statusJson exJava) rfl (C03_java_document_represents exJava) (by decide +kernel) 25565 2
    RequestSettings.default (by decide +kernel)

/-- a server that speaks Bedrock and beta 1.8 only; Java refused, the rest silent -/
def exWorld : World :=
  { java := none, bedrock := some exBedrock, v16 := none, v14 := none, vb18 := some exOld,
    muteJava := .refused, muteBedrock := .silent 0, mute16 := .silent 3, mute14 := .refused, muteB18 := .silent 1 }

example : (queryAuto exExt 19132 RequestSettings.default 1 (Net.init exWorld.script [])).1
      = .ok (JavaResponse.fromBedrock (expectedBedrock exBedrock))
    ∧ opens (queryAuto exExt 19132 RequestSettings.default 1 (Net.init exWorld.script [])).2.log = [true, false] :=
  C03_auto exExt exWorld
    (by
      rw [exWorld, exBedrock]
      repeat rw [asciiBytes_ofList]
      decide +kernel)
    19132 1 RequestSettings.default (by decide +kernel) (fun _ _ h => by cases h)
