import GdVerif.Gen.Consts
import GdVerif.Lemmas.Consts
import GdVerif.Proto.Settings
/-
  C18 — the default timeouts and retries of the SOURCE are the MODEL's (tie by TRANSLATION).
  `Gd.Gen.Consts.timeout_defaults` = `TimeoutSettings::const_default()`, `timeout_clap_defaults` = the clap
  `default_value` of each flag; both regenerated from protocols/types.rs on every run.
-/
open Gd Gd.Gen Gd.ConstsAux

/-- `const_default()`: 4 s to connect, read and write, no retries = `Settings.default` -/
theorem C18_consts_timeout_defaults :
    Settings.default = ⟨some ⟨num Consts.timeout_defaults "connect", 0⟩, some ⟨num Consts.timeout_defaults "read", 0⟩,
                        some ⟨num Consts.timeout_defaults "write", 0⟩, num Consts.timeout_defaults "retries"⟩
    ∧ Consts.timeout_defaults.map (·.1) = ["read", "write", "connect", "retries"] := by decide +kernel

/-- none of the defaults is the rejected zero duration -/
theorem C18_consts_timeout_defaults_valid :
    ∀ k ∈ ["connect", "read", "write"], num Consts.timeout_defaults k ≠ 0 := by decide +kernel

/-- the clap flags: `default_value = "4"` for the three durations, `"0"` for the retries = `Settings.fromClap` -/
theorem C18_consts_timeout_clap_defaults (connect read write retries : Option Bytes) :
    Settings.fromClap connect read write retries = (do
      let c ← Settings.parseDurationSecs (connect.getD (asciiBytes ((Consts.timeout_clap_defaults.lookup "connect").getD "")))
      let r ← Settings.parseDurationSecs (read.getD (asciiBytes ((Consts.timeout_clap_defaults.lookup "read").getD "")))
      let w ← Settings.parseDurationSecs (write.getD (asciiBytes ((Consts.timeout_clap_defaults.lookup "write").getD "")))
      let n ← okOr (parseUnsigned 64 (retries.getD (asciiBytes ((Consts.timeout_clap_defaults.lookup "retries").getD "")))) .invalidInput
      pure ⟨some c, some r, some w, n⟩) := rfl

/-- flags left out give the same settings as `default()` -/
theorem C18_consts_clap_defaults_are_default :
    Settings.fromClap none none none none = .ok Settings.default := by decide +kernel

example : num Consts.timeout_defaults "read" = 4 := by decide +kernel
