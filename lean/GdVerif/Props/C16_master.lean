import GdVerif.Lemmas.MasterSound
/-
  C16 (reply pages) — the page decoder accepts exactly the protocol's pages.
-/
open Gd Gd.Master

/-- Soundness of the page decoder, for EVERY datagram: if it is accepted with entries `es`, the datagram is
`FF FF FF FF 66 0A` followed by the 6-byte encodings of exactly `es` (no trailing or skipped bytes), and every entry
is in range. -/
theorem C16_master_page_sound (data : Bytes) (es : List Addr) (h : parsePage.run data = .ok es) :
    data = encPage es ∧ ∀ a ∈ es, WFAddr a :=
  parsePage_sound data es h

/-- Together with `C16_page_decodes`: the decoder's successes are exactly the protocol's pages. -/
theorem C16_master_page_iff (data : Bytes) (es : List Addr) :
    parsePage.run data = .ok es ↔ (data = encPage es ∧ ∀ a ∈ es, WFAddr a) := by
  constructor
  · exact parsePage_sound data es
  · rintro ⟨rfl, hwf⟩
    exact parsePage_encPage es hwf

-- non-vacuity: a two-entry page
example : parsePage.run [0xFF, 0xFF, 0xFF, 0xFF, 0x66, 0x0A, 1, 2, 3, 4, 0x69, 0x87, 0, 0, 0, 0, 0, 0]
    = .ok [((1, 2, 3, 4), 27015), ((0, 0, 0, 0), 0)] := by decide +kernel
