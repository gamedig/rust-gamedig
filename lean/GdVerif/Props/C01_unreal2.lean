import GdVerif.Lemmas.Unreal2Safe
/-
  C01 (Unreal 2) — hostile server responses never crash or hang a query.

  MODEL: `GdVerif/Proto/Unreal2.lean`, the repaired `protocols/unreal2` (tied to the code by
  `props/c01.py` / `props/c06.py` on every run, families `unreal2` and `u2str`).
  Termination is Lean's: the two parse loops take fuel `remaining + 1` and the two listening loops take
  fuel `queued deliveries + 1`; that the fuel never runs out is part of what is proved.
-/
open Gd Gd.Unreal2

/-- `unreal2::query`, and through it every Unreal 2 game wrapper: for EVERY reply script (any number of
datagrams of any content and size, any silences, a refused socket, failing sends), every pair of gather
toggles and every retry count, the query returns a response or an error — never a crash (panic, slice
out of bounds, arithmetic overflow, a loop that would not end). -/
theorem C01_unreal2 (port : Nat) (g : Gather) (retries : Nat) (script : List ConnScript) (faults : List Bool) :
    (query port g retries (Net.init script faults)).1 ≠ .crash :=
  (query_safe port g retries (Net.init script faults)).1

/-- The string decoder on any bytes: a text and a cursor inside the packet, or `PacketBad`. -/
theorem C01_unreal2_string (data : Bytes) :
    match readU2Str (Buf.new data) with
    | .ok (_, b) => b.pos ≤ data.length ∧ b.data = data
    | .err k => k = .packetBad
    | .crash => False := by
  have hs := safe_readU2Str (Buf.new data)
  cases h : readU2Str (Buf.new data) with
  | ok x =>
    obtain ⟨s, b⟩ := x
    rw [h] at hs
    simp only [Post, Buf.data_new] at hs
    exact ⟨by have := b.pos_le_len; rwa [hs] at this, hs⟩
  | err k => exact readU2Str_err_inv h
  | crash => rw [h] at hs; exact hs

/-- The section parsers alone, on any bytes and from any accumulated state. -/
theorem C01_unreal2_parsers (kind : PacketKind) (mr : MutatorsAndRules) (pl : Players) (data : Bytes) :
    ((consumeHeaders kind >>= fun _ => parseServerInfo).run data).isCrash = false
    ∧ ((consumeHeaders kind >>= fun _ => parseRules mr).run data).isCrash = false
    ∧ ((consumeHeaders kind >>= fun _ => parsePlayers pl).run data).isCrash = false := by
  have key : ∀ {α : Type} (p : Par α), Safe p → (p.run data).isCrash = false := by
    intro α p hp
    have := hp.run_ne_crash data
    cases h : p.run data with
    | ok x => rfl
    | err k => rfl
    | crash => exact absurd h this
  exact ⟨key _ (Safe.bind (safe_consumeHeaders kind) fun _ => safe_parseServerInfo),
    key _ (Safe.bind (safe_consumeHeaders kind) fun _ => safe_parseRules mr),
    key _ (Safe.bind (safe_consumeHeaders kind) fun _ => safe_parsePlayers pl)⟩

-- non-vacuity: hostile scripts are in the quantifier — a UCS-2 length byte announcing more than the
-- packet holds (panicked before the repair), and an unterminated Latin-1 string
example : (query 7777 Gather.default 1
    (Net.init [.opened [.data [0x80, 0, 0, 0, 0, 1, 0, 0, 0, 0x85, 0x41, 0]]] [])).1 = .err .packetBad := by
  decide +kernel

example : (readU2Str (Buf.new [3, 0x41, 0x42])) = .err .packetBad := by decide +kernel
