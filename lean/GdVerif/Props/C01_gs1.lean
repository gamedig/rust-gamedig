import GdVerif.Lemmas.GsSafe
import GdVerif.Lemmas.Gs1
/-
  C01 — Hostile server responses never crash or hang a query: GameSpy 1.

  MODEL: `GdVerif/Proto/Gs1.lean` (repaired tree: an empty datagram is rejected, the player table
  is neither pre-allocated from `maxplayers` nor grown to an index that is not below the number of
  entries, the receive loop is bounded by the deliveries queued).  Every panic site of the Rust
  (`remove(0)`, `split[0]`, `splited[i]`, `players_data[id]`, `id - len + 1`) is an explicit
  `crash` branch of the model or a total operation whose precondition the model establishes; the
  loop takes fuel `queued + 1` and runs out of it by crashing — the theorems say none of this is
  reachable, for EVERY reply script.
-/
open Gd Gd.Gs

/-- `gamespy::one::query`: no crash for any script (any number of datagrams of any content,
silences, refused socket, failing sends) and any retry count. -/
theorem C01_gs1_query (port retries : Nat) (script : List ConnScript) (faults : List Bool) :
    (Gs1.query port retries (Net.init script faults)).1 ≠ .crash :=
  (Gs1.query_safe port retries (Net.init script faults)).1

/-- `gamespy::one::query_vars`. -/
theorem C01_gs1_query_vars (port retries : Nat) (script : List ConnScript) (faults : List Bool) :
    (Gs1.queryVars port retries (Net.init script faults)).1 ≠ .crash :=
  (Gs1.queryVars_safe port retries (Net.init script faults)).1

/-- The pieces alone, on any input: one round of the receive loop on any datagram in any loop
state, and the whole typed decoding (`maxplayers`, `extract_players`, `has_password`, …) of any map. -/
theorem C01_gs1_pieces (st : Gs1.LoopSt) (data : Bytes) (vars : Map Bytes) :
    Gs1.processPacket st data ≠ .crash ∧ Gs1.buildResponse vars ≠ .crash ∧ Gs1.extractPlayers vars ≠ .crash :=
  ⟨Gs1.processPacket_ne st data, Gs1.buildResponse_ne vars, Gs1.extractPlayers_ne vars⟩

-- non-vacuity: the hostile inputs that crashed the unrepaired code are in the quantifier and give errors
example : (Gs1.query 7777 0 (Net.init [.opened [.data []]] [])).1 = .err .packetBad := by decide +kernel

example : (Gs1.query 7777 0 (Net.init [.opened [.data (asciiBytes
    "\\hostname\\S\\mapname\\m\\gametype\\g\\gamever\\1\\maxplayers\\1\\password\\0\\player_18446744073709551615\\B\\final\\")]] [])).1
    = .err .packetBad := by
  rw [asciiBytes_ofList]
  decide +kernel
