import GdVerif.Props.C19_cli
/-
  C14 — the command-line tool as a caller of the definition-driven entry point (`Proto/CliPlan.lean`).

  For EVERY invocation that gets as far as a query: the query issued is exactly
  `query_with_timeout_and_extra_settings(definition of the given id, address, the caller's port or none, the caller's
  timeout settings or none, the caller's extra settings)` — the generic path of C14, whose agreement with the game's
  module and with the protocol's own function is `C14_dispatch_*` — and every id of the table reaches its own row.
-/
open Gd Gd.Cli Gd.CliPlan

/-- The ids are distinct (`C14_ids_unique`) ASCII texts (`C19_cli_ids_ascii`), so their byte strings are distinct keys. -/
theorem lookupGame_self {row : Gen.GameRow} (h : row ∈ Gen.gameDefs) : lookupGame (asciiBytes row.id) = some row := by
  unfold lookupGame
  exact find?_asciiBytes_of_nodup Gen.GameRow.id Gen.gameDefs C14_ids_unique C19_cli_ids_ascii row h

/-- Every row of the definitions table is found under its own id (the ids are distinct keys), and under no other
text: what `find_game` returns for an id is the definition of that id. -/
theorem C14_cli_every_game_found : (Gen.gameDefs.all fun row => lookupGame (asciiBytes row.id) == some row) = true := by
  rw [List.all_eq_true]
  intro row hrow
  rw [lookupGame_self hrow]
  exact beq_self_eq_true _

/-- what `lookupGame` finds has the id that was asked for -/
theorem C14_cli_found_has_the_id (id : Bytes) (row : Gen.GameRow) (h : lookupGame id = some row) :
    row ∈ Gen.gameDefs ∧ asciiBytes row.id = id := by
  refine ⟨lookupGame_mem h, ?_⟩
  have := List.find?_some h
  simpa using this

/-- THE QUERY THE TOOL ISSUES.  For every invocation with a plan, every environment and transport state: the library is
called through the generic entry point with the definition looked up under `--game`, `--port` (or none: the
dispatch then applies the definition's default, `C14_dispatch_destination_port`), the timeout settings built from the
timeout flags (or none) and the extra settings built from the extra flags — with the host name added exactly when
the host was a name and no `--hostname` was given. -/
theorem C14_cli_issues_the_generic_query (env : Env) (fl : Flags) (w : Net) (p : Plan) (hp : plan env.resolve fl = .ok p) :
    ∃ args game, clap fl = some args ∧ lookupGame args.game = some p.row ∧ Dispatch.Game.ofRow p.row = some game
      ∧ query env p w = .ok (Dispatch.generic env.dispatch game args.port args.timeoutSettings p.extraOptions w)
      ∧ ((parseIpAddr args.ip).isSome = true → p.extraOptions = args.extraOptions)
      ∧ ((parseIpAddr args.ip).isSome = false → p.extraOptions = setHostnameIfMissing args.ip args.extraOptions) := by
  obtain ⟨args, hc, hg, h1, h2, _, _, hhost⟩ := (C19_cli_plan env.resolve fl p).mp hp
  have hsome := List.all_eq_true.mp C14_dispatch_rows_modelled.1 p.row (lookupGame_mem hg)
  obtain ⟨game, hgame⟩ := Option.isSome_iff_exists.mp hsome
  refine ⟨args, game, hc, hg, hgame, ?_, ?_, ?_⟩
  · simp only [query, hgame, h1, h2]
  · intro hs
    rcases hhost with ⟨_, _, he⟩ | ⟨hn, _⟩
    · exact he
    · rw [hn] at hs; cases hs
  · intro hs
    rcases hhost with ⟨hn, _⟩ | ⟨_, _, _, he⟩
    · rw [hn] at hs; cases hs
    · exact he

-- non-vacuity: `-g valheim -i ::1 -p 2460 --gather-rules skip`: the row of Valheim, its own port overridden, no host name
example : (plan (fun _ => none) { game := some (asciiBytes "valheim"), ip := some (asciiBytes "::1"), port := some (asciiBytes "2460"), gatherRules := some (asciiBytes "skip") }).bind
      (fun p => .ok (p.row.port, p.port, p.extraOptions, p.address))
    = .ok (2457, some 2460, some ⟨none, none, none, some .skip, none⟩, .v6 0 0 0 0 0 0 0 1) := by
  decide +kernel
