import GdVerif.Lemmas.MasterRounds
/-
  C13 (requests sent) — the Valve master-server service.  The service never retries (no `retry_on_timeout`), so the
  bound "retry setting and the number of datagrams received" reads: one request, plus one per datagram received.
-/
open Gd Gd.Master

/-- Whatever the server does (any script, any send faults), for every region and filter set, the complete query sends
at most one request more than the datagrams it successfully received: each follow-up request needs a received page. -/
theorem C13_master_send_bound (region : Nat) (fs : Option SearchFilters) (script : List ConnScript)
    (faults : List Bool) :
    nSends (Master.query region fs (Net.init script faults)).2.log
      ≤ 1 + nRecvOk (Master.query region fs (Net.init script faults)).2.log :=
  Cost.total (k := 1) (cost_query region fs) script faults

/-- The single-page query sends at most one request, whatever arrives. -/
theorem C13_master_singular_send_bound (region : Nat) (fs : Option SearchFilters) (script : List ConnScript)
    (faults : List Bool) : nSends (Master.querySingular region fs (Net.init script faults)).2.log ≤ 1 := by
  rw [querySingular_log]
  unfold singularLog
  cases hfc : firstConn script with
  | none => simp [nSends, isSend]
  | some ds =>
    have := nSends_firstRound msock region (filterBytesOf fs) ds faults zeroIp 0
    simpa [nSends, isSend] using this

/-- The paging loop on a socket the caller keeps, from any state and with any fuel: what it adds to the log has at
most one send more than successful receives. -/
theorem C13_master_loop_bound (s : Sock) (region : Nat) (fb : Bytes) (fuel : Nat) (ips : List Addr) (ip : Bytes)
    (port : Nat) (w : Net) :
    ∃ added, (pageLoop s region fb fuel ips ip port w).2.log = w.log ++ added ∧ nSends added ≤ 1 + nRecvOk added := by
  obtain ⟨added, hl, hc⟩ := cost_pageLoop s region fb fuel ips ip port w
  refine ⟨added, hl, ?_⟩
  cases hres : (pageLoop s region fb fuel ips ip port w).1 <;> rw [hres] at hc <;> simp only at hc <;> omega

/-- The number of requests is also bounded by the script alone: one per datagram the peer will ever deliver to the
socket, plus one (so memory for the result grows only with bytes actually received: at most 232 six-byte entries
per 1400-byte datagram). -/
theorem C13_master_requests_by_script (region : Nat) (fs : Option SearchFilters) (ds : List Delivery)
    (rest : List ConnScript) (faults : List Bool) :
    nSends (Master.query region fs (Net.init (.opened ds :: rest) faults)).2.log ≤ countData ds + 1 :=
  nSends_query region fs ds rest faults

-- non-vacuity: the bound is attained — three pages received, four requests sent
example :
    let r := Master.query 3 none (Net.init [.opened [
      .data [0xFF, 0xFF, 0xFF, 0xFF, 0x66, 0x0A, 1, 2, 3, 4, 0x69, 0x87],
      .data [0xFF, 0xFF, 0xFF, 0xFF, 0x66, 0x0A, 5, 6, 7, 8, 0x69, 0x87],
      .data [0xFF, 0xFF, 0xFF, 0xFF, 0x66, 0x0A, 9, 9, 9, 9, 0, 80]]] [])
    nSends r.2.log = 4 ∧ nRecvOk r.2.log = 3 := by
  decide +kernel

-- a datagram that is not a page earns no follow-up request
example :
    let r := Master.query 3 none (Net.init [.opened [.data [1, 2, 3], .data [0xFF, 0xFF, 0xFF, 0xFF, 0x66, 0x0A]]] [])
    nSends r.2.log = 1 ∧ nRecvOk r.2.log = 1 := by
  decide +kernel
