import GdVerif.Props.C14_dispatch
import GdVerif.Lemmas.Arms
/-
  C14 (and what C09 / C11 / C18 need of the glue) over the TRANSLATED arms of games/query.rs.

  `Gen/Arms.lean` is regenerated from the source on every run (tools/xlate_arms.py): one term-level arm per leaf of the
  `match &game.protocol` of `query_with_timeout_and_extra_settings`, the conversion impls `From<ExtraRequestSettings> for T`,
  the `default()`s, `into_extra`, the two wrappers, the `game_query_fn!` bodies.  `Proto/ArmsSem.lean` evaluates them.
  Here: source = translation = model —
    * for EVERY protocol value exactly one generated arm matches;
    * for EVERY game, port, timeout settings and extra settings, evaluating the translated arm gives exactly the call
      (callee, address / port, settings value, timeout) of the hand-written `Dispatch.generic`, which therefore IS the
      translation, made;
    * the conversions, defaults, `into_extra`, wrappers, module macros as translated are the model's;
    * corollaries, from the translated terms: timeout settings (retry count) reach every arm; extra settings, when given,
      are what reaches the protocol, field by field, the definition's own settings otherwise; the port is the caller's,
      else the definition's default.
  All proofs evaluate the generated closed terms on arbitrary argument values (no sample).
-/
open Gd Gd.Dispatch Gd.Arms Gd.Gen

/-- The translator understood every shape it met on this run (otherwise it writes empty tables and `false`). -/
theorem C14_arms_understood : Gen.Arms.translated = true := by decide

/-! ### one arm per protocol value -/

/-- For EVERY value of `Protocol` (any engine, any version, any Minecraft variant — not only the rows of the table) exactly
one arm of the generated table matches: the `match` is exhaustive without overlap, so "the first arm that matches" is "the
arm". -/
theorem C14_arms_exactly_one_arm (p : Protocol) : countArms Gen.Arms.arms (encProtocol p) = 1 :=
  countArms_eq_one p

/-- In particular for every row of the generated definitions table. -/
theorem C14_arms_table_rows_have_one_arm {d : GameRow} (hd : d ∈ gameDefs) :
    ∃ game, Game.ofRow d = some game ∧ countArms Gen.Arms.arms (encProtocol game.protocol) = 1 := by
  obtain ⟨game, hg⟩ := Game.ofRow_of_mem hd
  exact ⟨game, hg, countArms_eq_one _⟩

/-- The arms the harness's build does not contain are exactly the two behind the `tls` feature. -/
theorem C14_arms_skipped :
    Gen.Arms.skippedArms.map (·.cfg)
      = ["cfg(feature = \"tls\")", "cfg(all(feature = \"services\", feature = \"tls\", feature = \"serde\"))"] := rfl

example : countArms Gen.Arms.arms (encProtocol (.valve (Valve.Engine.new 440))) = 1 := C14_arms_exactly_one_arm _
example : (selectArm Gen.Arms.arms (encProtocol (.proprietary (.minecraft (some (.legacy .v1_4)))))).map (·.1.path)
    = some "games::minecraft::protocol::query_legacy_specific" := rfl

/-! ### source = translation = model, per arm, every argument value -/

/-- For EVERY game (any default port, protocol, request settings), port given or omitted, any timeout settings, any
extra settings: the translated arm of the game's protocol, evaluated on these values, is exactly the call the
hand-written model makes — same callee, same address / port argument, same settings value, same timeout settings. -/
theorem C14_arms_call_eq_model (game : Game) (port : Option Nat) (timeout : Option Settings.Timeout)
    (extra : Option Extra) : translatedCall game port timeout extra = some (genericCall game port timeout extra) :=
  translatedCall_eq game port timeout extra

/-- … and `Dispatch.generic` (the model every other C14 / C09 / C11 / C18 theorem of the dispatch is about) is that call,
made: the translation of the source, evaluated, IS the model, on every transport state. -/
theorem C14_arms_translation_eq_generic (ext : Ext) (game : Game) (port : Option Nat)
    (timeout : Option Settings.Timeout) (extra : Option Extra) :
    translated ext game port timeout extra = some (generic ext game port timeout extra) := by
  simp only [translated, translatedCall_eq, Option.map_some, generic_eq_run]

-- aapg (Valve, enforces players / skips rules), caller gives a port, 3 retries and only `check_app_id = false`
example :
    translatedCall ⟨27020, .valve (Valve.Engine.new 203290), valveIntoExtra ⟨.enforce, .skip, true⟩⟩ (some 1)
        (some ⟨none, none, none, 3⟩) (some ⟨none, none, none, none, some false⟩)
      = some (.valveQuery 1 (Valve.Engine.new 203290) (some ⟨.try_, .try_, false⟩) (some ⟨none, none, none, 3⟩)) := by decide +kernel
-- Savage 2: the optional port is handed on unchanged
example : translatedCall ⟨11235, .proprietary .savage2, valveIntoExtra Valve.Gather.default⟩ none none none
    = some (.savage2QueryWithTimeout none none) := by decide +kernel

/-! ### the conversion impls, defaults, `into_extra`, wrappers, module macros as translated -/

/-- `impl From<ExtraRequestSettings> for {valve, unreal2}::GatheringSettings, minecraft::RequestSettings,
EcoRequestSettings` as translated = `Extra.toValve / toUnreal2 / toMinecraft / toEco` of the model, for every settings
value. -/
theorem C14_arms_conversions (e : Extra) :
    convOf .valveGather (encExtra e) = some (encValveGather e.toValve)
    ∧ convOf .unreal2Gather (encExtra e) = some (encUnreal2Gather e.toUnreal2)
    ∧ convOf .mcRequestSettings (encExtra e) = some (encMcSettings e.toMinecraft)
    ∧ convOf .ecoRequestSettings (encExtra e) = some (encEcoSettings e.toEco) :=
  ⟨convOf_valve e, convOf_unreal2 e, convOf_minecraft e, convOf_eco e⟩

/-- `T::default()` as translated = the model's defaults (incl. the `"gamedig"` / `-1` of the Minecraft handshake). -/
theorem C14_arms_defaults :
    dfltOf .extra = some (encExtra ⟨none, none, none, none, none⟩)
    ∧ dfltOf .valveGather = some (encValveGather Valve.Gather.default)
    ∧ dfltOf .unreal2Gather = some (encUnreal2Gather Unreal2.Gather.default)
    ∧ dfltOf .mcRequestSettings = some (encMcSettings Mc.RequestSettings.default)
    ∧ dfltOf .ecoRequestSettings = some (encEcoSettings EcoSettings.default) :=
  dfltOf_all

/-- `GatheringSettings::into_extra` (valve, unreal2) as translated = the model's; and the request settings the `game!`
macro gives a definition that names none are `valve::GatheringSettings::default().into_extra()`. -/
theorem C14_arms_into_extra (g : Valve.Gather) (u : Unreal2.Gather) :
    intoExtraOf .valveGather (encValveGather g) = some (encExtra (valveIntoExtra g))
    ∧ intoExtraOf .unreal2Gather (encUnreal2Gather u) = some (encExtra (unreal2IntoExtra u))
    ∧ (match Gen.Arms.gameDefaultSettings with
        | some t =>
          match evalTm sem Env.empty t with
          | some v => intoExtraOf .valveGather v
          | none => none
        | none => none) = some (encExtra (valveIntoExtra Valve.Gather.default)) :=
  ⟨rfl, rfl, rfl⟩

/-- The encodings the statements above go through lose nothing. -/
theorem C14_arms_encodings_faithful (e : Extra) (g : Valve.Gather) (u : Unreal2.Gather) (m : Mc.RequestSettings)
    (c : EcoSettings) :
    decExtra (encExtra e) = some e ∧ decValveGather (encValveGather g) = some g
    ∧ decUnreal2Gather (encUnreal2Gather u) = some u ∧ decMcSettings (encMcSettings m) = some m
    ∧ decEcoSettings (encEcoSettings c) = some c :=
  ⟨decExtra_enc e, decValveGather_enc g, decUnreal2Gather_enc u, decMcSettings_enc m, decEcoSettings_enc c⟩

/-- `query(game, address, port)` and `query_with_timeout(game, address, port, timeout_settings)` as translated call the
full function with the same game, address and port, `None` for what they do not take — as `genericQuery` /
`genericWithTimeout` of the model do. -/
theorem C14_arms_wrappers (ext : Ext) (game : Game) (port : Option Nat) (timeout : Option Settings.Timeout) :
    (Gen.Arms.wrappers.map fun w => (w.name, w.callee, evalWrapper w game port timeout))
      = [("query", .generic, some [encGame game, .addr, encOpt .num port, .none_, .none_]),
         ("query_with_timeout", .generic, some [encGame game, .addr, encOpt .num port, encOpt .timeout timeout, .none_])]
    ∧ genericQuery ext game port = generic ext game port none none
    ∧ genericWithTimeout ext game port timeout = generic ext game port timeout none :=
  ⟨by cases port <;> cases timeout <;> rfl, rfl, rfl⟩

/-- The `@gen` rule of every `game_query_fn!` (valve; gamespy one / two / three; quake one / two / three; unreal2) as
translated, evaluated on a module's parameters, is the call the model of that kind of module makes — address built from
the caller's port else the macro's `$default_port`, the macro's engine and `Some($gathering_settings)` (Valve), the
protocol's default settings (Unreal2), no timeout settings — and only the Valve rule converts the result
(`new_from_valve_response`). -/
theorem C14_arms_module_macros (ext : Ext) (m : Module) (port : Option Nat) (c : Call) (hc : moduleCall m port = some c) :
    translatedModuleCall m port = some (c, match m with | .valve _ _ _ => true | _ => false)
    ∧ moduleQuery ext m port
        = match m with
          | .valve _ _ _ => Games.mapQ Response.view (c.run ext)
          | _ => c.run ext :=
  ⟨translatedModuleCall_eq m port c hc, moduleQuery_eq_run ext m port c hc⟩

/-- The gathering settings `valve::game_query_mod!` gives a module that names none, and the ones the `game!` macro turns
into a definition's request settings when it names none, are both `valve::GatheringSettings::default()` as translated =
the model's `Valve.Gather.default` (what `Module.ofRow` / `requestSettingsOf` use for such rows). -/
theorem C14_arms_macro_defaults :
    evalClosed Gen.Arms.valveModDefaultSettings = some (encValveGather Valve.Gather.default)
    ∧ evalClosed Gen.Arms.gameDefaultSettings = some (encValveGather Valve.Gather.default) :=
  ⟨rfl, rfl⟩

/-- The hand-written modules savage2 / theship / ffow / jc2m / eco: `query(address, port)` as translated hands address and
port on unchanged with `None` for the timeout settings (eco: through `query_with_timeout`, which adds `None` for the extra
settings); decoded, these are the calls the model of each module makes.  The other hand-written modules have no such
wrapper to translate: `mindustry::query` takes the timeout settings itself and is the function the dispatch calls; the
`games::minecraft` functions and `battalion1944::query` are more than one call and are modelled by hand (`mcModule*`,
`Battalion.query`). -/
theorem C14_arms_hand_modules (ext : Ext) (port : Option Nat) (timeout : Option Settings.Timeout) :
    (Gen.Arms.handWrappers.map fun w => (w.1, w.2.1, w.2.2.1, evalHandWrapper w.2.2.2 port timeout))
      = [("savage2", "query", .savage2QueryWithTimeout, some [.addr, encOpt .num port, .none_]),
         ("theship", "query", .theShipQueryWithTimeout, some [.addr, encOpt .num port, .none_]),
         ("ffow", "query", .ffowQueryWithTimeout, some [.addr, encOpt .num port, .none_]),
         ("jc2m", "query", .jc2mQueryWithTimeout, some [.addr, encOpt .num port, .none_]),
         ("eco", "query", .ecoQueryWithTimeout, some [.addr, encOpt .num port, .none_]),
         ("eco", "query_with_timeout", .ecoQuery, some [.addr, encOpt .num port, encOpt .timeout timeout, .none_])]
    ∧ (Call.decode .savage2QueryWithTimeout [.addr, encOpt .num port, .none_] = some (.savage2QueryWithTimeout port none)
      ∧ Call.decode .theShipQueryWithTimeout [.addr, encOpt .num port, .none_] = some (.theShipQueryWithTimeout port none)
      ∧ Call.decode .ffowQueryWithTimeout [.addr, encOpt .num port, .none_] = some (.ffowQueryWithTimeout port none)
      ∧ Call.decode .jc2mQueryWithTimeout [.addr, encOpt .num port, .none_] = some (.jc2mQueryWithTimeout port none)
      ∧ Call.decode .ecoQuery [.addr, encOpt .num port, encOpt .timeout none, .none_] = some (.ecoQuery port none none))
    ∧ (moduleQuery ext .savage2 port = (Call.savage2QueryWithTimeout port none).run ext
      ∧ moduleQuery ext .theShip port = (Call.theShipQueryWithTimeout port none).run ext
      ∧ moduleQuery ext .ffow port = (Call.ffowQueryWithTimeout port none).run ext
      ∧ moduleQuery ext .jc2m port = (Call.jc2mQueryWithTimeout port none).run ext
      ∧ moduleQuery ext .eco port = (Call.ecoQuery port none none).run ext) :=
  ⟨by cases port <;> cases timeout <;> rfl, by cases port <;> exact ⟨rfl, rfl, rfl, rfl, rfl⟩, rfl, rfl, rfl, rfl, rfl⟩

example : evalHandWrapper [(.var .address), (.var .port), .none_] (some 7) none = some [.addr, .some_ (.num 7), .none_] := rfl

example : moduleCall (.valve 27015 (Valve.Engine.new 440) Valve.Gather.default) none
    = some (.valveQuery 27015 (Valve.Engine.new 440) (some Valve.Gather.default) none) := rfl
example : translatedModuleCall (.quake .three 27960) (some 5) = some (.quakeQuery .three 5 none, false) := by decide +kernel

/-! ### corollaries, from the translated terms -/

/-- RETRIES (C18): whatever the game, the timeout settings the translated arm passes to its callee are the caller's,
unchanged (so `retriesOf` of them — the caller's retry count, or the default 0 when there are none — is what every
protocol entry of `Call.run` gets), and the model's exchange is that call. -/
theorem C14_arms_timeout_passed_on (ext : Ext) (game : Game) (port : Option Nat) (timeout : Option Settings.Timeout)
    (extra : Option Extra) :
    ∃ call, translatedCall game port timeout extra = some call ∧ call.timeout = timeout
      ∧ generic ext game port timeout extra = call.run ext := by
  refine ⟨genericCall game port timeout extra, translatedCall_eq .., ?_, generic_eq_run ..⟩
  -- one goal per arm of `genericCall`
  obtain ⟨dp, e | (_ | _ | _) | v | _ | (_ | _ | _ | _ | _ | (_ | (_ | _ | g)) | _), rs⟩ := game <;> rfl

/-- PORT (C09): the translated arm either builds the socket address from the caller's port, else the definition's default
port (`inl`), or hands the caller's optional port on unchanged (`inr`) to a game function that applies its own default
(`ownDefaultPort`: exactly the six hand-written games) — for every arm, incl. every variant of Minecraft (the
auto-detecting arm passes ONE address to `minecraft::protocol::query`). -/
theorem C14_arms_port (game : Game) (port : Option Nat) (timeout : Option Settings.Timeout) (extra : Option Extra) :
    ∃ call, translatedCall game port timeout extra = some call
      ∧ call.portArg = match ownDefaultPort game.protocol with
          | none => .inl (port.getD game.defaultPort)
          | some _ => .inr port := by
  refine ⟨genericCall game port timeout extra, translatedCall_eq .., ?_⟩
  -- one goal per arm of `genericCall`
  obtain ⟨dp, e | (_ | _ | _) | v | _ | (_ | _ | _ | _ | _ | (_ | (_ | _ | g)) | _), rs⟩ := game <;> rfl

/-- … and for every row of the definitions table the translation, evaluated, is the protocol's own query function at the
caller's port, else the ROW's default port (also for the arms that hand the port on: their callee's default is the row's,
`C14_dispatch_own_default`), with `retriesOf timeout` and the settings rule of `protocolQuery` spelled out per protocol. -/
theorem C14_arms_translation_eq_protocol {d : GameRow} (hd : d ∈ gameDefs) {game : Game} (hg : Game.ofRow d = some game)
    (ext : Ext) (port : Option Nat) (timeout : Option Settings.Timeout) (extra : Option Extra) :
    translated ext game port timeout extra
      = some (protocolQuery ext game.protocol game.requestSettings extra (port.getD d.port) timeout) := by
  rw [C14_arms_translation_eq_generic]
  congr 1
  funext w
  exact C14_dispatch_generic_eq_protocol hd hg ext port timeout extra w

/-- DESTINATION (C09), from the translation: for every row of the definitions table, every script, fault vector, timeout
and extra settings, every socket the translated arm's call opens and every datagram / stream write it sends goes to the
caller's port, or to the ROW's default port when none is given — every arm, every probe of the auto-detecting Minecraft
arm included (it passes one address on). -/
theorem C14_arms_destination_port {d : GameRow} (hd : d ∈ gameDefs) {game : Game} (hg : Game.ofRow d = some game)
    (ext : Ext) (heco : EcoSafeFor ext game.protocol) (port : Option Nat) (timeout : Option Settings.Timeout)
    (extra : Option Extra) (script : List ConnScript) (faults : List Bool) :
    ∃ q, translated ext game port timeout extra = some q ∧
      ∀ e ∈ (q (Net.init script faults)).2.log,
        match e with
        | .opened _ _ p _ => p = port.getD d.port
        | .send _ p _ _ => p = port.getD d.port
        | .recv _ _ _ => True :=
  ⟨_, C14_arms_translation_eq_generic ext game port timeout extra,
    C14_dispatch_destination_port hd hg ext heco port timeout extra script faults⟩

/-- EXTRA SETTINGS (C11), Valve arm: when the caller gives extra settings, what reaches `valve::query` is built from THEM field by
field (players, rules, the app-id check; the protocol's default `Try` / `Try` / `true` for a field left unset) — the
definition's own settings play no part; when the caller gives none, from the DEFINITION's request settings. -/
theorem C14_arms_extra_valve (dp : Nat) (engine : Valve.Engine) (rs : Extra) (port : Option Nat)
    (timeout : Option Settings.Timeout) :
    (∀ e : Extra, translatedCall ⟨dp, .valve engine, rs⟩ port timeout (some e)
      = some (.valveQuery (port.getD dp) engine
          (some ⟨e.gatherPlayers.getD .try_, e.gatherRules.getD .try_, e.checkAppId.getD true⟩) timeout))
    ∧ translatedCall ⟨dp, .valve engine, rs⟩ port timeout none
      = some (.valveQuery (port.getD dp) engine
          (some ⟨rs.gatherPlayers.getD .try_, rs.gatherRules.getD .try_, rs.checkAppId.getD true⟩) timeout) :=
  ⟨fun _ => translatedCall_eq .., translatedCall_eq ..⟩

/-- Unreal2 arm: players / rules from the caller's extra settings (default `Try` / `Enforce` per unset field), the protocol's
defaults when there are none. -/
theorem C14_arms_extra_unreal2 (dp : Nat) (rs : Extra) (port : Option Nat) (timeout : Option Settings.Timeout) :
    (∀ e : Extra, translatedCall ⟨dp, .unreal2, rs⟩ port timeout (some e)
      = some (.unreal2Query (port.getD dp) ⟨e.gatherPlayers.getD .try_, e.gatherRules.getD .enforce⟩ timeout))
    ∧ translatedCall ⟨dp, .unreal2, rs⟩ port timeout none
      = some (.unreal2Query (port.getD dp) ⟨.try_, .enforce⟩ timeout) :=
  ⟨fun _ => translatedCall_eq .., translatedCall_eq ..⟩

/-- Minecraft, Java and auto-detect arms: host name and protocol version of the handshake are the caller's (default
`"gamedig"` / `-1` per unset field); no request settings are passed when the caller gives none (the callee then uses
`RequestSettings::default()`). -/
theorem C14_arms_extra_minecraft (dp : Nat) (rs : Extra) (port : Option Nat) (timeout : Option Settings.Timeout) :
    (∀ e : Extra,
      translatedCall ⟨dp, .proprietary (.minecraft (some .java)), rs⟩ port timeout (some e)
        = some (.mcQueryJava (port.getD dp) timeout
            (some ⟨e.hostname.getD Mc.RequestSettings.default.hostname, e.protocolVersion.getD (-1)⟩))
      ∧ translatedCall ⟨dp, .proprietary (.minecraft none), rs⟩ port timeout (some e)
        = some (.mcQueryAuto (port.getD dp) timeout
            (some ⟨e.hostname.getD Mc.RequestSettings.default.hostname, e.protocolVersion.getD (-1)⟩)))
    ∧ translatedCall ⟨dp, .proprietary (.minecraft (some .java)), rs⟩ port timeout none
        = some (.mcQueryJava (port.getD dp) timeout none)
    ∧ translatedCall ⟨dp, .proprietary (.minecraft none), rs⟩ port timeout none
        = some (.mcQueryAuto (port.getD dp) timeout none) :=
  ⟨fun _ => ⟨translatedCall_eq .., translatedCall_eq ..⟩, translatedCall_eq .., translatedCall_eq ..⟩

/-- Eco arm: the host name (only) of the caller's extra settings. -/
theorem C14_arms_extra_eco (dp : Nat) (rs : Extra) (port : Option Nat) (timeout : Option Settings.Timeout) :
    (∀ e : Extra, translatedCall ⟨dp, .proprietary .eco, rs⟩ port timeout (some e)
      = some (.ecoQuery port timeout (some ⟨e.hostname⟩)))
    ∧ translatedCall ⟨dp, .proprietary .eco, rs⟩ port timeout none = some (.ecoQuery port timeout none) :=
  ⟨fun _ => translatedCall_eq .., translatedCall_eq ..⟩

/-- the protocols whose arm reads the extra settings -/
def C14_arms_readsExtra : Protocol → Bool
  | .valve _ | .unreal2 | .proprietary (.minecraft (some .java)) | .proprietary (.minecraft none) | .proprietary .eco => true
  | _ => false

/-- Every other arm does not read the extra settings, and only the Valve arm reads the definition's request settings. -/
theorem C14_arms_settings_unread (game : Game) (port : Option Nat) (timeout : Option Settings.Timeout)
    (extra : Option Extra) (rs' : Extra) :
    (C14_arms_readsExtra game.protocol = false →
      translatedCall game port timeout extra = translatedCall game port timeout none)
    ∧ ((∀ e, game.protocol ≠ .valve e) →
      translatedCall game port timeout extra = translatedCall { game with requestSettings := rs' } port timeout extra) := by
  simp only [translatedCall_eq]
  -- one goal per arm of `genericCall`: the hypothesis excludes the arms that read the settings in question, and in the
  -- others they do not occur
  obtain ⟨dp, e | (_ | _ | _) | v | _ | (_ | _ | _ | _ | _ | (_ | (_ | _ | g)) | _), rs⟩ := game
  all_goals refine ⟨fun h => ?_, fun h => ?_⟩
  all_goals first | rfl | cases h | exact absurd rfl (h e)

-- the corollaries on concrete rows of the generated table
example (ext : Ext) :
    translated ext ⟨7778, .unreal2, valveIntoExtra Valve.Gather.default⟩ none (some ⟨none, none, none, 2⟩)
        (some ⟨none, none, some .skip, none, none⟩)
      = some (protocolQuery ext .unreal2 (valveIntoExtra Valve.Gather.default) (some ⟨none, none, some .skip, none, none⟩)
          7778 (some ⟨none, none, none, 2⟩)) :=
  C14_arms_translation_eq_protocol
    (d := ⟨"unrealtournament2004", "Unreal Tournament 2004", 7778, "unreal2", "-", "-", true, 7778, false, .unreal2⟩)
    (by decide +kernel) (by decide) ext none _ _
example : C14_arms_readsExtra (.quake .three) = false := rfl
example : (genericCall ⟨25565, .proprietary (.minecraft none), valveIntoExtra Valve.Gather.default⟩ none none
    (some ⟨some [0x6D, 0x63], some 47, none, none, none⟩)).portArg = .inl 25565 := rfl

-- the auto-detecting Minecraft definition, port omitted, 3 retries: whatever the servers do, every probe of the translated
-- arm's call goes to the row's 25565
example (ext : Ext) (script : List ConnScript) (faults : List Bool) :
    ∃ q, translated ext ⟨25565, .proprietary (.minecraft none), valveIntoExtra Valve.Gather.default⟩ none
        (some ⟨none, none, none, 3⟩) none = some q ∧
      ∀ e ∈ (q (Net.init script faults)).2.log,
        match e with
        | .opened _ _ p _ => p = 25565
        | .send _ p _ _ => p = 25565
        | .recv _ _ _ => True :=
  C14_arms_destination_port
    (d := ⟨"minecraft", "Minecraft", 25565, "prop:Minecraft(None)", "-", "-", true, 25565, false, .minecraft .auto⟩)
    (by decide +kernel) (by decide) ext (fun h => by cases h) none _ none script faults
