import GdVerif.Proto.ReaderOps
import GdVerif.Lemmas.VarInt
import GdVerif.Lemmas.Unreal2Safe
/-
  C17 — Packet reader and wire codecs conform to a reference model.

  Property theorems only (helper lemmas live in `GdVerif/Lemmas`).  The model
  these theorems are about is `GdVerif/Buffer.lean` + `Proto/McCodec.lean`; it
  is tied to `crates/lib/src/buffer.rs` and `games/minecraft/types.rs` by the
  correspondence check of `props/c17.py` on every run.
-/
open Gd Gd.Mc

/-- every operation of the packet reader, whatever its arguments, is crash-free and stays on the packet -/
theorem Gd.ROp.safe_exec (e : Endian) (op : ROp) : Safe (op.exec e) := by
  cases op <;> simp only [ROp.exec]
  · exact Safe.bind (safe_readUnsigned _ _) fun _ => Safe.pure _
  · exact Safe.bind (safe_readSigned _ _) fun _ => Safe.pure _
  · exact Safe.bind (safe_moveCursor _) fun _ => Safe.pure _
  · exact Safe.bind (safe_readStringWith _ (utf8Dec_noCrash _)) fun _ => Safe.pure _
  · exact Safe.bind (safe_readStringWith _ (utf8LenDec_noCrash _)) fun _ => Safe.pure _
  · exact Safe.bind (safe_readStringWith _ (utf16Dec_noCrash _ _ _)) fun _ => Safe.pure _
  · exact Safe.bind (safe_switchEndianChunk _) fun _ => Safe.pure _
  · exact Safe.bind safe_getVarint fun _ => Safe.pure _
  · exact Safe.bind safe_getString fun _ => Safe.pure _
  · exact Safe.bind Unreal2.safe_readU2Str fun _ => Safe.pure _

/-- No sequence of reader operations crashes, and the reader stays on the same
packet with its position inside it — for every packet, byte order and
operation history, failed and unterminated reads included. -/
theorem C17_position_within_packet (e : Endian) (ops : List ROp) (b : Buf) :
    ∃ b', ROp.afterAll e ops b = some b' ∧ b'.data = b.data ∧ b'.pos ≤ b.data.length := by
  induction ops generalizing b with
  | nil => exact ⟨b, rfl, rfl, b.pos_le_len⟩
  | cons op r ih =>
    have hp := ROp.safe_exec e op b
    simp only [ROp.afterAll, ROp.after]
    cases hx : op.exec e b with
    | ok x =>
      obtain ⟨v, b1⟩ := x
      rw [hx] at hp
      simp only [Post] at hp
      obtain ⟨b', h1, h2, h3⟩ := ih b1
      exact ⟨b', h1, by rw [h2, hp], by rw [← hp]; exact h3⟩
    | err k => exact ih b
    | crash => rw [hx] at hp; exact hp.elim

example : ROp.afterAll .little [.s8 0, .u 2, .mv (-1), .s16 .big 0 0] (Buf.new [65, 0, 1, 2, 3]) = some ⟨[3, 2, 1, 0, 65], []⟩ := by
  decide

/-- A fixed-width read succeeds exactly when enough bytes remain; it then returns the bytes at the
current position interpreted in the reader's byte order and advances by exactly the width. -/
theorem C17_read_fixed_width (e : Endian) (w : Nat) (b : Buf) :
    (w ≤ b.remaining →
      ∃ b', readUnsigned e w b = .ok (e.decode ((b.data.drop b.pos).take w), b')
        ∧ b'.pos = b.pos + w ∧ b'.data = b.data)
    ∧ (b.remaining < w → readUnsigned e w b = .err .packetUnderflow) := by
  refine ⟨fun h => ⟨b.advance w, ?_, Buf.pos_advance b w h, by simp⟩, readUnsigned_err⟩
  rw [readUnsigned_ok h, Buf.drop_pos_data]

example : readUnsigned .big 2 ⟨[9], [1, 2, 3]⟩ = .ok (258, ⟨[2, 1, 9], [3]⟩) := by decide

/-- Signed reads are the two's-complement reinterpretation of the unsigned read. -/
theorem C17_read_signed (e : Endian) (w : Nat) (b : Buf) (n : Nat) (b' : Buf)
    (h : readUnsigned e w b = .ok (n, b')) : readSigned e w b = .ok (toSigned (8 * w) n, b') := by
  simp [readSigned, h]

/-- Byte-order decoding inverts encoding for every width and value. -/
theorem C17_endian_inverse (e : Endian) (w n : Nat) (h : n < 256 ^ w) (post : Bytes) (b : Buf)
    (hr : b.rest = e.encode w n ++ post) :
    ∃ b', readUnsigned e w b = .ok (n, b') ∧ b'.rest = post ∧ b'.data = b.data :=
  decodes_readUnsigned e w n h b post hr

/-- A delimiter-terminated string read returns exactly the string and consumes exactly the string
and its delimiter. -/
theorem C17_string_terminated (d : UInt8) (s post : Bytes) (b : Buf) (hd : d ∉ s)
    (hv : validUtf8 s = true) (hr : b.rest = s ++ [d] ++ post) :
    ∃ b', readStrUntil d b = .ok (s, b') ∧ b'.rest = post ∧ b'.data = b.data :=
  decodes_readStrUntil d s hd hv b post hr

/-- An unterminated string read returns the rest of the packet and leaves the reader exactly at
the end of the packet (never beyond it). -/
theorem C17_string_unterminated (d : UInt8) (b : Buf) (hd : d ∉ b.rest) (hv : validUtf8 b.rest = true) :
    ∃ b', readStrUntil d b = .ok (b.rest, b') ∧ b'.rest = [] ∧ b'.data = b.data ∧ b'.pos = b.data.length := by
  refine ⟨b.advance b.rest.length, ?_, by simp, by simp, ?_⟩
  · unfold readStrUntil readStringWith utf8Dec
    simp only [findByte_none d b.rest hd, List.take_length, hv]
    have : min (b.rest.length + 1) b.rest.length = b.rest.length := by omega
    simp [this]
  · rw [Buf.pos_advance b _ (Nat.le_refl _), Buf.data_length]; rfl

example : readStrUntil 0 (Buf.new [65, 66]) = .ok ([65, 66], ⟨[66, 65], []⟩) := by decide

/-- A string read looks only at the bytes from the current position on: it is a function of
`rest` alone, whatever precedes the cursor. -/
theorem C17_string_reads_only_remaining (dec : Bytes → Res (Bytes × Nat)) (b c : Buf) (h : b.rest = c.rest) :
    (readStringWith dec b).isOk = (readStringWith dec c).isOk
    ∧ ∀ s b' c', readStringWith dec b = .ok (s, b') → readStringWith dec c = .ok (s, c') → b'.rest = c'.rest := by
  unfold readStringWith
  rw [h]
  constructor
  · cases dec c.rest <;> rfl
  · intro s b' c' hb hc
    cases hdec : dec c.rest with
    | ok x =>
      obtain ⟨s', n⟩ := x
      rw [hdec] at hb hc
      cases hb; cases hc
      simp [h]
    | err k => rw [hdec] at hb; cases hb
    | crash => rw [hdec] at hb; cases hb

/-- `move_cursor` succeeds exactly when the target lies inside the packet. -/
theorem C17_move_cursor (off : Int) (b : Buf) :
    ((0 ≤ (b.pos : Int) + off ∧ (b.pos : Int) + off ≤ b.data.length) →
      ∃ b', moveCursor off b = .ok ((), b') ∧ (b'.pos : Int) = b.pos + off ∧ b'.data = b.data)
    ∧ (((b.pos : Int) + off < 0 ∨ (b.pos : Int) + off > b.data.length) → moveCursor off b = .err .packetBad) := by
  rw [← Buf.len_eq]
  refine ⟨fun ⟨h0, h1⟩ => ?_, moveCursor_err⟩
  by_cases hoff : 0 ≤ off
  · refine ⟨_, moveCursor_forward hoff h1, ?_, Buf.data_advance _ _⟩
    rw [Buf.pos_advance b _ (by simp only [Buf.len, Buf.pos] at h1; omega), Int.natCast_add, Int.toNat_of_nonneg hoff]
  · refine ⟨_, moveCursor_backward (Int.not_le.1 hoff) h0, ?_, Buf.data_retreat _ _⟩
    rw [Buf.pos_retreat b _ (by simp only [Buf.pos] at h0; omega)]
    omega
/-- `switch_endian_chunk(n)` hands out exactly the next `n` bytes and moves past them. -/
theorem C17_switch_endian_chunk (n : Nat) (b : Buf) (h : n ≤ b.remaining) :
    switchEndianChunk n b = .ok ((b.data.drop b.pos).take n, b.advance n) := by
  simp [switchEndianChunk, Nat.not_lt.mpr h, Buf.drop_pos_data]

/-- `u8_lower_upper` splits a byte into its nibbles. -/
theorem C17_lower_upper (n : Nat) (h : n < 256) :
    (lowerUpper n).1 < 16 ∧ (lowerUpper n).2 < 16 ∧ (lowerUpper n).1 + 16 * (lowerUpper n).2 = n := by
  simp only [lowerUpper]
  omega

/-- `error_by_expected_size` succeeds exactly on equality and names the direction otherwise. -/
theorem C17_expected_size (expected size : Nat) :
    (errorByExpectedSize expected size = .ok () ↔ size = expected)
    ∧ (size > expected → errorByExpectedSize expected size = .err .packetOverflow)
    ∧ (size < expected → errorByExpectedSize expected size = .err .packetUnderflow) := by
  unfold errorByExpectedSize
  refine ⟨?_, ?_, ?_⟩
  · split
    · simp; omega
    · split
      · simp; omega
      · simp; omega
  · intro h; simp [h]
  · intro h
    have : ¬ size > expected := by omega
    simp [this, h]

/-- VarInt: decoding inverts encoding for every one of the 2^32 integers, consuming exactly the
encoding, whatever follows it. -/
theorem C17_varint_roundtrip (x : Nat) (hx : x < 2 ^ 32) (post : Bytes) (b : Buf)
    (hr : b.rest = asVarint x ++ post) :
    ∃ b', getVarint b = .ok (x, b') ∧ b'.rest = post ∧ b'.data = b.data :=
  decodes_getVarint x hx b post hr

example : getVarint (Buf.new (asVarint 4294967295 ++ [7])) = .ok (4294967295, ⟨[15, 255, 255, 255, 255], [7]⟩) := by
  decide

/-- VarInt encodings are 1 to 5 bytes long. -/
theorem C17_varint_length (x : Nat) (hx : x < 2 ^ 32) : 1 ≤ (asVarint x).length ∧ (asVarint x).length ≤ 5 :=
  asVarint_length x hx

/-- The encoding is injective on 32-bit integers (it has a left inverse). -/
theorem C17_varint_injective (x y : Nat) (hx : x < 2 ^ 32) (hy : y < 2 ^ 32) (h : asVarint x = asVarint y) :
    x = y := by
  obtain ⟨_, h1, _, _⟩ := decodes_getVarint x hx (Buf.new (asVarint x)) [] (by simp)
  obtain ⟨_, h2, _, _⟩ := decodes_getVarint y hy (Buf.new (asVarint y)) [] (by simp)
  rw [h] at h1
  rw [h1] at h2
  cases h2
  rfl

/-- Over-long encodings are rejected: a fifth byte with any of its four high bits set (which
includes a continuation bit asking for a sixth byte) is an error, whatever the first four bytes
carry. -/
theorem C17_varint_rejects_overlong (b0 b1 b2 b3 b4 : UInt8) (post : Bytes) (b : Buf)
    (h0 : b0.toNat &&& 0x80 ≠ 0) (h1 : b1.toNat &&& 0x80 ≠ 0) (h2 : b2.toNat &&& 0x80 ≠ 0)
    (h3 : b3.toNat &&& 0x80 ≠ 0) (h4 : b4.toNat &&& 0xf0 ≠ 0)
    (hr : b.rest = b0 :: b1 :: b2 :: b3 :: b4 :: post) :
    getVarint b = .err .packetBad :=
  getVarint_overlong b0 b1 b2 b3 b4 post b h0 h1 h2 h3 h4 hr

example : getVarint (Buf.new [0x80, 0x80, 0x80, 0x80, 0x80, 0x00]) = .err .packetBad := by decide
example : getVarint (Buf.new [0xff, 0xff, 0xff, 0xff, 0x1f]) = .err .packetBad := by decide

/-- Whatever is accepted is a 32-bit pattern read from at most five bytes. -/
theorem C17_varint_accepts_at_most_five (b b' : Buf) (v : Nat) (h : getVarint b = .ok (v, b')) :
    v < 2 ^ 32 ∧ b'.remaining + 5 ≥ b.remaining ∧ b'.remaining < b.remaining :=
  getVarint_bounds b b' v h

/-- Minecraft strings: decoding inverts encoding for every valid UTF-8 string the encoder accepts. -/
theorem C17_string_roundtrip (s : Bytes) (hv : validUtf8 s = true) (hl : s.length < 2 ^ 31)
    (post : Bytes) (b : Buf) (enc : Bytes) (henc : asString s = .ok enc) (hr : b.rest = enc ++ post) :
    ∃ b', getString b = .ok (s, b') ∧ b'.rest = post ∧ b'.data = b.data :=
  getString_asString s hv hl post b enc henc hr

example : getString (Buf.new [2, 0xc3, 0xa9, 9]) = .ok ([0xc3, 0xa9], ⟨[0xa9, 0xc3, 2], [9]⟩) := by decide

/-- The string encoder refuses exactly the strings whose length does not fit an `i32`. -/
theorem C17_string_encode_total (s : Bytes) :
    (s.length < 2 ^ 31 → asString s = .ok (asVarint s.length ++ s))
    ∧ (2 ^ 31 ≤ s.length → asString s = .err .invalidInput) := by
  unfold asString
  constructor
  · intro h; simp [h]
  · intro h
    have : ¬ s.length < 2 ^ 31 := by omega
    simp [this]
