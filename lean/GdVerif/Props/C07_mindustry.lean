import GdVerif.Lemmas.Mindustry
/-
  C07 — single-game protocols map every field: Mindustry.

  MODEL: `GdVerif/Proto/Mindustry.lean` (tied to games/mindustry by the C07/C01/C09/C10 checks on every run).
  SPEC:  `GdVerif/Spec/Mindustry.lean` (written from Mindustry's `NetworkIO.writeServerData`).
-/
open Gd Gd.Mindustry Gd.Mindustry.Spec

/-- For every server state in the specification's domain (strings of 0–255 bytes of valid UTF-8, the four
integers over the whole `i32` range, each of the five game modes, the trailing mode name present or absent,
at most 500 bytes in all) the parser returns every field of the reply in the correspondingly named field. -/
theorem C07_mindustry_decode (st : State) (h : wf st = true) :
    parseServerData.run (encode st) = .ok (expected st) :=
  (decodesEnd_serverData st h).run

/-- The whole query against a conforming server (socket, ping, the one reply datagram), for every port and
retry count. -/
theorem C07_mindustry (st : State) (h : wf st = true) (port retries : Nat) :
    (query port retries (Net.init [.opened [.data (encode st)]] [])).1 = .ok (expected st) := by
  rw [query_script st h port retries]

/-- The optional trailing field: present iff the server wrote it. -/
theorem C07_mindustry_mode_name (st : State) (h : wf st = true) :
    (parseServerData.run (encode st)).toOption.map (·.modeName) = some st.modeName := by
  rw [C07_mindustry_decode st h]; rfl

-- non-vacuity: a concrete state in the domain, with the trailing mode name
example :
    let st : State := ⟨[72, 105], [109], 5, -1, 146, [111], .pvp, 2147483647, [], some [120, 121]⟩
    wf st = true ∧ (query 6567 2 (Net.init [.opened [.data (encode st)]] [])).1 = .ok (expected st) := by
  decide +kernel

/-! ### U+0000 inside a string

`writeString` may carry U+0000; the reader ends the text there (its documented delimiter) but moves past the declared
length (the repaired length-prefixed decoder; the unrepaired one stopped inside the string, DESIGN §5), so every other
field is unaffected. -/

/-- For every reply whose strings may contain U+0000 (any bytes up to 255 whose part before the first NUL is valid
UTF-8): each string comes back cut at its first NUL, every other field exactly as sent. -/
theorem C07_mindustry_nul_cut (st : State) (h : wfCut st = true) :
    parseServerData.run (encode st) = .ok (expected (cutState st)) :=
  (decodesEnd_serverData_cut st h).run

-- host `"A\0B"`, the witness of the cursor defect of the unrepaired decoder: only the host is cut
example :
    let st : State := ⟨[65, 0, 66], [109, 97, 112], 1, 2, 146, [111, 102, 102, 105, 99, 105, 97, 108], .survival, 10, [100], none⟩
    wfCut st = true ∧ parseServerData.run (encode st) = .ok { expected st with host := [65] } := by
  decide +kernel
