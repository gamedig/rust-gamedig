import GdVerif.Lemmas.McSafe
import GdVerif.Lemmas.McUnits
/-
  C09 (Minecraft) — requests are the protocol's and go to the given port.

  SPEC: `Spec.javaRequests` (Handshake: VarInt length, packet id 0, VarInt protocol version, String host
  name, Unsigned Short port BIG-endian, next state 1; Status Request `01 00`; then `01 01`, a Ping Request
  without payload that ends the exchange), `Spec.bedrockRequests` (Unconnected Ping), `Spec.legacy*Requests`.
  On the unrepaired tree `C09_minecraft_java_requests` was false: the port went out little-endian.
  (The default port used when the caller gives none belongs to the game wrappers, C14.)
-/
open Gd Gd.Mc Gd.Mc.Spec

/-- The literal requests of the model are the SPEC's: RakNet Unconnected Ping (id 01, time, MAGIC, GUID) and the
three legacy pings (`FE 01 FA` + "GameDig" as a UTF-16BE plugin message tail, `FE 01`, `FE`). -/
theorem C09_minecraft_literal_requests :
    [bedrockRequest] = bedrockRequests
    ∧ [legacyRequest .v1_6] = legacy16Requests
    ∧ [legacyRequest .v1_4] = legacy14Requests
    ∧ [legacyRequest .vb1_8] = legacyB18Requests := by
  decide +kernel

/-- The three Java packets, for every host name (shorter than 2^31 bytes, the protocol's String limit as the
code enforces it), every `i32` protocol version and every port: byte for byte the SPEC's Handshake, Status
Request and bare Ping. -/
theorem C09_minecraft_java_requests (rs : RequestSettings) (port : Nat) (hh : rs.hostname.length < 2 ^ 31) :
    ∃ payload, javaHandshakePayload rs port = .ok payload ∧ javaReqs payload = javaRequests rs port :=
  ⟨_, javaHandshakePayload_ok rs port hh, javaReqs_eq rs port hh⟩

/-- the handshake for the default settings and port 25565, spelled out: length 0x11, id 00, VarInt -1, "gamedig",
port 63 DD (big-endian), next state 01 -/
example : handshake (-1) (asciiBytes "gamedig") 25565
    = [0x11, 0x00, 0xff, 0xff, 0xff, 0xff, 0x0f, 0x07, 0x67, 0x61, 0x6d, 0x65, 0x64, 0x69, 0x67, 0x63, 0xdd, 0x01] := by
  decide +kernel

theorem javaAllowed_spec (rs : RequestSettings) (port : Nat) (hh : rs.hostname.length < 2 ^ 31) (d : Bytes)
    (h : JavaAllowed rs port d) : d ∈ javaRequests rs port := by
  rw [← javaReqs_eq rs port hh]
  rcases h with ⟨payload, hp, rfl⟩ | rfl | rfl
  · rw [javaHandshakePayload_ok rs port hh] at hp
    cases hp
    simp [javaReqs]
  · simp [javaReqs]
  · simp [javaReqs]

/-- Whatever the server does (any script, any failing sends, any JSON crate behaviour): the Java query opens ONE
TCP socket to the given port, everything it sends goes out of that socket to that port and is one of the three
SPEC packets, every receive uses the default buffer, and nothing else touches the transport. -/
theorem C09_minecraft_java_conforms (ext : Ext) (port : Nat) (rs : RequestSettings) (hh : rs.hostname.length < 2 ^ 31)
    (retries : Nat) (script : List ConnScript) (faults : List Bool) :
    ∀ e ∈ (queryJava ext port rs retries (Net.init script faults)).2.log,
      match e with
      | .opened c tcp p _ => c = 0 ∧ tcp = true ∧ p = port
      | .send c p d _ => c = 0 ∧ p = port ∧ d ∈ javaRequests rs port
      | .recv c size _ => c = 0 ∧ size = none := by
  intro e he
  have := log_of_init (queryJava_safe ext port rs retries (Net.init script faults)).2 e he
  cases e with
  | opened c tcp p r => exact this
  | send c p d f => exact ⟨this.1, this.2.1, javaAllowed_spec rs port hh d this.2.2⟩
  | recv c s g => exact this

/-- Bedrock: one UDP socket to the given port; only the Unconnected Ping is ever sent. -/
theorem C09_minecraft_bedrock_conforms (port retries : Nat) (script : List ConnScript) (faults : List Bool) :
    ∀ e ∈ (queryBedrock port retries (Net.init script faults)).2.log,
      match e with
      | .opened c tcp p _ => c = 0 ∧ tcp = false ∧ p = port
      | .send c p d _ => c = 0 ∧ p = port ∧ d = unconnectedPing clientTime clientGuid
      | .recv c size _ => c = 0 ∧ size = none := by
  intro e he
  have := log_of_init (queryBedrock_safe port retries (Net.init script faults)).2 e he
  cases e with
  | opened c tcp p r => exact this
  | send c p d f => exact ⟨this.1, this.2.1, by rw [this.2.2]; decide +kernel⟩
  | recv c s g => exact this

/-- Legacy: one TCP socket to the given port; only that version's ping is ever sent. -/
theorem C09_minecraft_legacy_conforms (g : LegacyGroup) (port retries : Nat) (script : List ConnScript) (faults : List Bool) :
    ∀ e ∈ (queryLegacySpecific g port retries (Net.init script faults)).2.log,
      match e with
      | .opened c tcp p _ => c = 0 ∧ tcp = true ∧ p = port
      | .send c p d _ => c = 0 ∧ p = port ∧ [d] = legacyRequests g
      | .recv c size _ => c = 0 ∧ size = none := by
  intro e he
  have := log_of_init (queryLegacySpecific_safe g port retries (Net.init script faults)).2 e he
  cases e with
  | opened c tcp p r => exact this
  | send c p d f =>
    refine ⟨this.1, this.2.1, ?_⟩
    rw [this.2.2]
    cases g
    · exact C09_minecraft_literal_requests.2.1
    · exact C09_minecraft_literal_requests.2.2.1
    · exact C09_minecraft_literal_requests.2.2.2
  | recv c s g' => exact this

/-- Auto-detect: every socket goes to the given port, every request is one of the five variants' SPEC requests and
goes to that port, every receive uses the default buffer — for every script. -/
theorem C09_minecraft_auto_conforms (ext : Ext) (port : Nat) (rs : RequestSettings) (hh : rs.hostname.length < 2 ^ 31)
    (retries : Nat) (script : List ConnScript) (faults : List Bool) :
    ∀ e ∈ (queryAuto ext port rs retries (Net.init script faults)).2.log,
      match e with
      | .opened _ _ p _ => p = port
      | .send _ p d _ => p = port ∧
          (d ∈ javaRequests rs port ∨ d ∈ bedrockRequests ∨ d ∈ legacy16Requests ∨ d ∈ legacy14Requests ∨ d ∈ legacyB18Requests)
      | .recv _ size _ => size = none := by
  intro e he
  have := ((queryAuto_safe ext port rs retries).run script faults).2 e he
  cases e with
  | opened c tcp p r => exact this
  | recv c s g => exact this
  | send c p d f =>
    refine ⟨this.1, ?_⟩
    have lit := C09_minecraft_literal_requests
    rcases this.2 with hj | hb | ⟨g, hg⟩
    · exact Or.inl (javaAllowed_spec rs port hh d hj)
    · exact Or.inr (Or.inl (by rw [hb, ← lit.1]; exact List.mem_singleton_self _))
    · rw [hg]
      cases g
      · exact Or.inr (Or.inr (Or.inl (by rw [← lit.2.1]; exact List.mem_singleton_self _)))
      · exact Or.inr (Or.inr (Or.inr (Or.inl (by rw [← lit.2.2.1]; exact List.mem_singleton_self _))))
      · exact Or.inr (Or.inr (Or.inr (Or.inr (by rw [← lit.2.2.2]; exact List.mem_singleton_self _))))

/-- "The client sends nothing else": when the server answers, the Java query's complete transport log is — socket
opened, Handshake, Status Request, bare Ping, one receive — in this order, once, whatever the retry count. -/
theorem C09_minecraft_java_exchange (ext : Ext) (st : JavaStatus) (text trailing : Bytes) (j : Json)
    (hparse : ext.parseJson text = some j) (hrep : Represents j st) (hwf : wfJava st text = true)
    (port retries : Nat) (rs : RequestSettings) (hh : rs.hostname.length < 2 ^ 31) :
    (queryJava ext port rs retries (Net.init [.opened [.data (statusResponse text trailing)]] [])).2.log
      = [.opened 0 true port false,
         .send 0 port (handshake rs.protocolVersion rs.hostname port) false,
         .send 0 port statusRequest false,
         .send 0 port bareFinalPing false,
         .recv 0 none (some (statusResponse text trailing).length)] := by
  rw [java_answered ext text trailing j st hparse hrep hwf port retries rs hh _ [] [] rfl rfl]
  simp [own, Net.init, sendEvs, javaRequests]

/-- the same for Bedrock and the legacy variants: one request, one receive -/
theorem C09_minecraft_bedrock_exchange (st : BedrockStatus) (h : wfBedrock st = true) (port retries : Nat) :
    (queryBedrock port retries (Net.init [.opened [.data (unconnectedPong clientTime st)]] [])).2.log
      = [.opened 0 false port false, .send 0 port bedrockRequest false,
         .recv 0 none (some (unconnectedPong clientTime st).length)] := by
  rw [bedrock_answered st h port retries _ [] [] rfl rfl]
  simp [own, Net.init]

theorem C09_minecraft_legacy_exchange (g : LegacyGroup) (pkt : Bytes) (x : JavaResponse)
    (hdec : DecodesEnd (legacyParse g pkt.length) pkt x) (port retries : Nat) :
    (queryLegacySpecific g port retries (Net.init [.opened [.data pkt]] [])).2.log
      = [.opened 0 true port false, .send 0 port (legacyRequest g) false, .recv 0 none (some pkt.length)] := by
  rw [legacy_answered g pkt x hdec port retries _ [] [] rfl rfl]
  simp [own, Net.init]

-- non-vacuity of the exchange theorems: see the examples of Props/C03.lean (`exJava`, `exBedrock`, `ex16`)
example : (queryLegacySpecific .vb1_8 25565 3 (Net.init [.opened [.data (kickOld ⟨[0x41], 5, 20⟩)]] [])).2.log
    = [.opened 0 true 25565 false, .send 0 25565 (legacyRequest .vb1_8) false, .recv 0 none (some (kickOld ⟨[0x41], 5, 20⟩).length)] :=
  C09_minecraft_legacy_exchange .vb1_8 _ _ (decodesEnd_legacyB18 ⟨[0x41], 5, 20⟩ (by decide +kernel)) 25565 3
