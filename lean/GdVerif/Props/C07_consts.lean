import GdVerif.Gen.Consts
import GdVerif.Lemmas.Consts
import GdVerif.Spec.Battalion
import GdVerif.Spec.Jc2m
import GdVerif.Spec.Savage2
import GdVerif.Spec.Mindustry
import GdVerif.Spec.Ffow
import GdVerif.Spec.Eco
import GdVerif.Run.EcoJson
/-
  C07 — the names and numbers of the single-game parsers: SOURCE = MODEL = SPEC (tie by TRANSLATION).

  Battalion 1944 `bat_*` override keys (with the field each overrides), the JC2M typed variables, the cursor moves of
  FFOW and Savage 2, the Mindustry game-mode numbers, the Eco serde rename list (JSON member ↦ struct field, type).
  `Gd.Gen.Consts.*` is regenerated from the source on every run.
-/
open Gd Gd.Gen Gd.ConstsAux

/-! ### Battalion 1944 -/

/-- the `bat_*` keys of `battalion1944::query`, in order, with the `info` field each overrides (the last one is only
removed) = the model's keys -/
theorem C07_consts_battalion_keys :
    [(Battalion.kMaxPlayers, "players_maximum"), (Battalion.kPlayerCount, "players_online"),
     (Battalion.kHasPassword, "has_password"), (Battalion.kName, "name"), (Battalion.kGamemode, "game_mode"),
     (Battalion.kMap, "")] = Consts.battalion_overrides.map (fun p => (asciiBytes p.1, p.2)) := rfl

/-- … used by `overrides` for those fields, the password flag being `== "Y"` -/
theorem C07_consts_battalion_overrides (x : Valve.ServerInfo × Valve.Rules) :
    Battalion.overrides x = (do
      let x ← Battalion.stepNum Battalion.kMaxPlayers (fun i n => { i with playersMaximum := n }) x
      let x ← Battalion.stepNum Battalion.kPlayerCount (fun i n => { i with playersOnline := n }) x
      let x := Battalion.stepVal Battalion.kHasPassword
                (fun i v => { i with hasPassword := v == asciiBytes Consts.battalion_password_yes }) x
      let x := Battalion.stepVal Battalion.kName (fun i v => { i with name := v }) x
      let x := Battalion.stepVal Battalion.kGamemode (fun i v => { i with gameMode := v }) x
      pure (x.1, Valve.mapRemove x.2 Battalion.kMap)) := rfl

/-- SPEC: the keys that do not stay among the rules -/
theorem C07_consts_battalion_spec_keys :
    Battalion.Spec.batKeys = keys (Consts.battalion_overrides.map (·.1)) := rfl

/-! ### JC2M -/

/-- the variables `jc2m::query_with_timeout` takes (`numplayers` inside `Gs3.takeOnline`, `password` through
common.rs) = `Jc2m.buildResponse` -/
theorem C07_consts_jc2m_typed_keys (packets : List Bytes) (vars : Gs3.Vars) (listed : Nat) :
    Jc2m.buildResponse packets = (do
      let first ← okOr packets.head? .packetBad
      let (vars, remaining) ← Gs3.dataToMap first
      let players ← Jc2m.parsePlayers.run remaining
      let (maxText, vars) ← Gs3.takeReq vars (Consts.jc2m_typed_keys.getD 0 "")
      let playersMaximum ← Gs3.parseU 32 maxText
      let (playersOnline, vars) ← Gs3.takeOnline vars players.length
      let (gameVersion, vars) ← Gs3.takeReq vars (Consts.jc2m_typed_keys.getD 2 "")
      let (description, vars) ← Gs3.takeReq vars (Consts.jc2m_typed_keys.getD 3 "")
      let (name, vars) ← Gs3.takeReq vars (Consts.jc2m_typed_keys.getD 4 "")
      let (hasPassword, _) ← Gs3.hasPassword vars
      pure { gameVersion, description, name, hasPassword, players, playersMaximum, playersOnline })
    ∧ Gs3.takeOnline vars listed = (match Gs3.mapTake vars (asciiBytes (Consts.jc2m_typed_keys.getD 1 "")) with
      | (none, vars') => .ok (listed % 2 ^ 32, vars')
      | (some v, vars') => do
        let reported ← Gs3.parseU 64 v
        pure ((if reported < listed then listed else reported) % 2 ^ 32, vars'))
    ∧ Consts.jc2m_typed_keys.getD 5 "" = Consts.gs_password_key
    ∧ Consts.jc2m_typed_keys.length = 6 := ⟨rfl, rfl, rfl, rfl⟩

/-- SPEC: the response fields come from the same variables -/
theorem C07_consts_jc2m_spec_keys (st : Jc2m.Spec.State) :
    Jc2m.Spec.expected st =
      { gameVersion := (Jc2m.Spec.var st (Consts.jc2m_typed_keys.getD 2 "")).getD []
        description := (Jc2m.Spec.var st (Consts.jc2m_typed_keys.getD 3 "")).getD []
        name := (Jc2m.Spec.var st (Consts.jc2m_typed_keys.getD 4 "")).getD []
        hasPassword := Gs3.Spec.flagOf ((Jc2m.Spec.var st (Consts.jc2m_typed_keys.getD 5 "")).getD [])
        players := st.players
        playersMaximum := Gs3.Spec.numOf 32 (Jc2m.Spec.var st (Consts.jc2m_typed_keys.getD 0 ""))
        playersOnline := max (Gs3.Spec.numOf 64 (Jc2m.Spec.var st (Consts.jc2m_typed_keys.getD 1 ""))) st.players.length } := rfl

/-! ### FFOW, Savage 2 -/

/-- FFOW: `buffer.move_cursor(2)` after the version, `move_cursor(1)` (average fps) after the VAC flag -/
theorem C07_consts_ffow_skips :
    Ffow.parseResponse = (do
      let protocolVersion ← readU8
      let name ← readCStr
      let map ← readCStr
      let activeMod ← readCStr
      let gameMode ← readCStr
      let description ← readCStr
      let gameVersion ← readCStr
      moveCursor (Consts.ffow_skips.getD 0 0 : Nat)
      let playersOnline ← readU8
      let playersMaximum ← readU8
      let st ← readU8
      let serverType ← Par.lift (Valve.serverFromGldsrc st)
      let et ← readU8
      let environmentType ← Par.lift (Valve.environmentFromGldsrc et)
      let hasPassword ← Valve.readBoolByte
      let vacSecured ← Valve.readBoolByte
      moveCursor (Consts.ffow_skips.getD 1 0 : Nat)
      let round ← readU8
      let roundsMaximum ← readU8
      let timeLeft ← readUnsigned .big 2
      pure { protocolVersion, name, activeMod, gameMode, gameVersion, description, map, playersOnline, playersMaximum,
             serverType, environmentType, hasPassword, vacSecured, round, roundsMaximum, timeLeft })
    ∧ Consts.ffow_skips.length = 2 := ⟨rfl, rfl⟩

/-- Savage 2: `buffer.move_cursor(12)`: the header in front of the server name -/
theorem C07_consts_savage2_header_skip :
    Savage2.parseResponse = (do
      moveCursor (Consts.savage2_header_skip : Nat)
      let name ← readCStr
      let playersOnline ← readU8
      let playersMaximum ← readU8
      let time ← readCStr
      let map ← readCStr
      let nextMap ← readCStr
      let location ← readCStr
      let playersMinimum ← readU8
      let gameMode ← readCStr
      let protocolVersion ← readCStr
      let levelMinimum ← readU8
      pure { name, playersOnline, playersMaximum, playersMinimum, time, map, nextMap, location, gameMode,
             protocolVersion, levelMinimum }) := rfl

/-! ### Mindustry -/

/-- `impl TryFrom<u8> for GameMode` = `Mindustry.gameModeOf` (as a table over all bytes) = the SPEC's ordinals -/
theorem C07_consts_mindustry_game_modes :
    graph Mindustry.gameModeOf mindustryModeName = Consts.mindustry_game_modes
    ∧ ∀ m : Mindustry.GameMode, (Mindustry.Spec.ordinal m, mindustryModeName m) ∈ Consts.mindustry_game_modes := by
  refine ⟨by decide +kernel, fun m => ?_⟩
  cases m <;> decide +kernel

/-! ### Eco -/

/-- SPEC: the members of `Info`, in order, are the `#[serde(rename = …)]` names of the source — for every state -/
theorem C07_consts_eco_member_names (st : Eco.Spec.State) :
    (Eco.Spec.members st).map (·.1) = keys (Consts.eco_info_members.map (·.1)) := by
  simp only [Eco.Spec.members, List.map_cons, List.map_nil]
  rfl

/-- SPEC: the document is `{"Info": {…}}` (`Root`'s rename) -/
theorem C07_consts_eco_root_member (st : Eco.Spec.State) :
    Eco.Spec.render st = Eco.Spec.jobj [(asciiBytes Consts.eco_root_member, Eco.Spec.jobj (Eco.Spec.members st))] := rfl

/-- the Rust type of a member as the mirror's type tag -/
def C07_consts_tyOf (t : String) : Option Run.EcoJson.Ty :=
  if t == "bool" then some .bool else if t == "u32" then some .u32 else if t == "f64" then some .f64
  else if t == "String" then some .str else if t == "Vec<String>" then some .strs
  else if t == "HashMap<String,String>" then some .map else none

/-- the serde mirror the correspondence runs behind (`Run/EcoJson.lean`, the driver's instance of the serde parameter
of the MODEL): member names and types in declaration order are the source's -/
theorem C07_consts_eco_mirror_fields :
    Run.EcoJson.infoFields.map (fun f => (f.1, some f.2))
      = Consts.eco_info_members.map (fun m => (m.1, C07_consts_tyOf m.2.2)) := rfl

example : Consts.eco_info_members.length = 37 := rfl
example : Consts.battalion_overrides.length = 6 := rfl
