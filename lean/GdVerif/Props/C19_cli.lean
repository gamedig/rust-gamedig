import GdVerif.Lemmas.CliPlan
import GdVerif.Lemmas.CliCodec
import GdVerif.Props.C01_dispatch
import GdVerif.Props.C14_dispatch
import GdVerif.Props.C15
import GdVerif.Props.C19
/-
  C19 — the command-line tool inside the model (`Proto/CliPlan.lean`: `main` from the values of the flags to the
  process outcome; `Proto/CliJson.lean`: the JSON documents and a reader for them; `Proto/CliCodec.lean`: hex and
  base64 with their decoders).

  For EVERY invocation (any flag values), resolver, transport state and behaviour of the external serialisers:
    * the plan: what is handed to the library is the looked-up definition, the caller's port / timeouts / retries /
      extra settings, the host name added iff the host was a name and none was given;
    * every failure — bad flag value, unknown game, unresolvable host, failed query, failed serialisation — ends with a
      non-zero status and a message and NO document; a document is printed exactly when every step succeeded, and
      it is printed last;
    * the document decodes to the value: the JSON reader inverts both printers for every value (strings over all of
      Unicode, control characters, quotes, backslashes, any nesting), hex and base64 decoders invert the encoders
      for every byte string, with the alphabet and the padding RFC 4648 prescribes;
    * generic mode prints exactly the common view (the accessor tables of C15), protocol-specific mode the response
      itself inside its variant wrappers;
    * the tool's own `panic!`s / `expect` are never reached.
  serde's derive output (`Env.render`), serde_json / quick-xml / bson failing or not (`Ser`), the resolver and clap's
  tokenisation are parameters: the theorems hold for all of them.
-/
open Gd Gd.Cli Gd.CliPlan

/-! ### the encodings -/

/-- Base 16: for EVERY byte string the decoder gives back what was encoded; the text has two characters per byte, all
of them lower-case hex digits. -/
theorem C19_cli_hex_decodes (bs : Bytes) :
    hexDecode (hexEncode bs) = some bs ∧ (hexEncode bs).length = 2 * bs.length
    ∧ ∀ c ∈ hexEncode bs, isLowerHexDigit c = true :=
  ⟨hexDecode_encode bs, hexEncode_length bs, hexEncode_alphabet bs⟩

/-- Base 64: for EVERY byte string (any length modulo 3) the decoder gives back what was encoded. -/
theorem C19_cli_base64_decodes (bs : Bytes) : b64Decode (b64Encode bs) = some bs := b64Decode_encode bs

/-- Base 64: four characters per group of three bytes (the last group padded); the text is characters of the
standard alphabet followed by exactly `(3 − n mod 3) mod 3` padding characters `=`, and `=` is not in the alphabet. -/
theorem C19_cli_base64_alphabet_and_padding (bs : Bytes) :
    (b64Encode bs).length = 4 * ((bs.length + 2) / 3)
    ∧ (∃ body, b64Encode bs = body ++ List.replicate ((3 - bs.length % 3) % 3) b64Pad ∧ ∀ c ∈ body, isB64Char c = true)
    ∧ isB64Char b64Pad = false :=
  ⟨b64Encode_length bs, b64Encode_shape bs, b64Pad_not_char⟩

example : b64Encode (asciiBytes "fooba") = asciiBytes "Zm9vYmE=" ∧ b64Decode (asciiBytes "Zm9vYmE=") = some (asciiBytes "fooba")
    ∧ b64Decode (asciiBytes "Zm9vYmF=") = none ∧ hexEncode [0, 255, 16] = asciiBytes "00ff10" := by decide +kernel

/-! ### the JSON documents -/

/-- For EVERY JSON value whose numbers are JSON numbers — strings and member names are ARBITRARY byte strings: every
Unicode scalar value in UTF-8 (also above U+FFFF), control characters, quotes, backslashes —, at any nesting: the
reader gives back the value from the compact document and from the pretty one. -/
theorem C19_cli_json_reads_back (j : J) (hok : j.numbersOk = true) :
    readJson (jsonCompact j) = some j ∧ readJson (jsonPretty j) = some j :=
  ⟨readJson_print .compact Style.compact_ws j hok 0, readJson_print .pretty Style.pretty_ws j hok 0⟩

/-- The same inside any text: the document of a value, after any white space and before anything that cannot continue
a number, is read as that value and nothing more (documents nest). -/
theorem C19_cli_json_reads_back_in_context (j : J) (hok : j.numbersOk = true) (ws rest : Bytes) (d : Nat)
    (hws : ∀ b ∈ ws, isWs b = true) (hrest : Delim rest) :
    readJ ((printJ .pretty d j).length + 1) (ws ++ (printJ .pretty d j ++ rest)) = some (j, rest) :=
  readJ_print .pretty Style.pretty_ws j hok d _ ws rest hws (by have := sizeJ_le_print .pretty j hok d; omega) hrest

/-- Strings over all Unicode scalar values: a string of any scalars (and a member named by any scalars) reads back. -/
theorem C19_cli_json_any_text (cs ks : List Nat) (_hcs : Scalars cs) (_hks : Scalars ks) :
    readJson (jsonCompact (.obj (.cons (utf8Encode ks) (.str (utf8Encode cs)) .nil)))
      = some (.obj (.cons (utf8Encode ks) (.str (utf8Encode cs)) .nil))
    ∧ readJson (jsonPretty (.obj (.cons (utf8Encode ks) (.str (utf8Encode cs)) .nil)))
      = some (.obj (.cons (utf8Encode ks) (.str (utf8Encode cs)) .nil)) :=
  C19_cli_json_reads_back _ rfl

-- non-vacuity: U+10FFFF, U+0001, a quote, a backslash, DEL, U+2028 in a string; the escapes the printer writes
example : jsonCompact (.arr (.cons (.str (utf8Encode [0x10FFFF, 1, 0x22, 0x5C, 0x7F, 0x2028, 10])) (.cons (.num (asciiBytes "-1.5e+300")) .nil)))
    = [0x5B, 0x22, 0xF4, 0x8F, 0xBF, 0xBF] ++ asciiBytes "\\u0001\\\"\\\\" ++ [0x7F, 0xE2, 0x80, 0xA8] ++ asciiBytes "\\n\",-1.5e+300]" := by
  rw [asciiBytes_ofList, asciiBytes_ofList, asciiBytes_ofList]
  decide +kernel
example : (J.arr (.cons (.str (utf8Encode [0x10FFFF, 1, 0x22, 0x5C, 0x7F, 0x2028, 10])) (.cons (.num (asciiBytes "-1.5e+300")) .nil))).numbersOk = true := by
  decide +kernel

/-! ### the plan of an invocation -/

/-- For EVERY invocation and resolver: a plan exists exactly when clap accepts the flag values, the game id is a key of
the definitions table and the host is an IP literal or resolves; then the row is the looked-up one, port, timeout
settings, output mode and format are the caller's, and
  * for a literal host: the address is the literal and the extra settings are the caller's, unchanged;
  * for a name: the address is the resolver's and the extra settings are `set_hostname_if_missing(host, caller's)`. -/
theorem C19_cli_plan (resolve : Bytes → Option Http.IpAddr) (fl : Flags) (p : Plan) :
    plan resolve fl = .ok p ↔
      ∃ args, clap fl = some args ∧ lookupGame args.game = some p.row ∧ p.port = args.port
        ∧ p.timeoutSettings = args.timeoutSettings ∧ p.outputMode = args.outputMode ∧ p.format = args.format
        ∧ ((parseIpAddr args.ip = some p.address ∧ p.hostWasName = false ∧ p.extraOptions = args.extraOptions)
          ∨ (parseIpAddr args.ip = none ∧ p.hostWasName = true ∧ resolve args.ip = some p.address
              ∧ p.extraOptions = setHostnameIfMissing args.ip args.extraOptions)) := by
  obtain ⟨row, nm, addr, port, ts, ex, om, fm⟩ := p
  rw [plan_eq]
  cases hc : clap fl with
  | none => simp
  | some args =>
    simp only [Option.some.injEq, exists_eq_left']
    cases hg : lookupGame args.game with
    | none => simp
    | some row' =>
      cases hp : parseIpAddr args.ip with
      | some ip =>
        simp only [Step.ok.injEq, Plan.mk.injEq, Option.some.injEq, reduceCtorEq, false_and, or_false]
        constructor <;> (rintro ⟨rfl, rfl, rfl, rfl, rfl, rfl, rfl, rfl⟩; simp)
      | none =>
        cases hr : resolve args.ip with
        | none => simp
        | some ip =>
          simp only [Step.ok.injEq, Plan.mk.injEq, Option.some.injEq, reduceCtorEq, false_and, false_or, true_and]
          constructor <;> (rintro ⟨rfl, rfl, rfl, rfl, rfl, rfl, rfl, rfl⟩; simp)

/-- `set_hostname_if_missing`: the result always names a host — the one the caller gave if there was one, the host of the
command line otherwise — and every other field is the caller's (absent if there were no extra settings). -/
theorem C19_cli_hostname_added_iff_missing (host : Bytes) (extra : Option Dispatch.Extra) :
    ∃ e, setHostnameIfMissing host extra = some e
      ∧ e.hostname = some ((extra.bind (·.hostname)).getD host)
      ∧ e.protocolVersion = extra.bind (·.protocolVersion) ∧ e.gatherPlayers = extra.bind (·.gatherPlayers)
      ∧ e.gatherRules = extra.bind (·.gatherRules) ∧ e.checkAppId = extra.bind (·.checkAppId) :=
  setHostnameIfMissing_spec host extra

/-- The keys of the definitions table are ASCII (so `lookupGame`'s comparison of bytes is `GAMES.get`'s of strings), and
every row is found under its own id. -/
theorem C19_cli_ids_ascii :
    (Gen.gameDefs.all fun row => row.id.toList.all fun c => c.toNat < 128) = true := by decide +kernel

-- non-vacuity: a name for a Minecraft server without `--hostname`; the same with one; a literal
example : plan (fun _ => some (.v4 10 0 0 7)) { game := some (asciiBytes "minecraft"), ip := some (asciiBytes "mc.example.org"), retries := some (asciiBytes "2") }
    = .ok ⟨⟨"minecraft", "Minecraft", 25565, "prop:Minecraft(None)", "-", "-", true, 25565, false, .minecraft .auto⟩, true, .v4 10 0 0 7, none,
        some ⟨some ⟨4, 0⟩, some ⟨4, 0⟩, some ⟨4, 0⟩, 2⟩, some ⟨some (asciiBytes "mc.example.org"), none, none, none, none⟩, .generic, .debug⟩ := by
  decide +kernel
example : (plan (fun _ => none) { game := some (asciiBytes "q3a"), ip := some (asciiBytes "::ffff:1.2.3.4"), port := some (asciiBytes "-0") }).bind
    (fun p => .ok (p.hostWasName, p.address, p.port, p.extraOptions)) = .ok (false, .v6 0 0 0 0 0 0xFFFF 0x0102 0x0304, some 0, none) := by
  decide +kernel
example : plan (fun _ => none) { game := some (asciiBytes "q3a"), ip := some (asciiBytes "1.2.3.04") } = .fail (.invalidHostname (asciiBytes "1.2.3.04")) := by
  decide +kernel

/-! ### the ways out -/

/-- A bad flag value (or a missing `--game` / `--ip`): clap's usage error, whatever else. -/
theorem C19_cli_bad_flag (env : Env) (fl : Flags) (w : Net) (h : clap fl = none) : main env fl w = .usage := by
  rw [main_eq, plan_eq, h]

/-- An unknown game id (any text that is not a key of the table): `Err(UnknownGame)`. -/
theorem C19_cli_unknown_game (env : Env) (fl : Flags) (w : Net) (args : Args) (h : clap fl = some args)
    (hg : lookupGame args.game = none) : main env fl w = .fail (.unknownGame args.game) := by
  rw [main_eq, plan_eq, h]
  simp only [hg]

/-- A host that is neither an IP literal nor resolvable: `Err(InvalidHostname)`. -/
theorem C19_cli_unresolvable_host (env : Env) (fl : Flags) (w : Net) (args : Args) (row : Gen.GameRow)
    (h : clap fl = some args) (hg : lookupGame args.game = some row) (hp : parseIpAddr args.ip = none)
    (hr : env.resolve args.ip = none) : main env fl w = .fail (.invalidHostname args.ip) := by
  rw [main_eq, plan_eq, h]
  simp only [hg, hp, hr]

/-- The model has an arm for every row `find_game` can return. -/
theorem C19_cli_never_outside_the_model (env : Env) (fl : Flags) (w : Net) : main env fl w ≠ .unmodelled := by
  rw [main_eq]
  cases hp : plan env.resolve fl with
  | ok p =>
    obtain ⟨args, _, hg, _⟩ := (C19_cli_plan env.resolve fl p).mp hp
    have hsome := List.all_eq_true.mp C14_dispatch_rows_modelled.1 p.row (lookupGame_mem hg)
    obtain ⟨game, hgame⟩ := Option.isSome_iff_exists.mp hsome
    simp only [hgame]
    cases (Dispatch.generic env.dispatch game p.port p.timeoutSettings p.extraOptions w).1 with
    | ok r =>
      simp only
      rcases document_cases env.ser p.format (valueFor p.outputMode (env.render r)) with ⟨_, h⟩ | ⟨_, h⟩ | ⟨h, _⟩ <;>
        rw [h] <;> nofun
    | err k => simp
    | crash => simp
  | unmodelled => exact absurd hp (plan_ne_panic env.resolve fl).2
  | _ => simp

/-- THE QUERY ISSUED and what happens to its result: with a plan, `main` runs exactly the library's generic query of the
plan's definition with the plan's port, timeout and extra settings; a failed query is `Err(Gamedig)`; a response is
handed to the writer of the requested format as `as_json()` / `as_original()` according to the mode. -/
theorem C19_cli_after_the_plan (env : Env) (fl : Flags) (w : Net) (p : Plan) (game : Dispatch.Game)
    (hp : plan env.resolve fl = .ok p) (hg : Dispatch.Game.ofRow p.row = some game) :
    main env fl w =
      match (Dispatch.generic env.dispatch game p.port p.timeoutSettings p.extraOptions w).1 with
      | .ok response => document env.ser p.format (valueFor p.outputMode (env.render response))
      | .err kind => .fail (.gamedig kind)
      | .crash => .panic := by
  rw [main_eq, hp]
  simp only [hg]
  rfl

/-- A failed query (any error kind, in particular an unreachable server) ends with `Err(Gamedig)`. -/
theorem C19_cli_failed_query (env : Env) (fl : Flags) (w : Net) (p : Plan) (game : Dispatch.Game) (k : ErrKind)
    (hp : plan env.resolve fl = .ok p) (hg : Dispatch.Game.ofRow p.row = some game)
    (hq : (Dispatch.generic env.dispatch game p.port p.timeoutSettings p.extraOptions w).1 = .err k) :
    main env fl w = .fail (.gamedig k) := by
  rw [C19_cli_after_the_plan env fl w p game hp hg, hq]

/-- Every writer: all that can fail comes BEFORE the one `println!`.  The outcome of a writer on a value is a
document (then every serialiser step succeeded) or an error / a panic with nothing printed:
  JSON: `Err(Serde)` iff serde_json fails;  XML: `Err(Serde)` / `Err(Xml)` iff `to_value` / a `write_event` fails;
  BSON: `Err(Bson)` iff `to_bson` or `to_vec` fails; the `panic!` only for a value that is not a document. -/
theorem C19_cli_writer_outcomes (ser : Ser) (v : J) :
    document ser .debug v = .ok (ser.debugText v)
    ∧ document ser .json v = (if ser.jsonOk v then .ok (jsonCompact v) else .fail .serde)
    ∧ document ser .jsonPretty v = (if ser.jsonOk v then .ok (jsonPretty v) else .fail .serde)
    ∧ (ser.jsonOk v = false → document ser .xml v = .fail .serde)
    ∧ (ser.jsonOk v = true → ser.xmlWriteOk v = false → document ser .xml v = .fail .xml)
    ∧ (ser.toBsonOk v = false → document ser .bsonHex v = .fail .bson ∧ document ser .bsonBase64 v = .fail .bson)
    ∧ (ser.toBsonOk v = true → isObj v = true → ser.bsonBytes v = none →
        document ser .bsonHex v = .fail .bson ∧ document ser .bsonBase64 v = .fail .bson) := by
  refine ⟨rfl, rfl, rfl, fun h => by simp [document, h], fun h1 h2 => by simp [document, h1, h2],
    fun h => by simp [document, bsonDocument, h], fun h1 h2 h3 => by simp [document, bsonDocument, h1, h2, h3, orFail]⟩

/-- A DOCUMENT IS PRINTED ONLY WHEN EVERY STEP SUCCEEDED: if `main` prints `doc`, then clap accepted the flags, the game
was found, the host was a literal or resolved, the query returned a response and the writer of the requested format
produced `doc` from the value of the requested mode. -/
theorem C19_cli_document_only_on_success (env : Env) (fl : Flags) (w : Net) (doc : Bytes) (h : main env fl w = .ok doc) :
    ∃ p game response, plan env.resolve fl = .ok p ∧ Dispatch.Game.ofRow p.row = some game
      ∧ (Dispatch.generic env.dispatch game p.port p.timeoutSettings p.extraOptions w).1 = .ok response
      ∧ document env.ser p.format (valueFor p.outputMode (env.render response)) = .ok doc := by
  rw [main_eq] at h
  cases hp : plan env.resolve fl with
  | ok p =>
    simp only [hp] at h
    cases hg : Dispatch.Game.ofRow p.row with
    | none => simp [hg] at h
    | some game =>
      simp only [hg] at h
      cases hq : (Dispatch.generic env.dispatch game p.port p.timeoutSettings p.extraOptions w).1 with
      | ok response => simp only [hq] at h; exact ⟨p, game, response, rfl, hg, hq, h⟩
      | err k => simp [hq] at h
      | crash => simp [hq] at h
  | _ => simp [hp] at h

/-- THE EXIT STATUS, for every invocation, environment and transport state: status 0 exactly when a document was printed —
then stdout is that document and a newline and nothing is written to stderr; in every other case (usage error, `Err`
from `main`, panic) the status is not 0, NOTHING is on stdout and there is a message. -/
theorem C19_cli_exit_status (env : Env) (fl : Flags) (w : Net) :
    ∃ o, (main env fl w).process = some o
      ∧ (o.exitCode = 0 ↔ ∃ doc, main env fl w = .ok doc)
      ∧ (∀ doc, main env fl w = .ok doc → o = ⟨0, doc ++ [0x0A], false⟩)
      ∧ (o.exitCode ≠ 0 → o.stdout = [] ∧ o.message = true) := by
  have hne := C19_cli_never_outside_the_model env fl w
  cases h : main env fl w with
  | ok doc => exact ⟨_, rfl, ⟨fun _ => ⟨doc, rfl⟩, fun _ => rfl⟩, fun d hd => (by cases hd; rfl), fun hx => absurd rfl hx⟩
  | unmodelled => exact absurd h hne
  | _ => exact ⟨_, rfl, ⟨fun hx => (by cases hx), fun ⟨_, hx⟩ => (by cases hx)⟩, fun d hd => (by cases hd), fun _ => ⟨rfl, rfl⟩⟩

/-- NEVER A PANIC: if the external pieces behave as Rust guarantees — Eco's HTTP client does not panic (C01's
hypothesis), a response is wrapped in at least one variant by `as_original()`, and what `to_value` builds holds only
text — then, for every invocation and every transport state, none of the tool's own `panic!`s / `expect` is reached
and the library's query does not crash. -/
theorem C19_cli_no_panic (env : Env) (fl : Flags) (w : Net) (heco : Dispatch.EcoSafe env.dispatch)
    (hvariants : ∀ r, (env.render r).variants ≠ []) (htext : ∀ v, TextOk (env.ser.toValue v)) :
    main env fl w ≠ .panic := by
  rw [main_eq]
  cases hp : plan env.resolve fl with
  | ok p =>
    simp only
    cases hg : Dispatch.Game.ofRow p.row with
    | none => simp
    | some game =>
      simp only
      have hq := C01_dispatch_any_state env.dispatch game (fun _ => heco) p.port p.timeoutSettings p.extraOptions w
      cases hres : (Dispatch.generic env.dispatch game p.port p.timeoutSettings p.extraOptions w).1 with
      | ok response =>
        simp only
        have hobj := isObj_valueFor p.outputMode (env.render response) (hvariants response)
        have hutf := validUtf8_renderDocument _ (htext (valueFor p.outputMode (env.render response)))
        rcases document_cases env.ser p.format (valueFor p.outputMode (env.render response)) with
          ⟨_, h⟩ | ⟨_, h⟩ | ⟨_, ⟨_, hv⟩ | ⟨_, ho⟩⟩
        · rw [h]; nofun
        · rw [h]; nofun
        · rw [hutf] at hv; cases hv
        · rw [hobj] at ho; cases ho
      | err k => simp
      | crash => exact absurd hres hq
  | panic => exact absurd hp (plan_ne_panic env.resolve fl).1
  | _ => simp

/-! ### the document holds the values -/

/-- JSON and pretty JSON: the printed document reads back as EXACTLY the value of the requested mode (for every
response, accessor table and variant wrapper). -/
theorem C19_cli_json_document_holds_the_value (ser : Ser) (mode : OutputMode) (r : Rendered) (doc : Bytes) :
    (document ser .json (valueFor mode r) = .ok doc → readJson doc = some (valueFor mode r))
    ∧ (document ser .jsonPretty (valueFor mode r) = .ok doc → readJson doc = some (valueFor mode r)) := by
  have hok := numbersOk_valueFor mode r
  -- either writer prints only when serde_json succeeds, and then the printer's text
  have hdoc : ∀ text : Bytes, (if ser.jsonOk (valueFor mode r) then Step.ok text else .fail .serde) = .ok doc → text = doc := by
    intro text h
    cases hj : ser.jsonOk (valueFor mode r) <;> simp [hj] at h
    exact h
  exact ⟨fun h => hdoc _ h ▸ (C19_cli_json_reads_back _ hok).1, fun h => hdoc _ h ▸ (C19_cli_json_reads_back _ hok).2⟩

/-- BSON as hex / as base64: the printed text decodes to exactly the bytes `bson::to_vec` produced for the value (which
is a document). -/
theorem C19_cli_bson_document_decodes (ser : Ser) (v : J) (doc : Bytes) :
    (document ser .bsonHex v = .ok doc → ∃ b, ser.bsonBytes v = some b ∧ isObj v = true ∧ hexDecode doc = some b)
    ∧ (document ser .bsonBase64 v = .ok doc → ∃ b, ser.bsonBytes v = some b ∧ isObj v = true ∧ b64Decode doc = some b) := by
  -- both texts are `bsonDocument` followed by an encoder that its decoder inverts
  have hdec : ∀ (enc : Bytes → Bytes) (dec : Bytes → Option Bytes), (∀ b, dec (enc b) = some b) →
      (bsonDocument ser v >>= fun b => pure (enc b)) = Step.ok doc →
      ∃ b, ser.bsonBytes v = some b ∧ isObj v = true ∧ dec doc = some b := by
    intro enc dec hinv h
    rcases bsonDocument_cases ser v with ⟨_, hb⟩ | ⟨_, _, hb⟩ | ⟨_, _, _, hb⟩ | ⟨b, _, ho, hbytes, hb⟩
    · simp [hb] at h
    · simp [hb] at h
    · simp [hb] at h
    · simp only [hb, Step.bind_ok, Step.pure_eq, Step.ok.injEq] at h
      subst h
      exact ⟨b, hbytes, ho, hinv b⟩
  exact ⟨hdec hexEncode hexDecode hexDecode_encode, hdec b64Encode b64Decode b64Decode_encode⟩

/-- XML: the printed document is the converter's rendering of `to_value(value)` — the document the theorems of `C19.lean`
are about (names, nesting, escaping) — and it is UTF-8. -/
theorem C19_cli_xml_document (ser : Ser) (v : J) (doc : Bytes) (h : document ser .xml v = .ok doc) :
    doc = renderDocument (ser.toValue v) ∧ validUtf8 doc = true := by
  simp only [document] at h
  by_cases hj : (!ser.jsonOk v) = true
  · rw [if_pos hj] at h; cases h
  by_cases hw : (!ser.xmlWriteOk v) = true
  · rw [if_neg hj, if_pos hw] at h; cases h
  by_cases hv : (!validUtf8 (renderDocument (ser.toValue v))) = true
  · rw [if_neg hj, if_neg hw, if_pos hv] at h; cases h
  rw [if_neg hj, if_neg hw, if_neg hv] at h
  have hdoc : renderDocument (ser.toValue v) = doc := Step.ok.inj h
  rw [← hdoc]
  exact ⟨rfl, by simpa using hv⟩

/-- XML: for EVERY Unicode scalar value of a server string, what the converter writes for it is made of XML characters only:
the character itself where XML 1.1 allows it literally, one of the five named references, or a numeric reference to an
XML character (the controls); U+0000, U+FFFE and U+FFFF — no XML characters, not even as references — become U+FFFD. -/
theorem C19_cli_xml_only_xml_characters (isAttr : Bool) (c : Nat) (hc : isScalar c = true) :
    (∃ c', xmlLiteralOk c' = true ∧ escapeScalar isAttr c = utf8EncodeChar c')
    ∨ escapeScalar isAttr c ∈ [asciiBytes "&amp;", asciiBytes "&lt;", asciiBytes "&gt;", asciiBytes "&quot;", asciiBytes "&apos;"]
    ∨ (xmlCharOk c = true ∧ escapeScalar isAttr c = asciiBytes "&#x" ++ hexUpper c ++ asciiBytes ";") := by
  have hs := (isScalar_iff c).mp hc
  rcases escapeScalar_cases isAttr c with h | h | ⟨hctl, h0, h⟩ | ⟨hlit, ⟨_, _, _, _, _, h0, hFFFE, hFFFF⟩, h⟩
  · exact Or.inr (Or.inl h)
  · exact Or.inl ⟨0xFFFD, by decide, h⟩
  · refine Or.inr (Or.inr ⟨?_, h⟩)
    have := (isControl_iff c).mp hctl
    simp only [xmlCharOk, Bool.or_eq_true, Bool.and_eq_true, decide_eq_true_eq]
    omega
  · refine Or.inl ⟨c, ?_, h⟩
    have : (c = 9 ∨ c = 10) ∨ ¬ (c < 32 ∨ (127 ≤ c ∧ c < 160)) := hlit.imp And.left (mt (isControl_iff c).mpr)
    simp only [xmlLiteralOk, Bool.or_eq_true, Bool.and_eq_true, decide_eq_true_eq, beq_iff_eq]
    omega

example : escapeScalar false 0xFFFF = [0xEF, 0xBF, 0xBD] ∧ escapeScalar true 0xFFFE = [0xEF, 0xBF, 0xBD] ∧ escapeScalar false 0xFFFD = [0xEF, 0xBF, 0xBD]
    ∧ escapeScalar false 0x10FFFF = [0xF4, 0x8F, 0xBF, 0xBF] ∧ escapeScalar false 0x85 = asciiBytes "&#x85;" := by decide +kernel

/-- GENERIC MODE PRINTS EXACTLY THE COMMON VIEW: the value is the object of the ten members of `CommonResponseJson`, in
that order, each the value of the type's accessor (the generated tables of C15: `C15_json_is_the_view`), the players
as the list of their own `as_json()`. -/
theorem C19_cli_generic_is_the_common_view (r : Rendered) :
    valueFor .generic r =
      .obj (.cons (asciiBytes "name") (valToJ (Views.eval (Views.accessor r.responseTable "name") r.tree))
        (.cons (asciiBytes "description") (valToJ (Views.eval (Views.accessor r.responseTable "description") r.tree))
        (.cons (asciiBytes "game_mode") (valToJ (Views.eval (Views.accessor r.responseTable "game_mode") r.tree))
        (.cons (asciiBytes "game_version") (valToJ (Views.eval (Views.accessor r.responseTable "game_version") r.tree))
        (.cons (asciiBytes "map") (valToJ (Views.eval (Views.accessor r.responseTable "map") r.tree))
        (.cons (asciiBytes "players_maximum") (valToJ (Views.eval (Views.accessor r.responseTable "players_maximum") r.tree))
        (.cons (asciiBytes "players_online") (valToJ (Views.eval (Views.accessor r.responseTable "players_online") r.tree))
        (.cons (asciiBytes "players_bots") (valToJ (Views.eval (Views.accessor r.responseTable "players_bots") r.tree))
        (.cons (asciiBytes "has_password") (valToJ (Views.eval (Views.accessor r.responseTable "has_password") r.tree))
        (.cons (asciiBytes "players")
          (valToJ (match Views.eval (Views.accessor r.responseTable "players") r.tree with
            | .arr ps => .arr (ps.map (Views.playerJson r.playerTable))
            | v => v)) .nil)))))))))) := by
  simp only [valueFor, Views.responseJson, valToJ, fieldsToJ]
  rfl

/-- PROTOCOL-SPECIFIC MODE PRINTS THE ORIGINAL RESPONSE: the value is the response's own serde tree inside one object
per variant of `as_original()`'s wrapper (`{"Valve": response}`, `{"GameSpy": {"One": response}}`). -/
theorem C19_cli_protocol_specific_is_the_original (r : Rendered) :
    unwrapVariants r.variants (valueFor .protocolSpecific r) = some (valToJ r.tree) := by
  simp only [valueFor]
  generalize r.variants = vs
  induction vs with
  | nil => rfl
  | cons v rest ih => simp only [wrapVariants, unwrapVariants, ↓reduceIte, ih]

-- non-vacuity: protocol-specific mode, compact JSON, a response inside its variant wrappers; and back
example :
    jsonCompact (valueFor .protocolSpecific ⟨.obj [("name", .str (asciiBytes "a\"b")), ("players", .arr [.obj [("frags", .num (-3))]])], [], [], ["GameSpy", "One"]⟩)
      = asciiBytes "{\"GameSpy\":{\"One\":{\"name\":\"a\\\"b\",\"players\":[{\"frags\":-3}]}}}"
    ∧ (readJson (asciiBytes "{\"GameSpy\":{\"One\":{\"name\":\"a\\\"b\",\"players\":[{\"frags\":-3}]}}}")).map jsonPretty
      = some (jsonPretty (valueFor .protocolSpecific ⟨.obj [("name", .str (asciiBytes "a\"b")), ("players", .arr [.obj [("frags", .num (-3))]])], [], [], ["GameSpy", "One"]⟩)) := by
  rw [asciiBytes_ofList, asciiBytes_ofList]
  decide +kernel
