import GdVerif.Spec.Eco
/-
  C09 — requests go to the right port: Eco, the constants.  `Proto/Eco.lean` fixes the document's path and the default port.
  The HTTP client that uses them is modelled in `Proto/Http.lean` (`Eco.query`), and that its request is `GET /frontpage` to the
  caller's address and port with the right `Host` header is `Props/C09_http.lean: C09_eco_request_v4 / _v6 / _named`; the same is
  observed on every run by the `eco_http` / `eco_http6` entries against a real loopback server.  (The dispatcher's Eco arm,
  `Proto/Dispatch.lean: ecoQuery`, takes the fetch as a parameter `Ext.ecoFetch`; no theorem instantiates it with `Eco.query`.)
-/
open Gd

theorem C09_eco_path_and_port : Eco.PATH = "/frontpage" ∧ Eco.DEFAULT_PORT = Eco.Spec.defaultPort := ⟨rfl, rfl⟩
