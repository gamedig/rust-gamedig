import GdVerif.Gen.Consts
import GdVerif.Lemmas.Consts
import GdVerif.Spec.Unreal2
/-
  C06 — the constants of the Unreal 2 string decoder and section parsers: SOURCE = MODEL = SPEC (tie by TRANSLATION).
  `Gd.Gen.Consts.*` is regenerated from protocols/unreal2/{protocol,types}.rs on every run.
-/
open Gd Gd.Gen Gd.ConstsAux

/-- `decode_string`: a length byte ≥ 0x80 announces UCS-2 (`(length & 0x7f) * 2` bytes), a stray `1` may follow it -/
theorem C06_consts_unreal2_string_lengths (sl body : Bytes) :
    Unreal2.u2Dec sl = (match sl with
      | [] => .err .packetBad
      | l :: body =>
        if l.toNat ≥ num Consts.unreal2_string_consts "ucs2_threshold"
        then Unreal2.ucs2Part ((l.toNat % (num Consts.unreal2_string_consts "length_mask" + 1)) * 2)
               (Unreal2.strayOf body) (body.drop (Unreal2.strayOf body))
        else Unreal2.latin1Part l.toNat body)
    ∧ Unreal2.strayOf body = (if body.head? == some (UInt8.ofNat (num Consts.unreal2_string_consts "stray_byte")) then 1 else 0) := ⟨rfl, rfl⟩

/-- the colour escape `0x1b` drops itself and the next 3 characters; characters up to `0x1a` are removed -/
theorem C06_consts_unreal2_colour_filter (skip c : Nat) (r : List Nat) :
    Unreal2.colourFilter skip (c :: r)
      = (if skip > 0 then Unreal2.colourFilter (skip - 1) r
         else if c == num Consts.unreal2_string_consts "colour_escape"
           then Unreal2.colourFilter (num Consts.unreal2_string_consts "colour_skip") r
         else c :: Unreal2.colourFilter 0 r)
    ∧ Unreal2.isCtl c = (0 < c && c ≤ num Consts.unreal2_string_consts "last_control") := ⟨rfl, rfl⟩

/-- `impl TryFrom<u8> for PacketKind` = `Unreal2.packetKindOf`; the 4 header bytes skipped in front of the kind -/
theorem C06_consts_unreal2_packet_kind_of (expected : Unreal2.PacketKind) :
    graph Unreal2.packetKindOf u2KindName = Consts.unreal2_packet_kind_of
    ∧ Unreal2.consumeHeaders expected = (do
      moveCursor (Consts.unreal2_header_skip : Nat)
      let t ← readU8
      let kind ← Par.lift (Unreal2.packetKindOf t)
      (if kind != expected then Par.fail .packetBad else pure () : Par Unit)) := ⟨by decide +kernel, rfl⟩

/-- `key.eq_ignore_ascii_case("mutator")`, `rules.get("GamePassword")` compared with `"true"` — MODEL and SPEC -/
theorem C06_consts_unreal2_rule_names (info : Unreal2.ServerInfo) (mr : Unreal2.MutatorsAndRules) (k : Bytes) :
    Unreal2.mutatorKey = asciiBytes Consts.unreal2_mutator_key
    ∧ Unreal2.Spec.isMutatorKey k = (asciiLower k == asciiBytes Consts.unreal2_mutator_key)
    ∧ Unreal2.gamePasswordKey = asciiBytes (Consts.unreal2_password_rule.getD 0 "")
    ∧ Unreal2.applyPassword info mr = (match mr.rules.lookup Unreal2.gamePasswordKey with
      | some vs => { info with password := asciiLower vs.flatten == asciiBytes (Consts.unreal2_password_rule.getD 1 "") }
      | none => info)
    ∧ Unreal2.Spec.expectedPassword mr = (match mr.rules.lookup (asciiBytes (Consts.unreal2_password_rule.getD 0 "")) with
      | some vs => asciiLower vs.flatten == asciiBytes (Consts.unreal2_password_rule.getD 1 "")
      | none => false) := ⟨rfl, rfl, rfl, rfl, rfl⟩

example : Consts.unreal2_string_consts.length = 6 := rfl
