import GdVerif.Lemmas.Gs1Faults
/-
  C04 — GameSpy 1 replies are decoded completely.

  MODEL: `GdVerif/Proto/Gs1.lean` (protocols/gamespy/protocols/one, repaired tree; tied to the code by
  `./check C04` on every run).
  SPEC:  `GdVerif/Spec/Gs1.lean` — abstract server state ↦ the datagrams a GameSpy 1 server sends
  (`\key\value…\queryid\N.M`, `\final\` in the last part), written from node-gamedig's gamespy1.js.

  The domain (`Spec.wf`): texts are UTF-8 without backslash and NUL, numbers in the range of the
  response's fields, extra variables with distinct keys that are neither typed keys nor player
  fields, ANY number of players (0–64 and beyond: < 65536) each with ANY subset of the optional
  fields, ANY cut of the variables into parts (1–7 and beyond: < 65536 parts, empty parts included)
  as long as a datagram fits the 2048-byte receive buffer, every writing style the protocol leaves
  open (`player`/`playername`, `AdminName`/`admin`, `0`/`1`/`true`/`False`…, padded numbers, `final`
  before or after `queryid`, any query id below 2^64).
-/
open Gd Gd.Gs Gd.Gs1 Gd.Gs1.Spec

/-- `one::query` returns the server's name, map, map title, admin contact and name, password flag,
mode, version, player limits, EVERY player with every field exactly as sent, the tournament flag,
and exactly the other variables as unused entries — for every well-formed state, writing style and
cut into parts, whatever the retry setting. -/
theorem C04_gs1_query (y : Style) (st : State) (h : wf y st = true) (port retries : Nat) :
    (query port retries (Net.init [.opened ((script y st).map .data)] [])).1 = .ok (expected st) :=
  query_perm_expected (wf_iff y st h) port retries (script y st) (List.Perm.refl _)

/-- `one::query_vars` returns exactly the key/value pairs sent. -/
theorem C04_gs1_query_vars (y : Style) (st : State) (h : wf y st = true) (port retries : Nat) :
    (queryVars port retries (Net.init [.opened ((script y st).map .data)] [])).1 = .ok (expectedVars y st) :=
  queryVars_any_order (wf_iff y st h) port retries (script y st) (List.Perm.refl _)

/-- "All other variables, and only those": a pair is an unused entry of the response exactly when
it was sent, its key is not one of the typed keys and it is not a player field. -/
theorem C04_gs1_unused_exact (y : Style) (st : State) (h : wf y st = true) (p : Bytes × Bytes) :
    p ∈ (expected st).unusedEntries ↔ (p ∈ allPairs y st ∧ p.1 ∉ typedKeys ∧ playerField p.1 = none) := by
  have hw := wf_iff y st h
  have hperm : p ∈ canon st.extras ↔ p ∈ st.extras := (canon_perm_self st.extras).mem_iff
  show p ∈ canon st.extras ↔ _
  rw [hperm]
  constructor
  · intro he
    exact ⟨by simp [allPairs, he], (hw.extrasKeys p he).1, (hw.extrasKeys p he).2⟩
  · rintro ⟨hall, hnt, hpf⟩
    rcases mem_allPairs hall with hs | he | hpl
    · exact absurd (serverPairs_key y st hs).2.2.1 hnt
    · exact he
    · obtain ⟨k, _, n, _, _, e2⟩ := playerField_player hw hpl
      rw [e2] at hpf; cases hpf

/-- Numbers travel as decimal text and come back as the numbers (the piece of the decoding that is
not structural): every `u8`/`u16`/`u32`/`i32` value, with any padding. -/
theorem C04_gs1_numbers (y : Style) :
    (∀ n, n < 2 ^ 8 → trimParseU 8 (padding y ++ dec n) = .ok n)
    ∧ (∀ n, n < 2 ^ 16 → trimParseU 16 (padding y ++ dec n) = .ok n)
    ∧ (∀ n, n < 2 ^ 32 → trimParseU 32 (padding y ++ dec n) = .ok n)
    ∧ (∀ i : Int, -(2 ^ 31 : Int) ≤ i → i < 2 ^ 31 → trimParseI 32 (padding y ++ decInt i) = .ok i) :=
  ⟨fun n h => trimParseU_padded y 8 n h, fun n h => trimParseU_padded y 16 n h, fun n h => trimParseU_padded y 32 n h,
   fun i h1 h2 => trimParseI_padded y i h1 h2⟩

def C04_gs1_exState : Spec.State :=
  { name := bs "Srv", map := bs "dm1", mapTitle := none, adminContact := none,
    adminName := some (bs "me"), hasPassword := true, gameMode := bs "DM", gameVersion := bs "451",
    playersMaximum := 16, playersMinimum := none,
    players := [⟨bs "Bob", some 1, 45, none, some (bs "s"), none, -3, none, some 100, some false⟩],
    tournament := none, extras := [(bs "gamename", bs "ut")] }

def C04_gs1_exStyle : Style := ⟨5, [4], true, 1, true, false, true, 1⟩

/-- non-vacuity: a concrete state (one player with optional fields, an extra variable, two parts)
satisfies `wf`, and the theorem's conclusion is checked on it by evaluation -/
theorem C04_gs1_exChecked : wf C04_gs1_exStyle C04_gs1_exState = true ∧ (script C04_gs1_exStyle C04_gs1_exState).length = 2 ∧
    (query 7777 0 (Net.init [.opened ((script C04_gs1_exStyle C04_gs1_exState).map .data)] [])).1 = .ok (expected C04_gs1_exState) := by
  decide +kernel

example : wf C04_gs1_exStyle C04_gs1_exState = true ∧ (script C04_gs1_exStyle C04_gs1_exState).length = 2 ∧
    (query 7777 0 (Net.init [.opened ((script C04_gs1_exStyle C04_gs1_exState).map .data)] [])).1 = .ok (expected C04_gs1_exState) :=
  C04_gs1_exChecked
