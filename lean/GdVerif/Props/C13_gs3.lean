import GdVerif.Lemmas.Gs3Cost
import GdVerif.Lemmas.Gs3Block
/-
  C13 (requests sent) — GameSpy 3 (`query` and `query_vars`).  One attempt of the retried unit is:
  handshake request → challenge reply → data request → splitnum packets.  `units` = 1: the data
  request is sent only after the challenge reply has been received, so it is paid for by that
  datagram (`send_units` = 1 in `props/families/gs3.py`).  Independently of what is received there are
  never more than two requests per attempt.
-/
open Gd Gd.Gs3

/-- Whatever the server does, for every script, fault vector and retry setting, the GameSpy 3 query
sends at most one datagram per attempt plus one per datagram received. -/
theorem C13_gs3_send_bound (port retries : Nat) (script : List ConnScript) (faults : List Bool) :
    nSends (query port retries (Net.init script faults)).2.log
      ≤ 1 * (retries + 1) + nRecvOk (query port retries (Net.init script faults)).2.log := by
  have := (cost_query port retries).total script faults
  omega

/-- … and never more than two per attempt, however many datagrams it receives. -/
theorem C13_gs3_send_bound_abs (port retries : Nat) (script : List ConnScript) (faults : List Bool) :
    nSends (query port retries (Net.init script faults)).2.log ≤ 2 * (retries + 1) :=
  (sends_query port retries).total script faults

theorem C13_gs3_vars_send_bound (port retries : Nat) (script : List ConnScript) (faults : List Bool) :
    nSends (queryVars port retries (Net.init script faults)).2.log
      ≤ 1 * (retries + 1) + nRecvOk (queryVars port retries (Net.init script faults)).2.log := by
  have := (cost_queryVars port retries).total script faults
  omega

theorem C13_gs3_vars_send_bound_abs (port retries : Nat) (script : List ConnScript) (faults : List Bool) :
    nSends (queryVars port retries (Net.init script faults)).2.log ≤ 2 * (retries + 1) :=
  (sends_queryVars port retries).total script faults

/-- The first bound is attained for every retry setting: a server that never answers gets exactly
`retries + 1` handshake requests (and no data request). -/
theorem C13_gs3_send_bound_attained (port retries : Nat) :
    nSends (query port retries (Net.init [] [])).2.log = retries + 1
      ∧ nRecvOk (query port retries (Net.init [] [])).2.log = 0 :=
  ⟨(silent_query port retries (Net.init [] []) rfl rfl).counts.2.1,
   (silent_query port retries (Net.init [] []) rfl rfl).counts.2.2.2.1⟩

/-- Both bounds are attained at once by a server that answers every handshake (challenge "0") and
then stays silent: with one retry, 4 requests = 2 · 2 = 2 + 2 received. -/
example :
    nSends (query 2302 1 (Net.init [.opened [.data [9, 0, 0, 0, 1, 48, 0], .silence, .data [9, 0, 0, 0, 1, 48, 0], .silence]] [])).2.log = 4
    ∧ nRecvOk (query 2302 1 (Net.init [.opened [.data [9, 0, 0, 0, 1, 48, 0], .silence, .data [9, 0, 0, 0, 1, 48, 0], .silence]] [])).2.log = 2 := by
  decide +kernel
