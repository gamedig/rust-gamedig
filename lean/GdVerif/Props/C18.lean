import GdVerif.Proto.Settings
import GdVerif.Lemmas.Par
import GdVerif.Props.C10
/-
  C18 — Settings are validated; no accepted configuration can panic.
-/
open Gd Gd.Settings

/-- The constructor rejects a zero read, write or connect duration with `InvalidInput`, whatever
the other values. -/
theorem C18_new_rejects_zero (read write connect : Option Duration) (retries : Nat)
    (h : zeroOpt read = true ∨ zeroOpt write = true ∨ zeroOpt connect = true) :
    new read write connect retries = .err .invalidInput := by
  unfold new
  rcases h with h | h | h
  · simp [h]
  · cases hr : zeroOpt read <;> simp [h]
  · cases hr : zeroOpt read <;> cases hw : zeroOpt write <;> simp [h]

/-- …and accepts everything else unchanged (any non-zero durations incl. 1 ns and u64::MAX s, `None`,
any retry count). -/
theorem C18_new_accepts_nonzero (read write connect : Option Duration) (retries : Nat)
    (hr : zeroOpt read = false) (hw : zeroOpt write = false) (hc : zeroOpt connect = false) :
    new read write connect retries = .ok ⟨connect, read, write, retries⟩ := by
  simp [new, hr, hw, hc]

/-- Command-line flags: a flag value that parses to zero is rejected. -/
theorem C18_clap_rejects_zero (s : Bytes) (h : parseUnsigned 64 s = some 0) :
    parseDurationSecs s = .err .invalidInput := by
  simp [parseDurationSecs, h]

/-- Command-line flags: `"0"`, `"00"`, `"+0"` are all zero. -/
theorem C18_clap_zero_spellings :
    parseDurationSecs (asciiBytes "0") = .err .invalidInput
    ∧ parseDurationSecs (asciiBytes "00") = .err .invalidInput
    ∧ parseDurationSecs (asciiBytes "+0") = .err .invalidInput := by decide

theorem parseDurationSecs_nonzero {s : Bytes} {d : Duration} (h : parseDurationSecs s = .ok d) : d.isZero = false := by
  unfold parseDurationSecs at h
  split at h
  · cases h
  · split at h
    · cases h
    · rename_i hne
      cases h
      simp only [Duration.isZero, Bool.and_eq_false_iff]
      exact Or.inl (by simpa using hne)

/-- Command-line flags: whatever is accepted has three non-zero durations. -/
theorem C18_clap_accepted_nonzero (connect read write retries : Option Bytes) (t : Timeout)
    (h : fromClap connect read write retries = .ok t) :
    zeroOpt t.read = false ∧ zeroOpt t.write = false ∧ zeroOpt t.connect = false := by
  obtain ⟨c, hc, h⟩ := Res.bind_eq_ok h
  obtain ⟨r, hr, h⟩ := Res.bind_eq_ok h
  obtain ⟨w, hw, h⟩ := Res.bind_eq_ok h
  obtain ⟨n, _, h⟩ := Res.bind_eq_ok h
  cases h
  exact ⟨parseDurationSecs_nonzero hr, parseDurationSecs_nonzero hw, parseDurationSecs_nonzero hc⟩

/-- Deserialisation goes through the constructor: same rejection, same acceptance. -/
theorem C18_serde_is_new (connect read write : Option Duration) (retries : Nat) :
    fromSerde connect read write retries = new read write connect retries := rfl

/-- what the constructor accepts has no zero duration -/
theorem new_ok_nonzero {read write connect : Option Duration} {retries : Nat} {t : Timeout}
    (h : new read write connect retries = .ok t) :
    zeroOpt t.read = false ∧ zeroOpt t.write = false ∧ zeroOpt t.connect = false := by
  unfold new at h
  split at h; · cases h
  split at h; · cases h
  split at h; · cases h
  rename_i h1 h2 h3
  cases h
  exact ⟨eq_false_of_ne_true h1, eq_false_of_ne_true h2, eq_false_of_ne_true h3⟩

/-- Every accepted configuration — from the constructor, the flags, deserialisation, `Default`, or no
settings at all — passes `apply_timeout` without the `unwrap` panicking, and `connect_timeout` at worst
returns an error value. -/
theorem C18_accepted_cannot_panic (t : Timeout)
    (h : (∃ r w c n, new r w c n = .ok t) ∨ (∃ c r w n, fromClap c r w n = .ok t)
      ∨ (∃ c r w n, fromSerde c r w n = .ok t) ∨ t = default) :
    applyTimeout (some t) = .ok () ∧ connectStep (some t) ≠ .crash ∧ applyTimeout none = .ok () := by
  have hz : zeroOpt t.read = false ∧ zeroOpt t.write = false ∧ zeroOpt t.connect = false := by
    rcases h with ⟨r, w, c, n, h⟩ | ⟨c, r, w, n, h⟩ | ⟨c, r, w, n, h⟩ | rfl
    · exact new_ok_nonzero h
    · exact C18_clap_accepted_nonzero c r w n t h
    · exact new_ok_nonzero h
    · exact ⟨rfl, rfl, rfl⟩
  refine ⟨?_, ?_, rfl⟩
  · simp only [applyTimeout, Option.getD_some, hz.1, hz.2.1, Bool.or_self, Bool.false_eq_true, ↓reduceIte]
  · simp only [connectStep, Option.getD_some, hz.2.2, Bool.false_eq_true, ↓reduceIte, ne_eq, reduceCtorEq, not_false_eq_true]

/-- Any retry count whatever (in particular `usize::MAX`) can be used: the retry combinator has no
crash of its own (see C10), and the Valve query is crash-free for every retry count (C01). -/
theorem C18_any_retry_count (r : Nat) (f : Q α) (w : Net) (hf : ∀ w, (f w).1 ≠ .crash) :
    (retryOnTimeout r f w).1 ≠ .crash :=
  C10_no_crash_of_its_own r f w hf

example : new (some ⟨0, 1⟩) none (some ⟨18446744073709551615, 0⟩) 18446744073709551615
    = .ok ⟨some ⟨18446744073709551615, 0⟩, some ⟨0, 1⟩, none, 18446744073709551615⟩ := by decide
example : new (some ⟨0, 0⟩) none none 0 = .err .invalidInput := by decide

/-- What the sockets and the retry loops are handed: the helpers return the read, the write and the connect
duration and the retry count of the settings, each under its own name, and the defaults (4 s each, no retry)
when there are no settings. -/
theorem C18_effective_timeouts (t : Timeout) :
    readAndWriteOrDefaults (some t) = (t.read, t.write) ∧ connectOrDefault (some t) = t.connect
    ∧ retriesOrDefault (some t) = t.retries
    ∧ readAndWriteOrDefaults none = (some ⟨4, 0⟩, some ⟨4, 0⟩) ∧ connectOrDefault none = some ⟨4, 0⟩
    ∧ retriesOrDefault none = 0 :=
  ⟨rfl, rfl, rfl, rfl, rfl, rfl⟩
