import GdVerif.Lemmas.GsSafe
import GdVerif.Spec.Gs2
/-
  C09 — Requests are the protocol's and go to the right port: GameSpy 2.
  One request: `FE FD 00`, the 4-byte id `00 00 00 01`, and `FF FF FF` (server variables, player
  table and team table); no challenge.
-/
open Gd Gd.Gs Gd.Gs2

/-- The request the client sends is byte for byte the specification's. -/
theorem C09_gs2_request_bytes : [request] = Spec.requests := by decide

/-- Whatever the server does, everything `query` does with the transport is: open ONE UDP socket
to the given port, send the request to that port from that socket, receive into the 2048-byte
buffer.  Nothing else is ever sent. -/
theorem C09_gs2_conforms (port retries : Nat) (script : List ConnScript) (faults : List Bool) :
    ∀ e ∈ (query port retries (Net.init script faults)).2.log,
      match e with
      | .opened c tcp p _ => c = 0 ∧ tcp = false ∧ p = port
      | .send c p data _ => c = 0 ∧ p = port ∧ data = [0xFE, 0xFD, 0x00, 0x00, 0x00, 0x00, 0x01, 0xFF, 0xFF, 0xFF]
      | .recv c size _ => c = 0 ∧ size = some 2048 := by
  intro e he
  have := log_of_init (query_safe port retries _).2 e he
  cases e with
  | opened c tcp p r => exact this
  | send c p d f => exact this
  | recv c s gt => exact this

/-- The session id of the reply must be the one sent: a reply whose header is not `00 00 00 00 01`
is rejected. -/
theorem C09_gs2_session_id_checked (h id : Nat) (hh : h < 256) (hid : id < 2 ^ 32) (rest : Bytes)
    (hne : h ≠ 0 ∨ id ≠ 1) :
    checkHeader.run (natBE 1 h ++ natBE 4 id ++ rest) = .err .packetBad := by
  have d1 := decodes_readUnsigned .big 1 h (by simpa using hh)
  have d4 := decodes_readUnsigned .big 4 id (by simpa using hid)
  obtain ⟨b1, h1, hr1, _⟩ := d1 (Buf.new (natBE 1 h ++ natBE 4 id ++ rest)) (natBE 4 id ++ rest) (by simp [Endian.encode])
  unfold Par.run checkHeader
  rw [Par.bind_ok h1]
  by_cases hz : h = 0
  · have hid1 : id ≠ 1 := by rcases hne with h' | h'; exact absurd hz h'; exact h'
    obtain ⟨b2, h2, _, _⟩ := d4 b1 rest (by simpa [Endian.encode] using hr1)
    simp only [hz, bne_self_eq_false, Bool.false_eq_true, ↓reduceIte]
    rw [Par.bind_ok h2]
    simp [hid1]
  · simp [hz]

-- non-vacuity
example : (query 2302 0 (Net.init [.opened [.data [0, 0, 0, 0, 2]]] [])).2.log
    = [.opened 0 false 2302 false, .send 0 2302 request false, .recv 0 (some 2048) (some 5)] := by
  decide +kernel
