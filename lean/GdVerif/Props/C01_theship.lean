import GdVerif.Lemmas.TheShip
/-
  C01 — hostile replies never crash or hang a query: The Ship (`games::theship::query_with_timeout`).
-/
open Gd

/-- For EVERY script, port, retry count, send-fault vector and behaviour of the bzip2/CRC decoders The Ship's
query (a Valve query with engine app 2400 followed by the conversion that requires ship fields, players and
rules) returns a response or an error, never a crash. -/
theorem C01_theship (ext : Valve.Ext) (port retries : Nat) (script : List ConnScript) (faults : List Bool) :
    (TheShip.query ext port retries (Net.init script faults)).1 ≠ .crash :=
  (TheShip.query_safe ext port retries (Net.init script faults)).1

/-- The conversion alone, on any Valve response (ship fields / players / rules / deaths / money missing or not). -/
theorem C01_theship_conversion (r : Valve.Response) : TheShip.convert r ≠ .crash := TheShip.convert_ne r

-- non-vacuity: a server that answers the info request and nothing else: players are required → PacketBad
example :
    (TheShip.query ⟨fun _ => none, fun _ => 0⟩ 27015 0 (Net.init [.opened [.data
      ([0xFF, 0xFF, 0xFF, 0xFF, 0x49, 17, 0, 0, 0, 0] ++ [0x60, 0x09] ++ [1, 8, 0, 100, 108, 0, 1, 2, 3, 4, 0])]] [])).1
      = .err .packetBad := by
  decide +kernel
