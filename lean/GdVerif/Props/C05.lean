import GdVerif.Lemmas.QuakeFaults
/-
  C05 — Quake 1/2/3 status replies yield all variables and players.

  MODEL: `GdVerif/Proto/Quake.lean` (tied to protocols/quake by `props/c05.py` on every run).
  SPEC:  `GdVerif/Spec/Quake.lean` (the servers' print formats; reply, expected response, domain `wf`).

  Domain (`Spec.wf`): any list of variables with distinct keys whose keys and values are valid UTF-8 without `\`
  and line feed, naming the host (`hostname` or `sv_hostname`), the map (`mapname` or `map`) and the maximum
  (`maxclients` or `sv_maxclients`, a decimal below 256); 0–255 player lines (the property asks for 0–64) whose
  numbers fit the response's integer types; names / skins / addresses valid UTF-8 without `"` and line feed,
  quoted (then spaces are allowed) or not (then without space); optional address (Quake 2/3); optional
  trailing NUL; the whole reply one UDP datagram (≤ 65535 bytes).
-/
open Gd Gd.Quake Gd.Quake.Spec

/-- The whole exchange: the server answers the status request with the specified reply; the query returns the
response the specification entitles the user to — for every version, port, retry count. -/
theorem C05_query (cfg : Config) (st : State) (hw : wf cfg st = true) (port retries : Nat) :
    (query port cfg.version retries (Net.init [.opened [.data (reply cfg st)]] [])).1 = expected cfg st := by
  -- the plan without failed attempts scripts one flag `false`; the query cannot tell that from no flag
  rw [← (query_recovers cfg st hw port retries [] (Nat.zero_le _) [] []).1]
  exact ((flagBlind_query port cfg.version retries).init _ [false] (by simp)).1

/-- The parser alone, on what follows the header (whatever the transport did). -/
theorem C05_parse (cfg : Config) (st : State) (hw : wf cfg st = true) :
    (parseBody cfg.version).run (body cfg st) = expected cfg st :=
  parseBody_body cfg st hw

/-- On the domain the expected response is a response (not an error), and it is made of: the named
variables, one player per line in order, the count of lines, every other variable. -/
theorem C05_expected (cfg : Config) (st : State) (hw : wf cfg st = true) :
    ∃ r, expected cfg st = .ok r
      ∧ (named st.vars hostnameKey hostnameAlt).map (·.2) = some r.name
      ∧ (named st.vars mapKey mapAlt).map (·.2) = some r.map
      ∧ ((named st.vars maxKey maxAlt).bind fun p => parseUnsigned 8 p.2) = some r.playersMaximum
      ∧ r.gameVersion = (named st.vars versionKey versionAlt).map (·.2)
      ∧ r.players = st.lines.map (·.player)
      ∧ r.playersOnline = st.lines.length := by
  obtain ⟨kn, name, km, map, kx, mx, m, h1, h2, h3, h4, he⟩ := expected_wf cfg st hw
  exact ⟨_, he, by rw [h1]; rfl, by rw [h2]; rfl, by rw [h3]; exact h4, rfl, rfl, rfl⟩

/-- The query returns one player entry per player line, in order, with that line's fields, and the online
count is the number of lines. -/
theorem C05_players (cfg : Config) (st : State) (hw : wf cfg st = true) (port retries : Nat) :
    ∃ r, (query port cfg.version retries (Net.init [.opened [.data (reply cfg st)]] [])).1 = .ok r
      ∧ r.players = st.lines.map (·.player) ∧ r.playersOnline = st.lines.length := by
  obtain ⟨r, he, _, _, _, _, hp, hc⟩ := C05_expected cfg st hw
  exact ⟨r, by rw [C05_query cfg st hw, he], hp, hc⟩

/-- All other variables appear unchanged in the unused entries: every variable the server lists whose key is
none of the eight spellings is in `unused` with its value, and `unused` holds nothing the server did not list. -/
theorem C05_unused (cfg : Config) (st : State) (hw : wf cfg st = true) (port retries : Nat) :
    ∃ r, (query port cfg.version retries (Net.init [.opened [.data (reply cfg st)]] [])).1 = .ok r
      ∧ (∀ kv ∈ st.vars, kv.1 ∉ [hostnameKey, hostnameAlt, mapKey, mapAlt, maxKey, maxAlt, versionKey, versionAlt] →
          kv ∈ r.unused)
      ∧ (∀ kv ∈ r.unused, kv ∈ st.vars) := by
  obtain ⟨kn, name, km, map, kx, mx, m, h1, h2, h3, h4, he⟩ := expected_wf cfg st hw
  refine ⟨_, by rw [C05_query cfg st hw, he], fun kv hkv hnot => ?_, fun kv hkv => (List.mem_filter.mp hkv).1⟩
  simp only [List.mem_cons, List.not_mem_nil, or_false, not_or] at hnot
  obtain ⟨n1, n2, n3, n4, n5, n6, n7, n8⟩ := hnot
  refine List.mem_filter.mpr ⟨hkv, ?_⟩
  simp only [Bool.not_eq_true', List.contains_eq_mem, decide_eq_false_iff_not, List.cons_append, List.nil_append,
    List.mem_cons, not_or]
  -- every key taken out is one of the eight spellings
  refine ⟨fun e => ?_, fun e => ?_, fun e => ?_, fun hm => ?_⟩
  · exact (named_key h1).elim (fun e' => n1 (e.trans e')) fun e' => n2 (e.trans e')
  · exact (named_key h2).elim (fun e' => n3 (e.trans e')) fun e' => n4 (e.trans e')
  · exact (named_key h3).elim (fun e' => n5 (e.trans e')) fun e' => n6 (e.trans e')
  · exact (List.mem_cons.mp (optKey_subset _ _ _ _ hm)).elim n7 fun h => n8 (List.mem_singleton.mp h)

/-- The count is computed as `players.len() as u8`; within the domain (fewer than 256 lines) that is the
number of lines, as `C05_players` states.  Outside it the count wraps modulo 256 (recorded, not in the property's
domain of 0–64 lines). -/
theorem C05_count_is_u8 (vars : Vars) (players : List Player) (r : Response)
    (h : buildResponse vars players = .ok r) : r.playersOnline = players.length % 256 ∧ r.players = players := by
  -- each of the four `?` before the record hands a value on or ends the computation; the record is the last line
  unfold buildResponse at h
  obtain ⟨_, _, h⟩ := Res.bind_eq_ok h
  obtain ⟨_, _, h⟩ := Res.bind_eq_ok h
  obtain ⟨_, _, h⟩ := Res.bind_eq_ok h
  obtain ⟨_, _, h⟩ := Res.bind_eq_ok h
  cases h
  exact ⟨rfl, rfl⟩

/-! ### non-vacuity: concrete replies in the domain -/

/-- Quake 2: `\sv_hostname\A b\mapname\q2dm1\maxclients\8\cheats\0`, then `-3 45 "Mr Foo" "10.0.0.1:27901"`
(a quoted name with a space, an address) and `7 0 bot` (an unquoted name, no address) -/
def C05_exampleQ2 : State :=
  ⟨[([0x73, 0x76, 0x5f, 0x68, 0x6f, 0x73, 0x74, 0x6e, 0x61, 0x6d, 0x65], [0x41, 0x20, 0x62]),
    ([0x6d, 0x61, 0x70, 0x6e, 0x61, 0x6d, 0x65], [0x71, 0x32, 0x64, 0x6d, 0x31]),
    ([0x6d, 0x61, 0x78, 0x63, 0x6c, 0x69, 0x65, 0x6e, 0x74, 0x73], [0x38]),
    ([0x63, 0x68, 0x65, 0x61, 0x74, 0x73], [0x30])],
   [⟨.two ⟨-3, 45, [0x4d, 0x72, 0x20, 0x46, 0x6f, 0x6f],
       some [0x31, 0x30, 0x2e, 0x30, 0x2e, 0x30, 0x2e, 0x31, 0x3a, 0x32, 0x37, 0x39, 0x30, 0x31]⟩, true, true⟩,
    ⟨.two ⟨7, 0, [0x62, 0x6f, 0x74], none⟩, false, true⟩]⟩

/-- QuakeWorld: `\hostname\QW\map\dm3\sv_maxclients\16\*version\2.40`, then `5 12 300 40 "Ranger One" "base" 4 13`,
a trailing NUL -/
def C05_exampleQ1 : State :=
  ⟨[([0x68, 0x6f, 0x73, 0x74, 0x6e, 0x61, 0x6d, 0x65], [0x51, 0x57]),
    ([0x6d, 0x61, 0x70], [0x64, 0x6d, 0x33]),
    ([0x73, 0x76, 0x5f, 0x6d, 0x61, 0x78, 0x63, 0x6c, 0x69, 0x65, 0x6e, 0x74, 0x73], [0x31, 0x36]),
    ([0x2a, 0x76, 0x65, 0x72, 0x73, 0x69, 0x6f, 0x6e], [0x32, 0x2e, 0x34, 0x30])],
   [⟨.one ⟨5, 12, 300, 40, [0x52, 0x61, 0x6e, 0x67, 0x65, 0x72, 0x20, 0x4f, 0x6e, 0x65], [0x62, 0x61, 0x73, 0x65], 4, 13⟩,
      true, true⟩]⟩

theorem C05_exampleQ2_wf : wf ⟨.two, false⟩ C05_exampleQ2 = true := by decide +kernel

theorem C05_exampleQ1_wf : wf ⟨.one, true⟩ C05_exampleQ1 = true := by decide +kernel

set_option maxRecDepth 8000 in
example : wf ⟨.two, false⟩ C05_exampleQ2 = true ∧ wf ⟨.three, false⟩ C05_exampleQ2 = true
    ∧ wf ⟨.one, true⟩ C05_exampleQ1 = true :=
  ⟨C05_exampleQ2_wf, by decide +kernel, C05_exampleQ1_wf⟩

set_option maxRecDepth 8000 in
example : (query 27910 .two 2 (Net.init [.opened [.data (reply ⟨.two, false⟩ C05_exampleQ2)]] [])).1
    = .ok { name := [0x41, 0x20, 0x62], map := [0x71, 0x32, 0x64, 0x6d, 0x31],
            players := [.two ⟨-3, 45, [0x4d, 0x72, 0x20, 0x46, 0x6f, 0x6f],
                          some [0x31, 0x30, 0x2e, 0x30, 0x2e, 0x30, 0x2e, 0x31, 0x3a, 0x32, 0x37, 0x39, 0x30, 0x31]⟩,
                        .two ⟨7, 0, [0x62, 0x6f, 0x74], none⟩],
            playersOnline := 2, playersMaximum := 8, gameVersion := none,
            unused := [([0x63, 0x68, 0x65, 0x61, 0x74, 0x73], [0x30])] } := by
  rw [C05_query ⟨.two, false⟩ C05_exampleQ2 C05_exampleQ2_wf]
  decide +kernel

set_option maxRecDepth 8000 in
example : (query 27500 .one 0 (Net.init [.opened [.data (reply ⟨.one, true⟩ C05_exampleQ1)]] [])).1
    = .ok { name := [0x51, 0x57], map := [0x64, 0x6d, 0x33],
            players := [.one ⟨5, 12, 300, 40, [0x52, 0x61, 0x6e, 0x67, 0x65, 0x72, 0x20, 0x4f, 0x6e, 0x65],
                          [0x62, 0x61, 0x73, 0x65], 4, 13⟩],
            playersOnline := 1, playersMaximum := 16, gameVersion := some [0x32, 0x2e, 0x34, 0x30], unused := [] } := by
  rw [C05_query ⟨.one, true⟩ C05_exampleQ1 C05_exampleQ1_wf]
  decide +kernel

/-! ### the two recorded findings (known_findings.json), as theorems about the model

Replies that are in the Quake formats but outside `Spec.wf`, because the response types cannot hold them.  The
check probes both on the real code on every run (`props/families/quake.py: FINDING_PROBES`). -/

/-- A numeric field that starts with a minus sign is a `TypeParse` error for every unsigned field: a Quake 1
line with a negative frag count (`one::Player.score` is a `u16`) fails the whole query. -/
theorem C05_finding_negative_frags (bits : Nat) (ds : Bytes) :
    fieldUnsigned bits (some (0x2D :: ds)) = .err .typeParse := by
  have : parseUnsigned bits (0x2D :: ds) = none := by
    have hsp : stripPlus (0x2D :: ds) = 0x2D :: ds := by
      unfold stripPlus
      split
      · rename_i r heq
        injection heq with h1 _
        exact absurd h1 (by decide)
      · rfl
    have hd : isDigit 0x2D = false := by decide
    unfold parseUnsigned
    simp [hsp, hd]
  simp [fieldUnsigned, this, okOr]

/-- A line (the variables line or a player line) that is not valid UTF-8 is a `PacketBad` error: Quake text is
byte strings (QuakeWorld names use the bytes ≥ 0x80), the response fields are `String`s read strictly. -/
theorem C05_finding_non_utf8 (s post : Bytes) (hd : (0x0A : UInt8) ∉ s) (hv : validUtf8 s = false) (b : Buf)
    (hr : b.rest = s ++ 0x0A :: post) : readStrUntil 0x0A b = .err .packetBad := by
  unfold readStrUntil readStringWith utf8Dec
  simp only [hr, findByte_append 0x0A s post hd, List.take_left', hv]
  rfl
