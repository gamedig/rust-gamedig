import GdVerif.Lemmas.Jc2mFaults
/-
  C07 (Just Cause 2: Multiplayer) — every field of a well-formed reply is returned in the
  correspondingly named response field, the reported-vs-listed player count override applied, nothing
  fabricated.

  MODEL: `GdVerif/Proto/Jc2m.lean` (+ `Proto/Gs3.lean` in single-packet mode).  SPEC: `GdVerif/Spec/Jc2m.lean`:
  a state is ALL the server's variables in the order sent (every order, every set of extra variables)
  and its players; `Config` is the challenge and the 11 bytes of split header; `Spec.wf` is the domain.
-/
open Gd Gd.Jc2m Gd.Jc2m.Spec

/-- The whole query against the SPEC's server, for every well-formed state, any port (given or the
default 7777) and retry count: `game_version`, `description`, `name`, `has_password`,
`players_maximum` are the variables `version`, `description`, `hostname`, `password`, `maxplayers`;
`players_online` is the larger of `numplayers` and the number of listed players; `players` are all
players, in order, with name, steam id and ping. -/
theorem C07_jc2m_query (cfg : Config) (st : State) (h : wf cfg st = true) (port : Option Nat) (retries : Nat) :
    (Jc2m.query port retries (Net.init [.opened ((script cfg st).map .data)] [])).1 = .ok (expected st) :=
  (query_spec cfg st h port retries).1

/-- The player block alone: any number of players below 2^16, empty names included. -/
theorem C07_jc2m_players (ps : List Player) (h : ∀ p ∈ ps, wfPlayer p = true) (hl : ps.length < 2 ^ 16) :
    parsePlayers.run (natBE 2 ps.length ++ (ps.map encPlayer).flatten) = .ok ps :=
  parsePlayers_run ps h hl

/-- Nothing fabricated: every response field is a function of the reply bytes only — here, of the
state the reply encodes: two well-formed states with the same variables and players give the same
response, whatever the challenge and the split header. -/
theorem C07_jc2m_nothing_fabricated (cfg cfg' : Config) (st : State) (h : wf cfg st = true) (h' : wf cfg' st = true)
    (port : Option Nat) (retries : Nat) :
    (Jc2m.query port retries (Net.init [.opened ((script cfg st).map .data)] [])).1
      = (Jc2m.query port retries (Net.init [.opened ((script cfg' st).map .data)] [])).1 := by
  rw [C07_jc2m_query cfg st h, C07_jc2m_query cfg' st h']

/-- The requests are the SPEC's (payload `FF FF FF 02`, the challenge echoed) and nothing else is sent. -/
theorem C07_jc2m_requests (cfg : Config) (st : State) (h : wf cfg st = true) (port : Option Nat) (retries : Nat) :
    Gs3.sentOf (Jc2m.query port retries (Net.init [.opened ((script cfg st).map .data)] [])).2.log = requests cfg :=
  (query_spec cfg st h port retries).2

/-! non-vacuity: a concrete state (an extra variable, two players, one with an empty name) is well-formed -/

def C07_jc2m_exampleState : State :=
  ⟨[([118, 101, 114, 115, 105, 111, 110], [49]), ([100, 101, 115, 99, 114, 105, 112, 116, 105, 111, 110], [68]),
    ([120], [121]), ([104, 111, 115, 116, 110, 97, 109, 101], [72]), ([112, 97, 115, 115, 119, 111, 114, 100], [49]),
    ([109, 97, 120, 112, 108, 97, 121, 101, 114, 115], [56])],
   [⟨[65], [55], 300⟩, ⟨[], [56], 65535⟩]⟩

def C07_jc2m_exampleConfig : Config := ⟨-2147483648, [115, 112, 108, 105, 116, 110, 117, 109, 0, 0x80, 0]⟩

set_option maxRecDepth 8000 in
theorem C07_jc2m_example_wf : wf C07_jc2m_exampleConfig C07_jc2m_exampleState = true := by decide +kernel

example : (Jc2m.query none 2 (Net.init [.opened ((script C07_jc2m_exampleConfig C07_jc2m_exampleState).map .data)] [])).1
    = .ok (expected C07_jc2m_exampleState) :=
  C07_jc2m_query _ _ C07_jc2m_example_wf none 2
