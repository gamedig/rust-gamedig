import GdVerif.Lemmas.TheShip
/-
  C07 — single-game protocols map every field: The Ship.

  MODEL: `GdVerif/Proto/TheShip.lean` = `Valve.query` (engine app 2400, default gathering) + `convert`.
  SPEC:  `GdVerif/Spec/TheShip.lean` on top of `Spec/Valve.lean`.
  The three replies are decoded by the Valve parsers, whose field-by-field theorems are C02's
  (`C02_info_source` with the ship fields, `C02_players` with deaths/money, `C02_rules`).
-/
open Gd Gd.Valve Gd.Valve.Spec

/-- For every well-formed The Ship server state: converting the response a Valve client is entitled to (info
with mode / witnesses / duration, every player with deaths and money, the rules) gives each field under the
correspondingly named field of The Ship's response; a server that is not app 2400 is `BadGame`. -/
theorem C07_theship_conversion (cfg : Config) (st : State) (h : TheShip.Spec.wf cfg st = true) :
    (Valve.Spec.expected (TheShip.Spec.shipConfig cfg) st >>= TheShip.convert) = TheShip.Spec.expected st :=
  TheShip.convert_expected cfg st h

/-- The replies of such a server decode to exactly that Valve response (C02 for engine app 2400). -/
theorem C07_theship_replies (cfg : Config) (st : State) (h : TheShip.Spec.wf cfg st = true) :
    (parseInfo TheShip.ENGINE).run (encSourceInfo cfg.upper st.info) = .ok st.info
    ∧ (parsePlayers TheShip.ENGINE).run (encPlayers st.players) = .ok st.players
    ∧ (parseRules TheShip.ENGINE).run (encRules st.rules) = .ok st.rules := by
  obtain ⟨hinfo, hpn, hpl, hrn, hrl, hrd⟩ := wf_parts (TheShip.Spec.shipConfig cfg) st h
  exact ⟨(decodesEnd_sourceInfo TheShip.ENGINE cfg.upper st.info hinfo).run,
    (decodes_players TheShip.ENGINE st.players hpn hpl).run, (decodes_rules TheShip.ENGINE st.rules hrn hrl hrd).run⟩

/-- The whole query (socket, three requests, three replies each in one datagram, decode, conversion) against any
well-formed The Ship server, for every port, retry count and behaviour of the external decoders: the response
is the one the SPEC entitles the user to.  (Challenge rounds and split transports are covered by the tie and by
C09/C08; the theorem is for the plain exchange.) -/
theorem C07_theship (ext : Ext) (port retries : Nat) (cfg : Config) (st : State) (h : TheShip.Spec.wf cfg st = true)
    (hl1 : (reply 0x49 (encSourceInfo cfg.upper st.info)).length ≤ 6144)
    (hl2 : (reply 0x44 (encPlayers st.players)).length ≤ 6144)
    (hl3 : (reply 0x45 (encRules st.rules)).length ≤ 6144) :
    (TheShip.query ext port retries (Net.init [.opened
        [.data (reply 0x49 (encSourceInfo cfg.upper st.info)), .data (reply 0x44 (encPlayers st.players)),
         .data (reply 0x45 (encRules st.rules))]] [])).1 = TheShip.Spec.expected st :=
  TheShip.query_single ext port retries cfg st h hl1 hl2 hl3

/-- What is required and what its absence is: without ship fields, without players, without rules, or with a
player lacking deaths/money the conversion fails with `PacketBad` — it never fabricates a value. -/
theorem C07_theship_required (r : Valve.Response) :
    (r.info.theShip = none → TheShip.convert r = .err .packetBad)
    ∧ (r.players = none → TheShip.convert r = .err .packetBad)
    ∧ (r.rules = none → TheShip.convert r = .err .packetBad) := by
  refine ⟨fun h => by simp [TheShip.convert, okOr, h, bind, Res.bind], fun h => ?_, fun h => ?_⟩
  · cases hs : r.info.theShip <;> simp [TheShip.convert, okOr, h, hs, bind, Res.bind]
  · cases hs : r.info.theShip with
    | none => simp [TheShip.convert, okOr, hs, bind, Res.bind]
    | some s =>
      cases hp : r.players with
      | none => simp [TheShip.convert, okOr, hs, hp, bind, Res.bind]
      | some ps =>
        rcases TheShip.playersOf_cases ps with hps | ⟨xs, hps⟩ <;>
          simp [TheShip.convert, okOr, hs, hp, hps, h, bind, Res.bind]

-- non-vacuity: a concrete The Ship state in the domain
example :
    let st : State := ⟨⟨17, [83], [109], [115, 104, 105, 112], [84], 2400, 1, 8, 0, .dedicated, .linux, false, true,
      some ⟨1, 2, 3⟩, [49], some ⟨some 27015, none, none, none, some [107], none⟩, false, none⟩,
      [⟨[80], -3, 0x41200000, some 2, some 500⟩], [([97], [98])]⟩
    let cfg : Config := ⟨.source none, ⟨.skip, .skip, false⟩, false, [], ⟨[], .single⟩, ⟨[], .single⟩, ⟨[], .single⟩⟩
    TheShip.Spec.wf cfg st = true
    ∧ (TheShip.Spec.expected st).toOption.map (fun r => (r.mode, r.witnesses, r.duration, r.players)) =
        some (1, 2, 3, [⟨[80], -3, 0x41200000, 2, 500⟩]) := by
  decide +kernel

-- non-vacuity of the whole-query theorem: the same state through the real exchange
example :
    let st : State := ⟨⟨17, [83], [109], [115, 104, 105, 112], [84], 2400, 1, 8, 0, .dedicated, .linux, false, true,
      some ⟨1, 2, 3⟩, [49], some ⟨some 27015, none, none, none, some [107], none⟩, false, none⟩,
      [⟨[80], -3, 0x41200000, some 2, some 500⟩], [([97], [98])]⟩
    (TheShip.query ⟨fun _ => none, fun _ => 0⟩ 27015 1 (Net.init [.opened
        [.data (reply 0x49 (encSourceInfo false st.info)), .data (reply 0x44 (encPlayers st.players)),
         .data (reply 0x45 (encRules st.rules))]] [])).1 = TheShip.Spec.expected st := by
  decide +kernel
