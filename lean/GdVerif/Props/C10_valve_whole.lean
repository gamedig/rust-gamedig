import GdVerif.Lemmas.ValveFaults
import GdVerif.Props.C02_whole
/-
  C10 on WHOLE Valve queries with faults injected.

  `Props/C10.lean` proves C10 for the combinator (`retryOnTimeout`) and names the unit it wraps for Valve
  (`C10_valve_unit`: one request with all its challenge rounds).  Here the property is proved END TO END for
  `Valve.query`: the server is the SPEC's (`Spec/Valve.lean`), the faults are those of a *plan* — what a plan, an
  attempt and an ending are is said once, at the head of `Spec/ValveFaults.lean`.  `faultyScript` / `faultyFaults` are
  the two arguments of `Net.init`: exactly what `props/families/valve.py: c10_build` builds for the differential check,
  which is compared against these SPEC functions (driver entry `valveplan`, `Run/ValveFaults.lean`: script, flags,
  result and sends must all agree).

  MODEL: `GdVerif/Proto/Valve.lean`, `GdVerif/Net.lean`.   SPEC: `GdVerif/Spec/Valve.lean`, `Spec/ValveFaults.lean`.
  Hypotheses common to all theorems = those of `C02_whole_any_order` / `C02_whole_compressed`: state in the SPEC's domain
  (`wf`), transports the engine reads (`wfExchanges`), the SPEC exchange fits the receive buffer (`fits`), the external
  decoders read what is compressed (`DecodersAgree`: nothing to ask when no reply is compressed, or the decoder law —
  `C10_valve_decoders_*`).  Everything else is universally quantified: engine, gathering toggles, retry count, port,
  number of challenge rounds and challenge bytes, transports and cut points, arrival order of fragments, and the plan.
-/
open Gd Gd.Valve Gd.Valve.Spec Gd.Faults

theorem C10_valve_decoders_uncompressed (ext : Ext) (cfg : Config) (st : State) (hu : uncompressed cfg = true) :
    DecodersAgree ext cfg st := decodersAgree_of_uncompressed ext cfg st hu

theorem C10_valve_decoders_law (ext : Ext) (compress : Bytes → Bytes) (hlaw : ∀ p, ext.bunzip (compress p) = some p)
    (cfg : Config) (st : State) (hcar : carries compress ext.crc32 cfg st) : DecodersAgree ext cfg st :=
  decodersAgree_of_law ext compress hlaw cfg st hcar

/-- THE GENERAL STATEMENT.  For every plan in C10's domain for the retry count (`wfPlanReached`: a unit that is
answered — validly or by a datagram shorter than a packet header — had at most `retries` timeout-class failures before, a
unit that is given up had exactly `retries + 1`; what a failed attempt — or the attempt that meets the malformed datagram —
still receives of the unit's reply is nothing or an incomplete selection of its fragments; asked of the units the query
reaches), whatever follows the plan's
deliveries in the script (`restQ`) and the plan's flags in the send-fault vector (`restF`), the query returns the outcome
the property prescribes (`faultyExpected`: the first unit that does not end with the server's reply decides — its error if
it is the info unit or enforced, an absent section if it is only tried; otherwise the fault-free response), and the
datagrams it put on the wire are exactly the plan's (`faultySends`: every attempt of every unit reached, each starting
with the unit's initial request; nothing after the unit that ends the query). -/
theorem C10_valve_query_faulty (ext : Ext) (port retries : Nat) (cfg : Config) (st : State)
    (hwf : wf cfg st = true) (hx : wfExchanges cfg = true) (hdec : DecodersAgree ext cfg st) (ai ap ar : List Bytes)
    (hai : ai.Perm (infoDatagrams cfg st)) (hap : ap.Perm (playersDatagrams cfg st))
    (har : ar.Perm (rulesDatagrams cfg st)) (hfit : fits (scriptAs cfg ai ap ar) = true)
    (plan : Plan) (hplan : wfPlanReached retries cfg st plan = true) (restQ : List Delivery) (restF : List Bool) :
    (Valve.query ext port cfg.engine cfg.gather retries
        (Net.init [.opened (faultyScript cfg plan ai ap ar ++ restQ)] (faultyFaults cfg plan ++ restF))).1
      = faultyExpected cfg st plan
    ∧ sentOf (Valve.query ext port cfg.engine cfg.gather retries
        (Net.init [.opened (faultyScript cfg plan ai ap ar ++ restQ)] (faultyFaults cfg plan ++ restF))).2.log
      = faultySends cfg st plan :=
  query_faulty ext port retries cfg st hwf hx hdec ai ap ar hai hap har hfit plan hplan restQ restF

/-- (a) RECOVERY.  `fi`, `fp`, `fr` are the failed attempts (any number ≤ `retries` for every unit that is gathered;
each a silence or a failed send after any number of answered challenge rounds, the silence possibly after some — not
all — of the fragments of the unit's split reply, in any order: `Attempt.wf`) placed before the valid exchange of
the info / players / rules unit.  Nothing of an abandoned attempt (its fragments, its split id) shows in the result.  The query returns exactly `Spec.expected cfg st` — by `C02_whole*` the result with no
faults; the datagrams sent are the attempts of the plan, unit after unit; and the number of attempts of each unit seen on
the wire (initial requests of that unit; the challenges must not make a challenged request look like the initial one:
`freshChallenges`) is its number of failed attempts + 1. -/
theorem C10_valve_query_recovers (ext : Ext) (port retries : Nat) (cfg : Config) (st : State)
    (hwf : wf cfg st = true) (hx : wfExchanges cfg = true) (hdec : DecodersAgree ext cfg st) (ai ap ar : List Bytes)
    (hai : ai.Perm (infoDatagrams cfg st)) (hap : ap.Perm (playersDatagrams cfg st))
    (har : ar.Perm (rulesDatagrams cfg st)) (hfit : fits (scriptAs cfg ai ap ar) = true)
    (fi fp fr : List Attempt) (hki : fi.length ≤ retries)
    (hkp : cfg.gather.players ≠ .skip → fp.length ≤ retries) (hkr : cfg.gather.rules ≠ .skip → fr.length ≤ retries)
    (hwi : ∀ a ∈ fi, a.wf (infoDatagrams cfg st) = true)
    (hwp : cfg.gather.players ≠ .skip → ∀ a ∈ fp, a.wf (playersDatagrams cfg st) = true)
    (hwr : cfg.gather.rules ≠ .skip → ∀ a ∈ fr, a.wf (rulesDatagrams cfg st) = true)
    (restQ : List Delivery) (restF : List Bool) :
    let plan : Plan := ⟨⟨fi, .valid⟩, ⟨fp, .valid⟩, ⟨fr, .valid⟩⟩
    let out := Valve.query ext port cfg.engine cfg.gather retries
        (Net.init [.opened (faultyScript cfg plan ai ap ar ++ restQ)] (faultyFaults cfg plan ++ restF))
    let reached : List Request := if appIdOk cfg.engine cfg.gather st.info.appid then [.info, .players, .rules] else [.info]
    out.1 = expected cfg st
    ∧ sentOf out.2.log = sendsOf cfg plan reached
    ∧ (∀ u ∈ reached, toggleOf cfg u ≠ .skip → freshChallenges u (exchangeOf cfg u) = true →
        attemptsOf u (sentOf out.2.log) = (plan.unit u).fails.length + 1) := by
  intro plan out reached
  have hplan : wfPlan retries cfg st plan = true := by
    simp only [wfPlan, wfUnit, plan, Bool.and_eq_true, Bool.or_eq_true, decide_eq_true_eq, beq_iff_eq,
      List.all_eq_true]
    refine ⟨⟨⟨hwi, hki⟩, ?_⟩, ?_⟩
    · by_cases h : cfg.gather.players = .skip
      · exact Or.inl h
      · exact Or.inr ⟨hwp h, hkp h⟩
    · by_cases h : cfg.gather.rules = .skip
      · exact Or.inl h
      · exact Or.inr ⟨hwr h, hkr h⟩
  have herr : ∀ u, toggleOf cfg u ≠ .skip → (plan.unit u).error = none := by
    intro u _
    cases u <;> rfl
  obtain ⟨h1, h2⟩ := C10_valve_query_faulty ext port retries cfg st hwf hx hdec ai ap ar hai hap har hfit plan
    (wfPlanReached_of_wfPlan retries cfg st plan hplan) restQ restF
  rw [faultyExpected_recovers cfg st plan herr] at h1
  rw [faultySends_reached, reached_all cfg st plan fun v hv => herr v (by rw [hv]; decide)] at h2
  refine ⟨h1, h2, ?_⟩
  intro u hu hgath hfresh
  show attemptsOf u (sentOf out.2.log) = _
  have hnd : reached.Nodup := by
    show (if appIdOk cfg.engine cfg.gather st.info.appid then [Request.info, .players, .rules] else [.info]).Nodup
    split <;> decide
  rw [show sentOf out.2.log = sendsOf cfg plan reached from h2,
    attemptsOf_sendsOf cfg plan u hfresh reached hnd, if_pos ⟨hu, hgath⟩]
  cases u <;> rfl

/-- (b) EXHAUSTION, enforced unit.  `u` is the first unit all of whose `retries + 1` attempts end in a timeout-class
failure (`gaveUp`; by `wfPlan` it then has exactly `retries + 1` failed attempts), every gathered unit before it is
eventually answered, and `u` is the info unit or its toggle is Enforce.  The query fails with the last failed attempt's
error — `PacketReceive`, or `PacketSend` when that attempt ended on a failed send (`C10_valve_last_error`) —, what was
sent are the attempts of the units up to `u` and NOTHING of the later units, and `u` was attempted exactly
`retries + 1` times.  Only the units up to `u` need to be in C10's domain (`hplan`); the plans of the later units and
whatever else follows in the script and in the fault vector (`restQ`, `restF`) are arbitrary — e.g. further silences, the
valid exchange the server would still have sent, … -/
theorem C10_valve_query_exhausted (ext : Ext) (port retries : Nat) (cfg : Config) (st : State)
    (hwf : wf cfg st = true) (hx : wfExchanges cfg = true) (hdec : DecodersAgree ext cfg st) (ai ap ar : List Bytes)
    (hai : ai.Perm (infoDatagrams cfg st)) (hap : ap.Perm (playersDatagrams cfg st))
    (har : ar.Perm (rulesDatagrams cfg st)) (hfit : fits (scriptAs cfg ai ap ar) = true)
    (plan : Plan) (u : Request)
    (hplan : ∀ v ∈ earlier u ++ [u], toggleOf cfg v ≠ .skip → wfUnit retries (poolOf cfg st v) (plan.unit v) = true)
    (hearlier : ∀ v ∈ earlier u, toggleOf cfg v ≠ .skip → (plan.unit v).ending = .valid)
    (hu : (plan.unit u).ending = .gaveUp) (henf : toggleOf cfg u = .enforce)
    (happ : u ≠ .info → appIdOk cfg.engine cfg.gather st.info.appid = true)
    (restQ : List Delivery) (restF : List Bool) :
    let out := Valve.query ext port cfg.engine cfg.gather retries
        (Net.init [.opened (faultyScript cfg plan ai ap ar ++ restQ)] (faultyFaults cfg plan ++ restF))
    out.1 = .err (lastError Attempt.error (plan.unit u).fails)
    ∧ (out.1 = .err .packetReceive ∨ out.1 = .err .packetSend)
    ∧ sentOf out.2.log = sendsOf cfg plan (earlier u ++ [u])
    ∧ (freshChallenges u (exchangeOf cfg u) = true → attemptsOf u (sentOf out.2.log) = retries + 1)
    ∧ (∀ v ∈ later u, attemptsOf v (sentOf out.2.log) = 0) := by
  intro out
  have hearlier' : ∀ v ∈ earlier u, toggleOf cfg v ≠ .skip → (plan.unit v).error = none :=
    fun v hv hg => error_of_valid (hearlier v hv hg)
  obtain ⟨h1, h2⟩ := C10_valve_query_faulty ext port retries cfg st hwf hx hdec ai ap ar hai hap har hfit plan
    (wfPlanReached_stops retries cfg st plan u _ hplan (error_of_gaveUp hu) henf) restQ restF
  rw [faultyExpected_stops cfg st plan u _ hearlier' (error_of_gaveUp hu) henf happ] at h1
  rw [faultySends_reached, reached_stops cfg st plan u _ hearlier' (error_of_gaveUp hu) henf happ] at h2
  have hlen : (plan.unit u).fails.length = retries + 1 := by
    have : wfUnit retries (poolOf cfg st u) (plan.unit u) = true := hplan u (by simp) (by rw [henf]; decide)
    simp only [wfUnit, hu, Bool.and_eq_true, beq_iff_eq] at this
    exact this.2
  have hnd : (earlier u ++ [u]).Nodup := by cases u <;> decide
  refine ⟨h1, ?_, h2, ?_, ?_⟩
  · show out.1 = _ ∨ out.1 = _
    rw [show out.1 = _ from h1]
    rcases lastError_class (plan.unit u).fails with h | h <;> rw [h] <;> simp
  · intro hfresh
    show attemptsOf u (sentOf out.2.log) = _
    rw [show sentOf out.2.log = _ from h2, attemptsOf_sendsOf cfg plan u hfresh _ hnd,
      if_pos ⟨by simp, by rw [henf]; decide⟩]
    simp [UnitPlan.attempts, hu, hlen]
  · intro v hv
    show attemptsOf v (sentOf out.2.log) = 0
    rw [show sentOf out.2.log = _ from h2]
    have hnot : v ∉ earlier u ++ [u] := by
      cases u <;> cases v <;> simp [later, earlier] at hv ⊢
    exact attemptsOf_sendsOf_other cfg plan v _ hnot

/-- the error of an exhausted unit is the LAST failed attempt's: `PacketSend` if that attempt ended on a failed send,
`PacketReceive` if it ended on silence -/
theorem C10_valve_last_error (fails : List Attempt) (a : Attempt) :
    lastError Attempt.error (fails ++ [a]) = (if a.sendFault then .packetSend else .packetReceive) :=
  lastError_concat _ fails a

/-- (b), (c) for a unit that is only TRIED.  `u` (players or rules, toggle Try) does not end with the server's reply —
all its `retries + 1` attempts time out, or an attempt receives a malformed datagram — and every other gathered unit is
eventually answered: the response is the expected one with that section absent. -/
theorem C10_valve_query_failed_try (ext : Ext) (port retries : Nat) (cfg : Config) (st : State)
    (hwf : wf cfg st = true) (hx : wfExchanges cfg = true) (hdec : DecodersAgree ext cfg st) (ai ap ar : List Bytes)
    (hai : ai.Perm (infoDatagrams cfg st)) (hap : ap.Perm (playersDatagrams cfg st))
    (har : ar.Perm (rulesDatagrams cfg st)) (hfit : fits (scriptAs cfg ai ap ar) = true)
    (plan : Plan) (hplan : wfPlan retries cfg st plan = true) (u : Request)
    (hothers : ∀ v, v ≠ u → toggleOf cfg v ≠ .skip → (plan.unit v).ending = .valid)
    (hu : (plan.unit u).ending ≠ .valid) (htry : toggleOf cfg u = .try_) (restQ : List Delivery) (restF : List Bool) :
    let out := Valve.query ext port cfg.engine cfg.gather retries
        (Net.init [.opened (faultyScript cfg plan ai ap ar ++ restQ)] (faultyFaults cfg plan ++ restF))
    let reached : List Request := if appIdOk cfg.engine cfg.gather st.info.appid then [.info, .players, .rules] else [.info]
    out.1 = (expected cfg st >>= fun r => .ok (withoutSection r u))
    ∧ sentOf out.2.log = sendsOf cfg plan reached
    ∧ (u ∈ reached → freshChallenges u (exchangeOf cfg u) = true →
        attemptsOf u (sentOf out.2.log) = (plan.unit u).attempts) := by
  intro out reached
  have hothers' : ∀ v, v ≠ u → toggleOf cfg v ≠ .skip → (plan.unit v).error = none :=
    fun v hv hg => error_of_valid (hothers v hv hg)
  obtain ⟨k, hk⟩ := error_of_not_valid hu
  obtain ⟨h1, h2⟩ := C10_valve_query_faulty ext port retries cfg st hwf hx hdec ai ap ar hai hap har hfit plan
    (wfPlanReached_of_wfPlan retries cfg st plan hplan) restQ restF
  rw [faultyExpected_try cfg st plan u k hothers' hk htry] at h1
  -- `u` is only tried, every other unit is answered: no enforced unit fails
  have henf : ∀ v, toggleOf cfg v = .enforce → (plan.unit v).error = none := fun v hv =>
    hothers' v (fun e => by rw [e, htry] at hv; cases hv) (by rw [hv]; decide)
  rw [faultySends_reached, reached_all cfg st plan henf] at h2
  refine ⟨h1, h2, ?_⟩
  intro hmem hfresh
  show attemptsOf u (sentOf out.2.log) = _
  have hnd : reached.Nodup := by
    show (if appIdOk cfg.engine cfg.gather st.info.appid then [Request.info, .players, .rules] else [.info]).Nodup
    split <;> decide
  rw [show sentOf out.2.log = sendsOf cfg plan reached from h2,
    attemptsOf_sendsOf cfg plan u hfresh reached hnd, if_pos ⟨hmem, by rw [htry]; decide⟩]

/-- (c) A MALFORMED REPLY IS NOT RETRIED.  Some attempt of unit `u` (after any number ≤ `retries` of timed-out attempts,
after any number `j` of answered challenge rounds and after any incomplete selection `got` of the fragments of the unit's
split reply) receives a datagram `m` the packet parser rejects — ANY datagram
shorter than the 5 bytes of a packet header (`wfPlan`), whatever its bytes; `u` is the info unit or enforced, the
gathered units before it are eventually answered.  Whatever `retries` is, the unit ends at once: the query fails with
`PacketUnderflow` (not a timeout-class error), the malformed attempt is the last thing sent — no further request of that
unit, nothing of the later units — whatever the script still holds (the plans of the later units, `restQ`, `restF` are
arbitrary: for instance the valid reply, which is never read). -/
theorem C10_valve_query_malformed_not_retried (ext : Ext) (port retries : Nat) (cfg : Config) (st : State)
    (hwf : wf cfg st = true) (hx : wfExchanges cfg = true) (hdec : DecodersAgree ext cfg st) (ai ap ar : List Bytes)
    (hai : ai.Perm (infoDatagrams cfg st)) (hap : ap.Perm (playersDatagrams cfg st))
    (har : ar.Perm (rulesDatagrams cfg st)) (hfit : fits (scriptAs cfg ai ap ar) = true)
    (plan : Plan) (u : Request) (j : Nat) (got : List Bytes) (m : Bytes)
    (hplan : ∀ v ∈ earlier u ++ [u], toggleOf cfg v ≠ .skip → wfUnit retries (poolOf cfg st v) (plan.unit v) = true)
    (hearlier : ∀ v ∈ earlier u, toggleOf cfg v ≠ .skip → (plan.unit v).ending = .valid)
    (hu : (plan.unit u).ending = .malformed j got m) (henf : toggleOf cfg u = .enforce)
    (happ : u ≠ .info → appIdOk cfg.engine cfg.gather st.info.appid = true)
    (restQ : List Delivery) (restF : List Bool) :
    let out := Valve.query ext port cfg.engine cfg.gather retries
        (Net.init [.opened (faultyScript cfg plan ai ap ar ++ restQ)] (faultyFaults cfg plan ++ restF))
    out.1 = .err .packetUnderflow
    ∧ ErrKind.packetUnderflow.isTimeout = false
    ∧ sentOf out.2.log = sendsOf cfg plan (earlier u ++ [u])
    ∧ (freshChallenges u (exchangeOf cfg u) = true →
        attemptsOf u (sentOf out.2.log) = (plan.unit u).fails.length + 1) := by
  intro out
  have hearlier' : ∀ v ∈ earlier u, toggleOf cfg v ≠ .skip → (plan.unit v).error = none :=
    fun v hv hg => error_of_valid (hearlier v hv hg)
  obtain ⟨h1, h2⟩ := C10_valve_query_faulty ext port retries cfg st hwf hx hdec ai ap ar hai hap har hfit plan
    (wfPlanReached_stops retries cfg st plan u _ hplan (error_of_malformed hu) henf) restQ restF
  rw [faultyExpected_stops cfg st plan u _ hearlier' (error_of_malformed hu) henf happ] at h1
  rw [faultySends_reached, reached_stops cfg st plan u _ hearlier' (error_of_malformed hu) henf happ] at h2
  have hnd : (earlier u ++ [u]).Nodup := by cases u <;> decide
  refine ⟨h1, rfl, h2, ?_⟩
  intro hfresh
  show attemptsOf u (sentOf out.2.log) = _
  rw [show sentOf out.2.log = _ from h2, attemptsOf_sendsOf cfg plan u hfresh _ hnd,
    if_pos ⟨by simp, by rw [henf]; decide⟩]
  simp [UnitPlan.attempts, hu]

/-- The plan without faults gives the fault-free script of `C02_whole_any_order` (up to the flags, all `false`): the
theorems above are about the same exchange. -/
theorem C10_valve_no_faults (cfg : Config) (ai ap ar : List Bytes) :
    faultyScript cfg Plan.none ai ap ar = (scriptAs cfg ai ap ar).map .data
    ∧ (faultyFaults cfg Plan.none).all (· == false) = true :=
  ⟨faultyScript_none cfg ai ap ar, List.all_eq_true.mpr fun b hb => by rw [faultyFaults_none cfg b hb]; rfl⟩

/-! ### non-vacuity: the TF2-like server of `Props/C02_whole.lean` (info behind 2 challenge rounds and split into 3
fragments, players behind 1 challenge round, enforced; rules split in 2, tried), retries = 2 -/

/-- the query on the script of a plan for the demo server, final replies arriving in order -/
def C10_valve_demoRun (ext : Ext) (port retries : Nat) (plan : Plan) (restQ : List Delivery := []) :
    Res Response × Net :=
  Valve.query ext port C02_whole_demoCfg.engine C02_whole_demoCfg.gather retries
    (Net.init [.opened (faultyScript C02_whole_demoCfg plan (infoDatagrams C02_whole_demoCfg C02_whole_demoState)
      (playersDatagrams C02_whole_demoCfg C02_whole_demoState) (rulesDatagrams C02_whole_demoCfg C02_whole_demoState)
      ++ restQ)]
      (faultyFaults C02_whole_demoCfg plan ++ []))

/-- one lost info reply (silence at the initial request) and one lost CHALLENGED players request (the server answers the
challenge round, the reply to the challenged request is lost) -/
def C10_valve_demoPlanA : Plan := ⟨⟨[⟨0, false, []⟩], .valid⟩, ⟨[⟨1, false, []⟩], .valid⟩, ⟨[], .valid⟩⟩


-- (a) 12 deliveries instead of 9, the result is the state, 2 attempts of info and of players on the wire
example (ext : Ext) (port : Nat) :
    (faultyScript C02_whole_demoCfg C10_valve_demoPlanA (infoDatagrams C02_whole_demoCfg C02_whole_demoState)
      (playersDatagrams C02_whole_demoCfg C02_whole_demoState) (rulesDatagrams C02_whole_demoCfg C02_whole_demoState)).length = 12
    ∧ (faultyFaults C02_whole_demoCfg C10_valve_demoPlanA).length = 9
    ∧ (C10_valve_demoRun ext port 2 C10_valve_demoPlanA).1
        = .ok ⟨C02_whole_demoState.info, some C02_whole_demoState.players, some C02_whole_demoState.rules⟩
    ∧ attemptsOf .info (sentOf (C10_valve_demoRun ext port 2 C10_valve_demoPlanA).2.log) = 2
    ∧ attemptsOf .players (sentOf (C10_valve_demoRun ext port 2 C10_valve_demoPlanA).2.log) = 2
    ∧ attemptsOf .rules (sentOf (C10_valve_demoRun ext port 2 C10_valve_demoPlanA).2.log) = 1 := by
  obtain ⟨h1, _, h3⟩ := C10_valve_query_recovers ext port 2 C02_whole_demoCfg C02_whole_demoState C02_whole_demo_wf
    C02_whole_demo_exchanges (C10_valve_decoders_uncompressed ext _ _ C02_whole_demo_uncompressed) _ _ _
    (List.Perm.refl _) (List.Perm.refl _) (List.Perm.refl _) C02_whole_demo_fits
    [⟨0, false, []⟩] [⟨1, false, []⟩] [] (by decide +kernel) (fun _ => by decide +kernel) (fun _ => by decide +kernel) (by decide +kernel)
    (fun _ => by decide +kernel) (fun _ => by decide +kernel) [] []
  rw [C02_whole_demo_expected] at h1
  unfold C10_valve_demoRun C10_valve_demoPlanA
  exact ⟨by decide +kernel, by decide +kernel, h1, h3 .info (by decide +kernel) (by decide +kernel) (by decide +kernel),
    h3 .players (by decide +kernel) (by decide +kernel) (by decide +kernel), h3 .rules (by decide +kernel) (by decide +kernel) (by decide +kernel)⟩

/-- the enforced players unit times out three times: at the initial request; on a failed send of the challenged
request; on silence after the challenge round -/
def C10_valve_demoPlanB : Plan :=
  ⟨⟨[], .valid⟩, ⟨[⟨0, false, []⟩, ⟨1, true, []⟩, ⟨1, false, []⟩], .gaveUp⟩, ⟨[], .valid⟩⟩
/-- the same ending on the failed send -/
def C10_valve_demoPlanB' : Plan :=
  ⟨⟨[], .valid⟩, ⟨[⟨0, false, []⟩, ⟨1, false, []⟩, ⟨1, true, []⟩], .gaveUp⟩, ⟨[], .valid⟩⟩

-- (b) PacketReceive after exactly 3 attempts, no rules request — whatever follows in the script (here: a further
-- silence and the valid players reply the server would still have sent); ending on the failed send: PacketSend
example (ext : Ext) (port : Nat) (restQ : List Delivery) :
    (C10_valve_demoRun ext port 2 C10_valve_demoPlanB restQ).1 = .err .packetReceive
    ∧ attemptsOf .players (sentOf (C10_valve_demoRun ext port 2 C10_valve_demoPlanB restQ).2.log) = 3
    ∧ attemptsOf .rules (sentOf (C10_valve_demoRun ext port 2 C10_valve_demoPlanB restQ).2.log) = 0
    ∧ (C10_valve_demoRun ext port 2 C10_valve_demoPlanB' restQ).1 = .err .packetSend := by
  obtain ⟨h1, _, _, h4, h5⟩ := C10_valve_query_exhausted ext port 2 C02_whole_demoCfg C02_whole_demoState C02_whole_demo_wf
    C02_whole_demo_exchanges (C10_valve_decoders_uncompressed ext _ _ C02_whole_demo_uncompressed) _ _ _
    (List.Perm.refl _) (List.Perm.refl _) (List.Perm.refl _) C02_whole_demo_fits C10_valve_demoPlanB .players
    (by decide +kernel) (by decide +kernel) rfl rfl (fun _ => by decide +kernel)
    restQ []
  obtain ⟨h1', _⟩ := C10_valve_query_exhausted ext port 2 C02_whole_demoCfg C02_whole_demoState C02_whole_demo_wf
    C02_whole_demo_exchanges (C10_valve_decoders_uncompressed ext _ _ C02_whole_demo_uncompressed) _ _ _
    (List.Perm.refl _) (List.Perm.refl _) (List.Perm.refl _) C02_whole_demo_fits C10_valve_demoPlanB' .players
    (by decide +kernel) (by decide +kernel) rfl rfl (fun _ => by decide +kernel)
    restQ []
  unfold C10_valve_demoRun
  exact ⟨h1, h4 (by decide +kernel), h5 .rules (by decide +kernel), h1'⟩

/-- a failed send after both info challenge rounds, then the rules unit (tried) times out three times -/
def C10_valve_demoPlanT : Plan :=
  ⟨⟨[⟨2, true, []⟩], .valid⟩, ⟨[], .valid⟩, ⟨[⟨0, false, []⟩, ⟨0, true, []⟩, ⟨0, false, []⟩], .gaveUp⟩⟩

-- (b) for a unit that is only tried: the response lacks the rules
example (ext : Ext) (port : Nat) :
    (C10_valve_demoRun ext port 2 C10_valve_demoPlanT).1
      = .ok ⟨C02_whole_demoState.info, some C02_whole_demoState.players, none⟩ := by
  have h := C10_valve_query_failed_try ext port 2 C02_whole_demoCfg C02_whole_demoState C02_whole_demo_wf
    C02_whole_demo_exchanges (C10_valve_decoders_uncompressed ext _ _ C02_whole_demo_uncompressed) _ _ _
    (List.Perm.refl _) (List.Perm.refl _) (List.Perm.refl _) C02_whole_demo_fits C10_valve_demoPlanT (by decide +kernel) .rules
    (fun v hv _ => by cases v <;> first | rfl | exact absurd rfl hv) (by decide +kernel) rfl [] []
  rw [C02_whole_demo_expected] at h
  exact h.1

/-- one failed send, then the info unit receives the 2-byte datagram FF FF after both challenge rounds -/
def C10_valve_demoPlanM : Plan := ⟨⟨[⟨0, true, []⟩], .malformed 2 [] [0xFF, 0xFF]⟩, ⟨[], .valid⟩, ⟨[], .valid⟩⟩

-- (c) with retries = 3: PacketUnderflow at once, 2 attempts of info in all (4 datagrams), nothing else
example (ext : Ext) (port : Nat) :
    (C10_valve_demoRun ext port 3 C10_valve_demoPlanM).1 = .err .packetUnderflow
    ∧ attemptsOf .info (sentOf (C10_valve_demoRun ext port 3 C10_valve_demoPlanM).2.log) = 2
    ∧ (sentOf (C10_valve_demoRun ext port 3 C10_valve_demoPlanM).2.log).length = 4 := by
  obtain ⟨h1, _, h3, h4⟩ := C10_valve_query_malformed_not_retried ext port 3 C02_whole_demoCfg C02_whole_demoState C02_whole_demo_wf
    C02_whole_demo_exchanges (C10_valve_decoders_uncompressed ext _ _ C02_whole_demo_uncompressed) _ _ _
    (List.Perm.refl _) (List.Perm.refl _) (List.Perm.refl _) C02_whole_demo_fits C10_valve_demoPlanM .info 2 []
    [0xFF, 0xFF] (by decide +kernel) (by decide +kernel) rfl rfl
    (fun h => absurd rfl h) [] []
  unfold C10_valve_demoRun
  refine ⟨h1, h4 (by decide +kernel), ?_⟩
  rw [h3]
  decide

/-! ### a reply that stops half way: the info reply of the demo server travels as 3 fragments -/

/-- the fragments of the info reply -/
def C10_valve_demoInfo : List Bytes := infoDatagrams C02_whole_demoCfg C02_whole_demoState

/-- first attempt: both challenge rounds answered, then the fragments 2 and 0 of the info reply arrive (in that order),
fragment 1 never does; second attempt: nothing after the initial request.  Then the server answers. -/
def C10_valve_demoPlanH : Plan :=
  ⟨⟨[⟨2, false, (C10_valve_demoInfo.drop 2) ++ (C10_valve_demoInfo.take 1)⟩, ⟨0, false, []⟩], .valid⟩,
    ⟨[], .valid⟩, ⟨[], .valid⟩⟩

-- (a) the two fragments are really delivered (2 + 2 + 1 + 1 + the 9 of the fault-free exchange = 15 deliveries), the
-- result is the state, 3 attempts of info on the wire
example (ext : Ext) (port : Nat) :
    C10_valve_demoInfo.length = 3
    ∧ (faultyScript C02_whole_demoCfg C10_valve_demoPlanH (infoDatagrams C02_whole_demoCfg C02_whole_demoState)
      (playersDatagrams C02_whole_demoCfg C02_whole_demoState) (rulesDatagrams C02_whole_demoCfg C02_whole_demoState)).length = 15
    ∧ (C10_valve_demoRun ext port 2 C10_valve_demoPlanH).1
        = .ok ⟨C02_whole_demoState.info, some C02_whole_demoState.players, some C02_whole_demoState.rules⟩
    ∧ attemptsOf .info (sentOf (C10_valve_demoRun ext port 2 C10_valve_demoPlanH).2.log) = 3 := by
  obtain ⟨h1, _, h3⟩ := C10_valve_query_recovers ext port 2 C02_whole_demoCfg C02_whole_demoState C02_whole_demo_wf
    C02_whole_demo_exchanges (C10_valve_decoders_uncompressed ext _ _ C02_whole_demo_uncompressed) _ _ _
    (List.Perm.refl _) (List.Perm.refl _) (List.Perm.refl _) C02_whole_demo_fits
    [⟨2, false, (C10_valve_demoInfo.drop 2) ++ (C10_valve_demoInfo.take 1)⟩, ⟨0, false, []⟩] [] [] (by decide +kernel)
    (fun _ => by decide +kernel) (fun _ => by decide +kernel) (by decide +kernel) (fun _ => by decide +kernel) (fun _ => by decide +kernel) [] []
  rw [C02_whole_demo_expected] at h1
  unfold C10_valve_demoRun C10_valve_demoPlanH
  exact ⟨by decide +kernel, by decide +kernel, h1, h3 .info (by decide +kernel) (by decide +kernel) (by decide +kernel)⟩

/-- the info unit: one attempt that gets all fragments but the last and then silence, then an attempt that gets the first
fragment and then the 2-byte datagram FF FF -/
def C10_valve_demoPlanHM : Plan :=
  ⟨⟨[⟨2, false, C10_valve_demoInfo.take 2⟩], .malformed 2 (C10_valve_demoInfo.take 1) [0xFF, 0xFF]⟩,
    ⟨[], .valid⟩, ⟨[], .valid⟩⟩

-- (c) with retries = 3: PacketUnderflow at once, 2 attempts of info in all (6 datagrams), nothing else — whatever follows
example (ext : Ext) (port : Nat) (restQ : List Delivery) :
    (C10_valve_demoRun ext port 3 C10_valve_demoPlanHM restQ).1 = .err .packetUnderflow
    ∧ attemptsOf .info (sentOf (C10_valve_demoRun ext port 3 C10_valve_demoPlanHM restQ).2.log) = 2
    ∧ (sentOf (C10_valve_demoRun ext port 3 C10_valve_demoPlanHM restQ).2.log).length = 6 := by
  obtain ⟨h1, _, h3, h4⟩ := C10_valve_query_malformed_not_retried ext port 3 C02_whole_demoCfg C02_whole_demoState C02_whole_demo_wf
    C02_whole_demo_exchanges (C10_valve_decoders_uncompressed ext _ _ C02_whole_demo_uncompressed) _ _ _
    (List.Perm.refl _) (List.Perm.refl _) (List.Perm.refl _) C02_whole_demo_fits C10_valve_demoPlanHM
    .info 2 (C10_valve_demoInfo.take 1) [0xFF, 0xFF] (by decide +kernel)
    (by decide +kernel) rfl rfl (fun h => absurd rfl h) restQ []
  unfold C10_valve_demoRun
  refine ⟨h1, h4 (by decide +kernel), ?_⟩
  rw [h3]
  decide
