import GdVerif.Lemmas.QuakeBlock
/-
  C12 (blocking steps that can run into their timeout) — Quake 1 / 2 / 3.
-/
open Gd Gd.Quake

/-- Whatever the server does — for every script, fault vector, version and retry setting — at most
`retries + 1` blocking steps of a Quake query run into their timeout (a failed socket creation, a
failed send, a timed-out receive): one per attempt of the single exchange.  Every other blocking step
returned because the peer delivered something.  Wall time ≤ (retries + 1) · timeout + the server's
own delays. -/
theorem C12_quake_blocking_bound (port : Nat) (v : Version) (retries : Nat) (script : List ConnScript) (faults : List Bool) :
    nBlocked (query port v retries (Net.init script faults)).2.log ≤ retries + 1 := by
  have := (block_query port v retries).total script faults
  omega

/-- A silent server (the socket is created, its first `retries + 1` receives time out; what the
script holds after that is arbitrary): the query fails with the receive-class error after exactly
`retries + 1` attempts — `retries + 1` requests sent, `retries + 1` timed-out receives, nothing
received, one socket. -/
theorem C12_quake_silent_server (port : Nat) (v : Version) (retries : Nat) (script : List ConnScript)
    (h : PendingSilent false (retries + 1) script) :
    (query port v retries (Net.init script [])).1 = .err .packetReceive
      ∧ nSends (query port v retries (Net.init script [])).2.log = retries + 1
      ∧ nBlocked (query port v retries (Net.init script [])).2.log = retries + 1
      ∧ nRecvOk (query port v retries (Net.init script [])).2.log = 0
      ∧ nOpened (query port v retries (Net.init script [])).2.log = 1 :=
  (silent_query port v retries (Net.init script []) rfl h).counts

/-- the hypothesis is satisfiable: no script at all, or `retries + 1` silences followed by anything -/
example (retries : Nat) (rest : List Delivery) (more : List ConnScript) :
    PendingSilent false (retries + 1) [] ∧
    PendingSilent false (retries + 1) (.opened (List.replicate (retries + 1) .silence ++ rest) :: more) :=
  ⟨rfl, SilentFor.replicate false (retries + 1) rest⟩

/-- the bound is attained: two retries, a server that answers nothing -/
example : nBlocked (query 27960 .three 2 (Net.init [.opened [.silence, .silence, .silence, .data [1]]] [])).2.log = 3 := by
  decide +kernel
