import GdVerif.Proto.ReaderOps
import GdVerif.Lemmas.ValveSafe
import GdVerif.Lemmas.Unreal2Safe
/-
  C01 — Hostile server responses never crash or hang a query.

  One theorem per query entry point that has a model: for EVERY reply script (any number of
  datagrams of any content and size, any silences, refused sockets, failing sends) and every
  setting, the model returns a response or an error — never `crash` (panic, slice out of bounds,
  arithmetic overflow, failed allocation, exhausted fuel = a loop that would not end).
  Termination is Lean's: every model function is total, loops take fuel from a measure (queued
  deliveries), and "fuel suffices" is part of what is proved here.
-/
open Gd

/-- Valve A2S (`protocols::valve::query`, and through it every Valve game wrapper): no crash for
any script, engine, gather settings, retry count, and any behaviour of the bzip2/CRC decoders. -/
theorem C01_valve (ext : Valve.Ext) (port : Nat) (engine : Valve.Engine) (g : Valve.Gather) (retries : Nat)
    (script : List ConnScript) (faults : List Bool) :
    (Valve.query ext port engine g retries (Net.init script faults)).1 ≠ .crash :=
  (Valve.query_safe ext port engine g retries (Net.init script faults)).1

/-- The section parsers alone, on any bytes. -/
theorem C01_valve_parsers (engine : Valve.Engine) (data : Bytes) :
    ((Valve.parseInfo engine).run data).isCrash = false
    ∧ ((Valve.parsePlayers engine).run data).isCrash = false
    ∧ ((Valve.parseRules engine).run data).isCrash = false := by
  have key : ∀ {α : Type} (p : Par α), Safe p → (p.run data).isCrash = false := by
    intro α p hp
    cases h : p.run data with
    | crash => exact absurd h (hp.run_ne_crash data)
    | _ => rfl
  exact ⟨key _ (Valve.safe_parseInfo engine), key _ (Valve.safe_parsePlayers engine), key _ (Valve.safe_parseRules engine)⟩

/-- The packet reader and the wire codecs on any bytes (see also C17). -/
theorem C01_reader (e : Endian) (ops : List ROp) (data : Bytes) : (ROp.afterAll e ops (Buf.new data)).isSome = true := by
  have hsafe : ∀ op : ROp, Safe (op.exec e) := by
    intro op
    cases op <;> simp only [ROp.exec]
    · exact Safe.bind (safe_readUnsigned _ _) fun _ => Safe.pure _
    · exact Safe.bind (safe_readSigned _ _) fun _ => Safe.pure _
    · exact Safe.bind (safe_moveCursor _) fun _ => Safe.pure _
    · exact Safe.bind (safe_readStringWith _ (utf8Dec_noCrash _)) fun _ => Safe.pure _
    · exact Safe.bind (safe_readStringWith _ (utf8LenDec_noCrash _)) fun _ => Safe.pure _
    · exact Safe.bind (safe_readStringWith _ (utf16Dec_noCrash _ _ _)) fun _ => Safe.pure _
    · exact Safe.bind (safe_switchEndianChunk _) fun _ => Safe.pure _
    · exact Safe.bind Mc.safe_getVarint fun _ => Safe.pure _
    · exact Safe.bind Mc.safe_getString fun _ => Safe.pure _
    · exact Safe.bind Unreal2.safe_readU2Str fun _ => Safe.pure _
  generalize Buf.new data = b
  induction ops generalizing b with
  | nil => rfl
  | cons op r ih =>
    simp only [ROp.afterAll, ROp.after]
    have hp := hsafe op b
    cases hx : op.exec e b with
    | ok x => exact ih _
    | err k => exact ih _
    | crash => rw [hx] at hp; exact hp.elim

-- non-vacuity: a hostile script (split header announcing 0 fragments, truncated) is in the quantifier
example : (Valve.query ⟨fun _ => none, fun _ => 0⟩ 27015 (.source none) Valve.Gather.default 1
    (Net.init [.opened [.data [0xFE, 0xFF, 0xFF, 0xFF, 1, 0, 0, 0, 0, 0]]] [])).1 = .err .packetUnderflow := by
  decide +kernel
