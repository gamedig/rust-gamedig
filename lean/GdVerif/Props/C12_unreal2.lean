import GdVerif.Lemmas.Unreal2Block
/-
  C12 (blocking steps that can run into their timeout) — Unreal 2.
-/
open Gd Gd.Unreal2

/-- Whatever the server does — for every script, fault vector, gather setting and retry setting — at
most `3 · retries + 2` blocking steps of an Unreal 2 query run into their timeout (a failed socket
creation, failed sends, timed-out receives).  The three requests are retried separately; the rules
and players answers are lists that are listened for until a receive times out, which adds one
timeout per list but only after its request has succeeded, i.e. after at most `retries` failed
attempts; and the two list requests are only made once the server info has been obtained.  The number
of datagrams a list consists of does not enter the bound.
Wall time ≤ (3 · retries + 2) · timeout + the server's own delays. -/
theorem C12_unreal2_blocking_bound (port : Nat) (g : Gather) (retries : Nat) (script : List ConnScript)
    (faults : List Bool) :
    nBlocked (query port g retries (Net.init script faults)).2.log ≤ 3 * retries + 2 := by
  have := (block_query port g retries).total script faults
  omega

/-- One list request with its listening loop: at most `retries + 1` timeouts, whatever arrives. -/
theorem C12_unreal2_list_bound (s : Sock) (retries n : Nat) (w : Net) :
    (∃ added, (queryRules s retries w).2.log = w.log ++ added ∧ nBlocked added ≤ retries + 1)
    ∧ (∃ added, (queryPlayers s retries n w).2.log = w.log ++ added ∧ nBlocked added ≤ retries + 1) :=
  ⟨Block.same_iff.mp (block_queryRules s retries) w, Block.same_iff.mp (block_queryPlayers s retries n) w⟩

/-- A silent server (the socket is created, its first `retries + 1` receives time out; the rest of
the script is arbitrary): the server-info request fails after exactly `retries + 1` attempts and the
query fails with the receive-class error — `retries + 1` requests, `retries + 1` timed-out receives,
nothing received, whatever the gather settings. -/
theorem C12_unreal2_silent_server (port : Nat) (g : Gather) (retries : Nat) (script : List ConnScript)
    (h : PendingSilent false (retries + 1) script) :
    (query port g retries (Net.init script [])).1 = .err .packetReceive
      ∧ nSends (query port g retries (Net.init script [])).2.log = retries + 1
      ∧ nBlocked (query port g retries (Net.init script [])).2.log = retries + 1
      ∧ nRecvOk (query port g retries (Net.init script [])).2.log = 0
      ∧ nOpened (query port g retries (Net.init script [])).2.log = 1 :=
  (silent_query port g retries (Net.init script []) rfl h).counts

/-- the hypothesis is satisfiable: no script at all, or `retries + 1` silences followed by anything -/
example (retries : Nat) (rest : List Delivery) (more : List ConnScript) :
    PendingSilent false (retries + 1) [] ∧
    PendingSilent false (retries + 1) (.opened (List.replicate (retries + 1) .silence ++ rest) :: more) :=
  ⟨rfl, SilentFor.replicate false (retries + 1) rest⟩

/-- the bound is attained.  No retry: the info is answered (1 player announced), the rules request is
not (Try: dropped), the players request is not: 2 = 3·0 + 2 timeouts. -/
example : nBlocked (query 7777 ⟨.try_, .try_⟩ 0 (Net.init [.opened [.data [128, 0, 0, 0, 0, 0, 0, 0, 0, 0, 0, 0, 0, 0, 0, 0, 0, 0, 0, 0, 0, 1, 0, 0, 0, 0, 0, 0, 0], .silence, .silence]] [])).2.log = 2 := by
  decide +kernel

/-- One retry: every request is answered at its second attempt, both lists end with the timeout of the
listening loop: 1 + 2 + 2 = 5 = 3·1 + 2 timeouts, and the query succeeds. -/
example :
    nBlocked (query 7777 ⟨.enforce, .enforce⟩ 1 (Net.init [.opened [.silence, .data [128, 0, 0, 0, 0, 0, 0, 0, 0, 0, 0, 0, 0, 0, 0, 0, 0, 0, 0, 0, 0, 1, 0, 0, 0, 0, 0, 0, 0], .silence, .data [128, 0, 0, 0, 1], .silence,
      .silence, .data [128, 0, 0, 0, 2], .silence]] [])).2.log = 5
    ∧ (query 7777 ⟨.enforce, .enforce⟩ 1 (Net.init [.opened [.silence, .data [128, 0, 0, 0, 0, 0, 0, 0, 0, 0, 0, 0, 0, 0, 0, 0, 0, 0, 0, 0, 0, 1, 0, 0, 0, 0, 0, 0, 0], .silence, .data [128, 0, 0, 0, 1], .silence,
      .silence, .data [128, 0, 0, 0, 2], .silence]] [])).1.isOk = true := by
  decide +kernel
