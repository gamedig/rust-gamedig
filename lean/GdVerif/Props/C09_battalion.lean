import GdVerif.Lemmas.Battalion
import GdVerif.Lemmas.SmallLogic
/-
  C09 — requests are the protocol's and go to the right port: Battalion 1944 (the Valve requests, C09_valve_*).
-/
open Gd Gd.Valve

/-- Whatever the server does, the Battalion 1944 query puts on the wire exactly what the Valve query does: one
UDP socket to the given port, A2S requests (without challenge, or carrying a challenge) to that port, 6144-byte
receives; the overrides and the conversion do no I/O. -/
theorem C09_battalion_conforms (ext : Ext) (port : Nat) (script : List ConnScript) (faults : List Bool) :
    ∀ e ∈ (Battalion.query ext port (Net.init script faults)).2.log,
      match e with
      | .opened c tcp p _ => c = 0 ∧ tcp = false ∧ p = port
      | .send c p data _ => c = 0 ∧ p = port ∧ Allowed data
      | .recv c size _ => c = 0 ∧ size = some 6144 := by
  intro e he
  have := log_of_init (Battalion.query_safe ext port (Net.init script faults)).2 e he
  cases e with
  | opened c tcp p r => exact this
  | send c p d f => exact this
  | recv c s gt => exact this

/-- the default query port is the game port + 3 -/
theorem C09_battalion_default_port : Battalion.DEFAULT_PORT = Battalion.Spec.defaultPort := rfl
