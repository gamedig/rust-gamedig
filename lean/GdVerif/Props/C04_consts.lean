import GdVerif.Gen.Consts
import GdVerif.Lemmas.Consts
import GdVerif.Spec.Gs1
import GdVerif.Spec.Gs2
import GdVerif.Spec.Gs3
/-
  C04 — the names and numbers of the GameSpy 1 / 2 / 3 parsers: SOURCE = MODEL = SPEC (tie by TRANSLATION).

  The typed variable keys of the three `query` functions (what does not end up in `unused_entries`), the per-player
  field kinds of GameSpy 1, the table column names of GameSpy 2, the typed field names / `splitnum` tag / flag masks of
  GameSpy 3, the `password` key of `common.rs`.  `Gd.Gen.Consts.*` is regenerated from the source on every run.
  For the typed keys the MODEL side is a run of the model's `buildResponse` on a map holding exactly the source's keys
  (nothing is left over); that the model takes nothing else out of the map is `C04_gs*_query` (model = SPEC for every
  reply) together with SPEC keys = source keys below.
-/
open Gd Gd.Gen Gd.ConstsAux

/-- Lists of names with the same members have the same members as byte strings (`keys` maps one function over both),
so such a check is made on the names.  (Also used in `C16_consts`.) -/
theorem sameSet_keys {a b : List String} (h : (a.all (b.contains ·) && b.all (a.contains ·)) = true) :
    sameSet (keys a) (keys b) = true := by
  simp only [sameSet, keys, Bool.and_eq_true, List.all_eq_true, List.contains_iff_mem, List.mem_map] at h ⊢
  exact ⟨fun _ ⟨x, hx, e⟩ => ⟨x, h.1 x hx, e⟩, fun _ ⟨x, hx, e⟩ => ⟨x, h.2 x hx, e⟩⟩

/-! ### GameSpy 1 -/

/-- `final`, `queryid` -/
theorem C04_consts_gs1_control_keys :
    Gs1.kFinal = asciiBytes Consts.gs1_final_key ∧ Gs1.kQueryId = asciiBytes Consts.gs1_queryid_key := ⟨rfl, rfl⟩

/-- `"team" | "player" | … | "health" => false`: the per-player field kinds = `Gs1.playerKinds`; the keys
`extract_players` then reads from a player's map are the same eleven -/
theorem C04_consts_gs1_player_kinds :
    Gs1.playerKinds = keys Consts.gs1_player_kinds
    ∧ sameSet (keys Consts.gs1_player_gets) Gs1.playerKinds = true := ⟨rfl, sameSet_keys (by decide +kernel)⟩

/-- SPEC: the typed keys are the ones `query` removes, `password` (common.rs) and the two control keys -/
theorem C04_consts_gs1_spec_typed_keys :
    sameSet Gs1.Spec.typedKeys (keys (Consts.gs1_typed_keys ++ [Consts.gs1_final_key, Consts.gs1_queryid_key])) = true
    ∧ Consts.gs_password_key ∈ Consts.gs1_typed_keys := ⟨sameSet_keys (by decide +kernel), by decide +kernel⟩

/-- the value used for a typed key in the runs below: `true` for `tournament`, `1` elsewhere -/
def C04_consts_probeValue (k : String) : Bytes := if k == "tournament" then asciiBytes "true" else asciiBytes "1"

/-- MODEL: from a map with exactly the source's typed keys `buildResponse` succeeds and leaves only `admin` (which
`.or_else` does not touch when `AdminName` is there); without `AdminName` nothing is left -/
theorem C04_consts_gs1_model_typed_keys :
    resMap (fun r => r.unusedEntries.map (·.1))
        (Gs1.buildResponse (Consts.gs1_typed_keys.map fun k => (asciiBytes k, C04_consts_probeValue k)))
      = .ok [asciiBytes "admin"]
    ∧ resMap (fun r => r.unusedEntries)
        (Gs1.buildResponse ((Consts.gs1_typed_keys.filter (· != "AdminName")).map fun k => (asciiBytes k, C04_consts_probeValue k)))
      = .ok []
    ∧ Consts.gs1_tournament_default = "true" := by decide +kernel

/-! ### GameSpy 2 -/

/-- the header of the reply: `read::<u8>() != 0 || read::<u32>() != 1` (the default 9 is neither: were the generated list
shorter, the equation would be false, not true by accident) -/
theorem C04_consts_gs2_reply_header :
    Gs2.checkHeader = (do
      let h ← readUnsigned .big 1
      if h != Consts.gs2_reply_header.getD 0 9 then Par.fail .packetBad
      else do
        let id ← readUnsigned .big 4
        if id != Consts.gs2_reply_header.getD 1 9 then Par.fail .packetBad else currentPosition) := rfl

/-- `table_extract!(table, "team_t" / "score_t", …)`, `"player_" / "score_" / "ping_" / "team_"` -/
theorem C04_consts_gs2_columns (t : Gs2.Table) (index : Nat) :
    Gs2.teamAt t index = (do
      let name ← Gs2.tableExtract t (Consts.gs2_team_columns.getD 0 "") index
      let score ← Gs2.tableExtractU16 t (Consts.gs2_team_columns.getD 1 "") index
      pure ⟨name, score⟩)
    ∧ Gs2.playerAt t index = (do
      let name ← Gs2.tableExtract t (Consts.gs2_player_columns.getD 0 "") index
      let score ← Gs2.tableExtractU16 t (Consts.gs2_player_columns.getD 1 "") index
      let ping ← Gs2.tableExtractU16 t (Consts.gs2_player_columns.getD 2 "") index
      let team ← Gs2.tableExtractU16 t (Consts.gs2_player_columns.getD 3 "") index
      pure ⟨name, score, ping, team⟩)
    ∧ Consts.gs2_team_columns.length = 2 ∧ Consts.gs2_player_columns.length = 4 := ⟨rfl, rfl, rfl, rfl⟩

/-- SPEC: the column heads a server sends first are the source's -/
theorem C04_consts_gs2_spec_columns (y : Gs2.Spec.Style) :
    (Gs2.Spec.playerHeads y).take 4 = keys Consts.gs2_player_columns
    ∧ (Gs2.Spec.teamHeads y).take 2 = keys Consts.gs2_team_columns := ⟨rfl, rfl⟩

/-- SPEC: typed keys = the keys `query` removes -/
theorem C04_consts_gs2_spec_typed_keys :
    sameSet Gs2.Spec.typedKeys (keys Consts.gs2_typed_keys) = true := sameSet_keys (by decide +kernel)

/-- MODEL: `two::query` takes exactly the source's keys out of the variables, in the source's order, and the server
is passworded exactly when `password` is the text the source compares with (`"1"`) -/
theorem C04_consts_gs2_model_typed_keys :
    Gs2.parseBody = (do
      let vars ← Gs2.getServerVars
      let players ← Gs2.getPlayers
      let (numText, vars) := Gs2.take vars (Consts.gs2_typed_keys.getD 0 "")
      let reported ← Par.lift (Gs2.optParse numText 64)
      let (minText, vars) := Gs2.take vars (Consts.gs2_typed_keys.getD 1 "")
      let playersMinimum ← Par.lift (Gs2.optParse minText 32)
      let (name, vars) := Gs2.take vars (Consts.gs2_typed_keys.getD 2 "")
      let name ← Par.lift (okOr name .packetBad)
      let (map, vars) := Gs2.take vars (Consts.gs2_typed_keys.getD 3 "")
      let map ← Par.lift (okOr map .packetBad)
      let (pw, vars) := Gs2.take vars (Consts.gs2_typed_keys.getD 4 "")
      let pw ← Par.lift (okOr pw .packetBad)
      let teams ← Gs2.getTeams
      let (maxText, vars) := Gs2.take vars (Consts.gs2_typed_keys.getD 5 "")
      let maxText ← Par.lift (okOr maxText .packetBad)
      let playersMaximum ← Par.lift (okOr (parseUnsigned 32 maxText) .typeParse)
      pure { name, map, hasPassword := pw == asciiBytes Consts.gs2_password_true, teams, playersMaximum,
             playersOnline := Gs2.playersOnline reported players.length, playersMinimum, players, unusedEntries := vars })
    ∧ Consts.gs2_typed_keys.length = 6 := ⟨rfl, rfl⟩

/-! ### GameSpy 3 -/

/-- the `splitnum` tag, the "last packet" flag and the packet number mask of a data packet -/
theorem C04_consts_gs3_frag :
    Gs3.readFrag = (do
      let tag ← readCStr
      if tag != asciiBytes Consts.gs3_splitnum then Par.fail .packetBad
      else do
        let id ← readU8
        moveCursor 1
        let payload ← remainingBytes
        pure ⟨id &&& Consts.gs3_last_flag_and_id_mask.getD 1 0, id &&& Consts.gs3_last_flag_and_id_mask.getD 0 0 > 0, payload⟩)
    ∧ Consts.gs3_last_flag_and_id_mask.length = 2 := ⟨rfl, rfl⟩

/-- single-packet mode skips the 11 bytes of the split header; data packets are received as kind 0 -/
theorem C04_consts_gs3_single_skip :
    Gs3.readSingle = (do moveCursor (Consts.gs3_single_packet_skip : Nat); remainingBytes)
    ∧ Consts.gs3_data_receive_kind = 0 := ⟨rfl, rfl⟩

/-- `["player", "score", "ping", "team", "deaths", "pid", "skill"]` = `Gs3.knownFields` = SPEC `typedFields` (as a set) -/
theorem C04_consts_gs3_known_fields :
    Gs3.knownFields = keys Consts.gs3_known_fields
    ∧ sameSet Gs3.Spec.typedFields (keys Consts.gs3_known_fields) = true := ⟨rfl, by decide +kernel⟩

/-- the team suffix `t`, and the bound below which a byte is a section marker -/
theorem C04_consts_gs3_team_suffix (pieces : List Bytes) (t : Gs3.Tables) :
    Gs3.fieldIsTeam pieces = (match pieces[1]? with
      | none => .ok false
      | some v => if v.isEmpty then .ok false else if v != asciiBytes Consts.gs3_team_suffix then .err .packetBad else .ok true)
    ∧ Gs3.sectionStep t = (do
      let first ← readU8
      if first < Consts.gs3_section_marker_bound then pure t
      else do
        moveCursor (-1)
        Gs3.readSection t) := ⟨rfl, rfl⟩

/-- the keys a player / a team is built from = `Gs3.mkPlayer` / `mkTeam` = SPEC `playerFields` / `teamFields` -/
theorem C04_consts_gs3_row_fields (m : Gs3.Vars) :
    Gs3.mkPlayer m = (do
      let name ← Gs3.fieldOf m (Consts.gs3_player_gets.getD 0 "")
      let score ← Gs3.fieldOf m (Consts.gs3_player_gets.getD 1 "") >>= Gs3.parseI 32
      let ping ← Gs3.fieldOf m (Consts.gs3_player_gets.getD 2 "") >>= Gs3.parseU 16
      let team ← Gs3.fieldOf m (Consts.gs3_player_gets.getD 3 "") >>= Gs3.parseU 8
      let deaths ← Gs3.fieldOf m (Consts.gs3_player_gets.getD 4 "") >>= Gs3.parseU 32
      let skill ← Gs3.fieldOf m (Consts.gs3_player_gets.getD 5 "") >>= Gs3.parseU 32
      pure ⟨name, score, ping, team, deaths, skill⟩)
    ∧ Gs3.mkTeam m = (do
      let name ← Gs3.fieldOf m (Consts.gs3_team_gets.getD 0 "")
      let score ← Gs3.fieldOf m (Consts.gs3_team_gets.getD 1 "") >>= Gs3.parseI 32
      pure ⟨name, score⟩)
    ∧ Gs3.Spec.playerFields = keys Consts.gs3_player_gets
    ∧ Gs3.Spec.teamFields = keys Consts.gs3_team_gets := ⟨rfl, rfl, rfl, rfl⟩

/-- SPEC: typed keys = the keys `query` removes (`password` through common.rs) -/
theorem C04_consts_gs3_spec_typed_keys :
    sameSet Gs3.Spec.typedKeys (keys Consts.gs3_typed_keys) = true := by decide +kernel

/-- MODEL: from a map with exactly the source's typed keys `buildFields` succeeds and leaves nothing -/
theorem C04_consts_gs3_model_typed_keys :
    resMap (fun r => r.unusedEntries)
        (Gs3.buildFields (Consts.gs3_typed_keys.map fun k => (asciiBytes k, C04_consts_probeValue k)) [] [])
      = .ok [] := by decide +kernel

/-- `common.rs`: the key `has_password` removes = the models' (GameSpy 1/2 copy and GameSpy 3 copy) -/
theorem C04_consts_password_key (m : Gs.Map Bytes) (vars : Gs3.Vars) :
    Gs.hasPassword m = (match Gs.mapGet m (asciiBytes Consts.gs_password_key) with
      | none => .err .packetBad
      | some v =>
        match Gs.passwordValue v with
        | .ok b => .ok (b, Gs.mapRemove m (asciiBytes Consts.gs_password_key))
        | .err k => .err k
        | .crash => .crash)
    ∧ Gs3.hasPassword vars = (match Gs3.mapTake vars (asciiBytes Consts.gs_password_key) with
      | (none, _) => .err .packetBad
      | (some v, vars') => do
        let b ← Gs3.passwordValue v
        pure (b, vars')) := ⟨rfl, rfl⟩

example : Consts.gs1_typed_keys.length = 12 := rfl
example : Consts.gs3_typed_keys.length = 9 := rfl
