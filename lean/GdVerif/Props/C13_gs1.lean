import GdVerif.Lemmas.Gs1Cost
import GdVerif.Lemmas.Gs1Block
/-
  C13 (requests sent) — GameSpy 1.  `units` = 1: one request (`\\status\\xserverquery`), any number of
  answer parts back; the exchange with its receive loop is the retried unit.
-/
open Gd Gd.Gs1

/-- Whatever the server does, for every script, fault vector and retry setting, the GameSpy 1 query
sends at most one datagram per attempt: `retries + 1` in all, however many parts it receives
(listening for further parts never sends). -/
theorem C13_gs1_send_bound (port retries : Nat) (script : List ConnScript) (faults : List Bool) :
    nSends (query port retries (Net.init script faults)).2.log ≤ retries + 1 :=
  (sends_query port retries).total script faults

/-- the same for `query_vars` -/
theorem C13_gs1_vars_send_bound (port retries : Nat) (script : List ConnScript) (faults : List Bool) :
    nSends (queryVars port retries (Net.init script faults)).2.log ≤ retries + 1 :=
  (sends_queryVars port retries).total script faults

/-- The form the trace oracle of `props/c13.py` checks (`send_units` = 1). -/
theorem C13_gs1_send_bound_units (port retries : Nat) (script : List ConnScript) (faults : List Bool) :
    nSends (query port retries (Net.init script faults)).2.log
      ≤ 1 * (retries + 1) + nRecvOk (query port retries (Net.init script faults)).2.log := by
  have := C13_gs1_send_bound port retries script faults
  omega

/-- The bound is attained for every retry setting: against a server that never answers exactly
`retries + 1` requests are sent. -/
theorem C13_gs1_send_bound_attained (port retries : Nat) :
    nSends (query port retries (Net.init [] [])).2.log = retries + 1 :=
  (silent_query port retries (Net.init [] []) rfl rfl).counts.2.1

/-- attained with datagrams received too: a first part (`\\hostname\\x\\queryid\\1.1`, not final), then silence -/
example : nSends (query 7777 1 (Net.init [.opened [.data [92, 104, 111, 115, 116, 110, 97, 109, 101, 92, 120, 92, 113, 117, 101, 114, 121, 105, 100, 92, 49, 46, 49, 0], .silence, .silence]] [])).2.log = 2
    ∧ nRecvOk (query 7777 1 (Net.init [.opened [.data [92, 104, 111, 115, 116, 110, 97, 109, 101, 92, 120, 92, 113, 117, 101, 114, 121, 105, 100, 92, 49, 46, 49, 0], .silence, .silence]] [])).2.log = 1 := by
  decide +kernel
