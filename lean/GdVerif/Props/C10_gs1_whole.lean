import GdVerif.Lemmas.Gs1Faults
import GdVerif.Props.C04_gs1
/-
  C10 on WHOLE GameSpy 1 queries with faults injected.

  `Props/C10.lean` proves C10 for the combinator, `Props/C10_gs1.lean` names the retried unit: the WHOLE status exchange
  (the one request, then the receive loop over the parts of the reply).  Here the property is proved end to end for
  `Gs1.query` (and `query_vars`) against the SPEC's server (`Spec/Gs1.lean`), on the scripts of
  `props/families/gs1.py: c10_build`: a plan (`Spec/Gs1Faults.lean`) lists the attempts that end in a timeout-class
  failure — the request cannot be sent, or it goes out and the server falls silent BEFORE THE REPLY IS COMPLETE, after
  any selection of the reply's datagrams (each at most once, any order, at least one missing; `Spec.selects`) — and how
  the unit ends: the whole reply (parts in ANY order of arrival), nothing, or a malformed datagram arriving while the
  reply is incomplete.  `faultyScript` / `faultyFaults` are the two arguments of `Net.init`; what follows them (`restQ`,
  `restF`) is arbitrary.  Quantified: state, writing style and cut into parts in the SPEC's domain (1 – 65535 parts),
  port, retry count, the plan.
-/
open Gd Gd.Gs Gd.Gs1 Gd.Gs1.Spec Gd.Faults

/-- THE GENERAL STATEMENT.  For every plan in C10's domain for the retry count (`wfPlan`: every failed attempt received
an incomplete selection of the reply's parts before the silence; a unit that is answered — by the whole reply, or by a
datagram whose text is empty or not UTF-8 while the reply is incomplete — had at most `retries` timeout-class failures
before, a unit that is given up exactly `retries + 1`): the query returns the outcome the property prescribes
(`faultyExpected`: the fault-free response / the last failure's error / `PacketBad` for the malformed datagram), and
the datagrams it sent are exactly the plan's (`faultySends`: the request, once per attempt — what a failed attempt had
received is dropped, the retry asks again). -/
theorem C10_gs1_query_faulty (y : Style) (st : State) (h : wf y st = true) (port retries : Nat)
    (arrival : List Bytes) (harr : arrival.Perm (script y st)) (plan : Plan)
    (hplan : wfPlan retries (script y st) plan = true) (restQ : List Delivery) (restF : List Bool) :
    (Gs1.query port retries
        (Net.init [.opened (faultyScript plan arrival ++ restQ)] (faultyFaults plan ++ restF))).1
      = faultyExpected st plan
    ∧ sentOf (Gs1.query port retries
        (Net.init [.opened (faultyScript plan arrival ++ restQ)] (faultyFaults plan ++ restF))).2.log
      = faultySends plan :=
  query_faulty (wf_iff y st h) port retries arrival harr plan hplan restQ restF

/-- the same for `query_vars`: the variables sent, under the same faults -/
theorem C10_gs1_query_vars_faulty (y : Style) (st : State) (h : wf y st = true) (port retries : Nat)
    (arrival : List Bytes) (harr : arrival.Perm (script y st)) (plan : Plan)
    (hplan : wfPlan retries (script y st) plan = true) (restQ : List Delivery) (restF : List Bool) :
    (Gs1.queryVars port retries
        (Net.init [.opened (faultyScript plan arrival ++ restQ)] (faultyFaults plan ++ restF))).1
      = faultyVars y st plan
    ∧ sentOf (Gs1.queryVars port retries
        (Net.init [.opened (faultyScript plan arrival ++ restQ)] (faultyFaults plan ++ restF))).2.log
      = faultySends plan :=
  queryVars_faulty (wf_iff y st h) port retries arrival harr plan hplan restQ restF

/-- (a) RECOVERY.  `fails` (any number ≤ `retries`; each a failed send, or a silence after an incomplete selection of
the parts) precede the whole reply: the query returns exactly `Spec.expected st` — by `C04_gs1_query` the result with no
faults —, and the request was sent `fails.length + 1` times. -/
theorem C10_gs1_query_recovers (y : Style) (st : State) (h : wf y st = true) (port retries : Nat)
    (arrival : List Bytes) (harr : arrival.Perm (script y st)) (fails : List Attempt)
    (hfails : ∀ a ∈ fails, a.wf (script y st) = true) (hk : fails.length ≤ retries)
    (restQ : List Delivery) (restF : List Bool) :
    let plan : Plan := ⟨fails, .valid⟩
    let out := Gs1.query port retries
        (Net.init [.opened (faultyScript plan arrival ++ restQ)] (faultyFaults plan ++ restF))
    out.1 = .ok (expected st)
    ∧ sentOf out.2.log = fails.map (fun a => (request, a.sendFault)) ++ [(request, false)]
    ∧ (sentOf out.2.log).length = fails.length + 1 := by
  intro plan out
  have hplan : wfPlan retries (script y st) plan = true := by
    simp only [wfPlan, plan, Bool.and_eq_true, List.all_eq_true, decide_eq_true_eq]
    exact ⟨hfails, hk⟩
  obtain ⟨h1, h2⟩ := C10_gs1_query_faulty y st h port retries arrival harr plan hplan restQ restF
  have h2' : sentOf out.2.log = fails.map (fun a => (request, a.sendFault)) ++ [(request, false)] := by
    rw [show sentOf out.2.log = _ from h2, faultySends_eq]; rfl
  exact ⟨h1, h2', by rw [h2']; simp⟩

/-- (b) EXHAUSTION.  All `retries + 1` attempts end in a timeout-class failure: the query fails with the last attempt's
error — `PacketReceive`, or `PacketSend` when that attempt was a failed send — after exactly `retries + 1` requests,
whatever the script still holds. -/
theorem C10_gs1_query_exhausted (y : Style) (st : State) (h : wf y st = true) (port retries : Nat)
    (fails : List Attempt) (hfails : ∀ a ∈ fails, a.wf (script y st) = true) (hk : fails.length = retries + 1)
    (restQ : List Delivery) (restF : List Bool) :
    let plan : Plan := ⟨fails, .gaveUp⟩
    let out := Gs1.query port retries
        (Net.init [.opened (faultyScript plan [] ++ restQ)] (faultyFaults plan ++ restF))
    out.1 = .err (lastError Attempt.error fails)
    ∧ (out.1 = .err .packetReceive ∨ out.1 = .err .packetSend)
    ∧ sentOf out.2.log = fails.map (fun a => (request, a.sendFault))
    ∧ (sentOf out.2.log).length = retries + 1 := by
  intro plan out
  have hplan : wfPlan retries (script y st) plan = true := by
    simp only [wfPlan, plan, Bool.and_eq_true, List.all_eq_true, beq_iff_eq]
    exact ⟨hfails, hk⟩
  -- the arrival order of the valid reply does not occur in the script of a plan that gives up
  have hs : faultyScript plan [] = faultyScript plan (script y st) := rfl
  have hq := C10_gs1_query_faulty y st h port retries (script y st) (List.Perm.refl _) plan hplan restQ restF
  rw [← hs] at hq
  obtain ⟨h1, h2⟩ := hq
  have h1' : out.1 = .err (lastError Attempt.error fails) := h1
  have h2' : sentOf out.2.log = fails.map (fun a => (request, a.sendFault)) := by
    rw [show sentOf out.2.log = _ from h2, faultySends_eq]; simp [plan, Ending.sends]
  refine ⟨h1', ?_, h2', by rw [h2', List.length_map, hk]⟩
  rw [h1']
  have hne : fails ≠ [] := by intro h0; subst h0; simp at hk
  rcases lastError_class fails hne with e | e <;> simp [e]

theorem C10_gs1_last_error (fails : List Attempt) (a : Attempt) :
    lastError Attempt.error (fails ++ [a]) = (if a.sendFault then .packetSend else .packetReceive) := by
  rw [lastError_concat]
  cases a <;> rfl

/-- (c) A MALFORMED REPLY IS NOT RETRIED.  After any number ≤ `retries` of timed-out attempts, and after any incomplete
selection `got` of the reply's parts within the attempt, the client receives a datagram that is not a GameSpy 1 packet —
ANY datagram (within the receive buffer) whose text up to the first NUL is empty or is not UTF-8 (`Spec.malformed`).
Whatever `retries` is, the query fails at once with `PacketBad` (not a timeout-class error), and no further request is
sent: `fails.length + 1` in all. -/
theorem C10_gs1_query_malformed_not_retried (y : Style) (st : State) (h : wf y st = true) (port retries : Nat)
    (fails : List Attempt) (hfails : ∀ a ∈ fails, a.wf (script y st) = true) (hk : fails.length ≤ retries)
    (got : List Bytes) (hgot : selects got (script y st) = true) (m : Bytes) (hm : malformed m = true)
    (hl : m.length ≤ 2048) (restQ : List Delivery) (restF : List Bool) :
    let plan : Plan := ⟨fails, .malformed got m⟩
    let out := Gs1.query port retries
        (Net.init [.opened (faultyScript plan [] ++ restQ)] (faultyFaults plan ++ restF))
    out.1 = .err .packetBad
    ∧ ErrKind.packetBad.isTimeout = false
    ∧ sentOf out.2.log = fails.map (fun a => (request, a.sendFault)) ++ [(request, false)]
    ∧ (sentOf out.2.log).length = fails.length + 1 := by
  intro plan out
  have hplan : wfPlan retries (script y st) plan = true := by
    simp only [wfPlan, plan, Bool.and_eq_true, List.all_eq_true, decide_eq_true_eq]
    exact ⟨hfails, ⟨⟨hk, hgot⟩, hm⟩, hl⟩
  have hs : faultyScript plan [] = faultyScript plan (script y st) := rfl
  have hq := C10_gs1_query_faulty y st h port retries (script y st) (List.Perm.refl _) plan hplan restQ restF
  rw [← hs] at hq
  obtain ⟨h1, h2⟩ := hq
  have h2' : sentOf out.2.log = fails.map (fun a => (request, a.sendFault)) ++ [(request, false)] := by
    rw [show sentOf out.2.log = _ from h2, faultySends_eq]; rfl
  exact ⟨h1, rfl, h2', by rw [h2']; simp⟩

/-- the request on the wire is the SPEC's -/
theorem C10_gs1_request : Spec.requests = [request] ∧ Gs1.statusRequest = request := ⟨rfl, request_eq⟩

/-! ### non-vacuity: the two-part server of `Props/C04_gs1.lean` -/

/-- the two datagrams of the example reply -/
def C10_gs1_exReply : List Bytes := script C04_gs1_exStyle C04_gs1_exState

/-- a failed send, then the SECOND part followed by silence (the first never arrives), then the reply with its parts
swapped -/
def C10_gs1_exFails : List Attempt := [.noSend, .lost (C10_gs1_exReply.drop 1)]

-- (a) retries = 2: both failures are in the domain, the plan's script holds 1 + 1 + 2 deliveries, and the query answers
-- the state after 3 requests
example (port : Nat) :
    (∀ a ∈ C10_gs1_exFails, a.wf C10_gs1_exReply = true)
    ∧ (faultyScript ⟨C10_gs1_exFails, .valid⟩ C10_gs1_exReply.reverse).length = 4
    ∧ faultyFaults ⟨C10_gs1_exFails, .valid⟩ = [true, false, false]
    ∧ (Gs1.query port 2 (Net.init [.opened (faultyScript ⟨C10_gs1_exFails, .valid⟩ C10_gs1_exReply.reverse ++ [])]
        (faultyFaults ⟨C10_gs1_exFails, .valid⟩ ++ []))).1 = .ok (expected C04_gs1_exState)
    ∧ (sentOf (Gs1.query port 2 (Net.init [.opened (faultyScript ⟨C10_gs1_exFails, .valid⟩ C10_gs1_exReply.reverse ++ [])]
        (faultyFaults ⟨C10_gs1_exFails, .valid⟩ ++ []))).2.log).length = 3 := by
  have hf : ∀ a ∈ C10_gs1_exFails, a.wf C10_gs1_exReply = true := by decide +kernel
  have h := C10_gs1_query_recovers C04_gs1_exStyle C04_gs1_exState C04_gs1_exChecked.1 port 2
    C10_gs1_exReply.reverse (List.reverse_perm _) C10_gs1_exFails hf (by decide) [] []
  exact ⟨hf, by decide +kernel, by decide +kernel, h.1, h.2.2⟩

-- (b) retries = 1: the first part then silence, twice: PacketReceive after 2 requests, whatever is still queued
example (port : Nat) (restQ : List Delivery) :
    (Gs1.query port 1 (Net.init
      [.opened (faultyScript ⟨[.lost (C10_gs1_exReply.take 1), .lost (C10_gs1_exReply.take 1)], .gaveUp⟩ [] ++ restQ)]
      (faultyFaults ⟨[.lost (C10_gs1_exReply.take 1), .lost (C10_gs1_exReply.take 1)], .gaveUp⟩ ++ []))).1
      = .err .packetReceive :=
  (C10_gs1_query_exhausted C04_gs1_exStyle C04_gs1_exState C04_gs1_exChecked.1 port 1
    [.lost (C10_gs1_exReply.take 1), .lost (C10_gs1_exReply.take 1)] (by decide +kernel) rfl restQ []).1

-- (c) retries = 4: the check's malformed datagram `ff ff` after a lost attempt and the first part; an empty datagram and
-- one that starts with NUL are malformed too
example (port : Nat) :
    (Gs1.query port 4 (Net.init
      [.opened (faultyScript ⟨[.lost []], .malformed (C10_gs1_exReply.take 1) [0xFF, 0xFF]⟩ [] ++ [])]
      (faultyFaults ⟨[.lost []], .malformed (C10_gs1_exReply.take 1) [0xFF, 0xFF]⟩ ++ []))).1 = .err .packetBad
    ∧ malformed [] = true ∧ malformed [0, 92, 97] = true :=
  ⟨(C10_gs1_query_malformed_not_retried C04_gs1_exStyle C04_gs1_exState C04_gs1_exChecked.1 port 4 [.lost []]
      (by decide +kernel) (by decide) (C10_gs1_exReply.take 1) (by decide +kernel) [0xFF, 0xFF] (by decide +kernel)
      (by decide) [] []).1,
    by decide +kernel, by decide +kernel⟩
