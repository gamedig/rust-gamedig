import GdVerif.Proto.Games
import GdVerif.Lemmas.ValveSafe
import GdVerif.Gen.Games
/-
  C14 — Definition-driven, per-game and protocol-level queries agree.

  `Gen.gameDefs` / `Gen.gameMods` are regenerated from games/definitions.rs and the game modules on
  every run; the table theorems are re-checked against what the source says now.
-/
open Gd Gd.Valve Gd.Games

/-- does module row `m` belong to definition `d`? (module named after the id, or same display name) -/
def sameGame (d m : Gd.Gen.GameRow) : Bool := d.id == m.id || d.name == m.name

/-- A text as a number: its UTF-8 bytes as base-256 digits behind a leading 1.  Equal texts have equal codes, and that
is all the table theorems need: they test every row of one table against every row of the other on the codes, so
the texts themselves are inspected only for the pairs that match. -/
def textCode (s : String) : Nat := s.toByteArray.data.toList.foldl (fun n b => 256 * n + b.toNat) 1

/-- `sameGame` on the codes of the texts -/
def sameCodes (d m : Gd.Gen.GameRow) : Bool :=
  (textCode d.id).beq (textCode m.id) || (textCode d.name).beq (textCode m.name)

theorem sameCodes_of_sameGame {d m : Gd.Gen.GameRow} (h : sameGame d m = true) : sameCodes d m = true := by
  simp only [sameGame, Bool.or_eq_true, beq_iff_eq] at h
  simp only [sameCodes, Bool.or_eq_true, Nat.beq_eq]
  exact h.imp (congrArg textCode) (congrArg textCode)

/-- A check of all pairs that pass a test covers the pairs that pass a finer test. -/
theorem all_pairs_of_coarser {ds : List α} {ms : List β} {same same' agree : α → β → Bool}
    (hsame : ∀ {d m}, same d m = true → same' d m = true)
    (h : (ds.all fun d => ms.all fun m => !same' d m || agree d m) = true) :
    (ds.all fun d => ms.all fun m => !same d m || agree d m) = true := by
  simp only [List.all_eq_true, Bool.or_eq_true, Bool.not_eq_true'] at h ⊢
  exact fun d hd m hm => (h d hd m hm).imp_left fun hn =>
    Bool.eq_false_iff.2 fun hs => Bool.eq_false_iff.1 hn (hsame hs)

/-- Every game of the definitions table that has a dedicated module: the module's default port,
protocol, engine (app ids) and gathering settings are the definition's (as texts and as the typed `tag`). -/
theorem C14_tables_agree :
    (Gd.Gen.gameDefs.all fun d => Gd.Gen.gameMods.all fun m =>
      !sameGame d m || (d.port == m.port && d.proto == m.proto && d.engine == m.engine && d.gather == m.gather
        && d.tag == m.tag)) = true :=
  all_pairs_of_coarser sameCodes_of_sameGame (by decide +kernel)

/-- Every row is in the translator's grammar (no engine / gather / protocol expression it could not read). -/
theorem C14_rows_understood :
    ((Gd.Gen.gameDefs ++ Gd.Gen.gameMods).all fun r => r.understood) = true := by
  decide +kernel

/-- Ids are unique in the definitions table. -/
theorem C14_ids_unique : (Gd.Gen.gameDefs.map (·.id)).Nodup := by
  have h : ((Gd.Gen.gameDefs.map (·.id)).map textCode).Nodup := by decide +kernel
  exact h.of_map textCode fun _ _ hne heq => hne (congrArg textCode heq)

/-- Valve games on the model of `Proto/Games.lean`; the statement for every protocol of the dispatch is
`C14_dispatch_generic_eq_module` / `C14_dispatch_generic_eq_protocol` (Props/C14_dispatch.lean), of which this is the
Valve arm (`C14_dispatch_valve_arm`).
If the tables agree on a game, the generic path (definition-driven), the dedicated module and the
protocol-level query with the definition's parameters are the same computation for EVERY server
behaviour (every script), port given or omitted: same socket, same destination port, same bytes in the
same order, and the same result up to the documented conversion `game::Response::new_from_valve_response`.
(The module uses the default timeout settings, i.e. retry count 0.) -/
theorem C14_paths_agree (ext : Ext) (d m : ValveParams) (h : d = m) (port : Option Nat) (w : Net) :
    mapQ gameView (genericQuery ext d port 0) w = moduleQuery ext m port w
    ∧ genericQuery ext d port 0 w = protocolQuery ext (port.getD d.port) d.engine d.gather 0 w := by
  subst h
  exact ⟨rfl, rfl⟩

/-- Valve games; for every protocol: `C14_dispatch_destination_port`.
The destination port: the given port, or the definition's default when none is given — every
event the generic path logs carries that port. -/
theorem C14_destination_port (ext : Ext) (d : ValveParams) (port : Option Nat) (retries : Nat)
    (script : List ConnScript) (faults : List Bool) :
    ∀ e ∈ (genericQuery ext d port retries (Net.init script faults)).2.log,
      match e with
      | .opened _ _ p _ => p = port.getD d.port
      | .send _ p _ _ => p = port.getD d.port
      | .recv _ _ _ => True := by
  intro e he
  unfold genericQuery at he
  have := log_of_init (Valve.query_safe ext (port.getD d.port) d.engine d.gather retries (Net.init script faults)).2 e he
  cases e with
  | opened c tcp p r => exact this.2.2
  | send c p dd f => exact this.2.1
  | recv c s g => trivial
