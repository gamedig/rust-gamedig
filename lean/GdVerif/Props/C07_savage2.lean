import GdVerif.Lemmas.Savage2
/-
  C07 — single-game protocols map every field: Savage 2.

  MODEL: `GdVerif/Proto/Savage2.lean` (tied to games/savage2 by the C07/C01/C09 checks on every run).
  SPEC:  `GdVerif/Spec/Savage2.lean` (written from node-gamedig's `protocols/savage2.js`).
-/
open Gd Gd.Savage2 Gd.Savage2.Spec

/-- For every server state in the specification's domain (12 header bytes of any content, seven strings of any
length without NUL, four bytes over 0–255, any ignored tail) the parser returns each field of the reply in the
correspondingly named response field. -/
theorem C07_savage2_decode (st : State) (h : wf st = true) :
    parseResponse.run (encode st) = .ok (expected st) :=
  run_encode st h

/-- The whole query against a conforming server, for every port. -/
theorem C07_savage2 (st : State) (h : wf st = true) (port : Nat) :
    (query port (Net.init [.opened [.data (encode st)]] [])).1 = .ok (expected st) := by
  have hlen : (encode st).length ≤ 1024 := by
    simp only [wf, Bool.and_eq_true, decide_eq_true_eq] at h
    exact h.2
  exact (query_script_fst port _ hlen).trans (run_encode st h)

/-- The skip is exactly 12 bytes and the tail is ignored: neither influences any field. -/
theorem C07_savage2_header_and_tail_irrelevant (st : State) (h : wf st = true) (hdr tail : Bytes)
    (hh : hdr.length = 12) (hl : (encode { st with header := hdr, rest := tail }).length ≤ 1024) :
    parseResponse.run (encode { st with header := hdr, rest := tail }) = parseResponse.run (encode st) := by
  rw [run_encode st h]
  have h' : wf { st with header := hdr, rest := tail } = true := by
    simp only [wf, Bool.and_eq_true, decide_eq_true_eq, beq_iff_eq] at h ⊢
    obtain ⟨⟨⟨⟨⟨⟨⟨⟨⟨⟨⟨⟨_, a1⟩, a2⟩, a3⟩, a4⟩, a5⟩, a6⟩, a7⟩, a8⟩, a9⟩, a10⟩, a11⟩, _⟩ := h
    exact ⟨⟨⟨⟨⟨⟨⟨⟨⟨⟨⟨⟨hh, a1⟩, a2⟩, a3⟩, a4⟩, a5⟩, a6⟩, a7⟩, a8⟩, a9⟩, a10⟩, a11⟩, hl⟩
  rw [run_encode _ h']
  rfl

-- non-vacuity
example :
    let st : State := ⟨[0, 1, 2, 3, 4, 5, 6, 7, 8, 9, 10, 11], [83, 50], 3, 64, [49], [109], [110], [69, 85], 2, [99], [50, 46],
      7, [255, 0]⟩
    wf st = true ∧ (query 11235 (Net.init [.opened [.data (encode st)]] [])).1 = .ok (expected st) := by
  decide +kernel

/-! ### recorded finding: text that is not UTF-8

The reference reader decodes the strings as Latin-1, so every byte string without NUL is a legal name.  The
full-strength statement (`wf` without `validUtf8`) is false: the strict UTF-8 decoder rejects such a reply.
`C07_savage2_decode` is the part that holds; the witness is replayed against the real code on every run. -/

/-- the name `Caf\xE9` (Latin-1): the whole query fails with `PacketBad`. -/
theorem C07_savage2_finding_latin1 :
    let st : State := ⟨[0, 0, 0, 0, 0, 0, 0, 0, 0, 0, 0, 0], [67, 97, 102, 0xE9], 3, 32, [49], [109], [110], [69, 85], 2, [99], [50], 1, []⟩
    (query 11235 (Net.init [.opened [.data (encode st)]] [])).1 = .err .packetBad := by
  decide +kernel
