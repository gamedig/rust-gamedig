import GdVerif.Lemmas.QBounds
import GdVerif.Lemmas.Unreal2Cost
/-
  C13 (requests sent) — Unreal 2.  The reservations the code makes are fixed: the receive buffer
  (`PACKET_SIZE` = 1024 bytes per datagram) and `Players::with_capacity(min(num_players, 50))`
  (`MAXIMUM_PLAYER_PREALLOCATION`): no field of a reply sizes an allocation beyond that cap.
-/
open Gd Gd.Unreal2

/-- Whatever the server does, the Unreal 2 query sends at most `retries + 1` datagrams for each of
its three requests — `3 · (retries + 1)` in all — however many datagrams it receives: listening for
the further datagrams of a list never sends anything. -/
theorem C13_unreal2_send_bound (port : Nat) (g : Gather) (retries : Nat) (script : List ConnScript) (faults : List Bool) :
    nSends (query port g retries (Net.init script faults)).2.log ≤ 3 * (retries + 1) := by
  have h : Sends (0 + 3 * (retries + 1)) (query port g retries) :=
    Sends.bind (Sends.openSock false port) fun s => sends_queryBody s g retries
  have := h.total script faults
  omega

/-- One request: at most `retries + 1` sends. -/
theorem C13_unreal2_request_bound (s : Sock) (r : Nat) (kind : PacketKind) (w : Net) :
    ∃ added, (requestData s r kind w).2.log = w.log ++ added ∧ nSends added ≤ r + 1 :=
  sends_requestData s r kind w

/-- The pre-allocation for the players lists never exceeds the cap, whatever number the server
announces (`num_players.unwrap_or(10).min(50)`, and half of it for bots). -/
theorem C13_unreal2_prealloc_cap (numPlayers : Nat) : min numPlayers 50 ≤ 50 ∧ min numPlayers 50 / 2 ≤ 25 :=
  ⟨Nat.min_le_right _ _, Nat.div_le_div_right (c := 2) (Nat.min_le_right _ 50)⟩
