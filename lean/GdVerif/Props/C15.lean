import GdVerif.Gen.Views
import GdVerif.Spec.Views
/-
  C15 — The protocol-independent view equals the protocol-specific data.

  `Gen.implViews` is regenerated from every `impl CommonResponse for T` / `impl CommonPlayer for T`
  on every run; these theorems are re-checked against what the source says now.
-/
open Gd Gd.Views

/-- Every accessor of every response and player type is, syntactically, the intended one: it reads
exactly the corresponding protocol-specific field (or is `None` where the type has no such field). -/
theorem C15_views_are_the_intended_ones :
    Gd.Gen.implViews.map (fun v => (v.file, v.trait, v.type, v.table)) = Spec.intended := rfl

/-- For every type, `as_original` hands back the response itself (`Generic…::Variant(self)`), the
default `as_json` is not overridden, and the impl contains nothing but accessors. -/
theorem C15_original_and_json_untouched :
    ∀ v ∈ Gd.Gen.implViews, v.originalWrapsSelf = true ∧ v.asJsonOverridden = false ∧ v.extra = [] := by
  decide +kernel

/-- No accessor body is outside what the translator understands. -/
theorem C15_no_unparsed_accessor :
    ∀ v ∈ Gd.Gen.implViews, ∀ p ∈ v.table, (match p.2 with | .unparsed _ => false | _ => true) = true := by
  decide +kernel

/-- For every response value of every type: an accessor that is `Some(self.path)` / `self.path`
returns exactly the value stored at that path of the protocol-specific data. -/
theorem C15_accessor_reads_the_field (p : String) (r : Val) :
    eval (.someField p) r = r.path p ∧ eval (.field p) r = r.path p ∧ eval (.optField p) r = r.path p
    ∧ eval (.playersAll p) r = r.path p ∧ eval (.playersOpt p) r = r.path p ∧ eval .default r = .null :=
  ⟨rfl, rfl, rfl, rfl, rfl, rfl⟩

/-- The JSON form contains exactly the accessor values, for every response value and every pair of
accessor tables (response type, its player type): each scalar member is the accessor's value and the
players member is the list of the players' own JSON forms, in order. -/
theorem C15_json_is_the_view (rt pt : List (String × ViewExpr)) (r : Val) :
    (responseJson rt pt r).get "name" = eval (accessor rt "name") r
    ∧ (responseJson rt pt r).get "description" = eval (accessor rt "description") r
    ∧ (responseJson rt pt r).get "game_mode" = eval (accessor rt "game_mode") r
    ∧ (responseJson rt pt r).get "game_version" = eval (accessor rt "game_version") r
    ∧ (responseJson rt pt r).get "map" = eval (accessor rt "map") r
    ∧ (responseJson rt pt r).get "players_maximum" = eval (accessor rt "players_maximum") r
    ∧ (responseJson rt pt r).get "players_online" = eval (accessor rt "players_online") r
    ∧ (responseJson rt pt r).get "players_bots" = eval (accessor rt "players_bots") r
    ∧ (responseJson rt pt r).get "has_password" = eval (accessor rt "has_password") r
    ∧ (∀ ps, eval (accessor rt "players") r = .arr ps →
        (responseJson rt pt r).get "players" = .arr (ps.map (playerJson pt))) := by
  -- each member is found by comparing the literal keys; the players member is then the `match` on the accessor's value
  simp only [Val.get, responseJson, List.lookup, String.reduceBEq, BEq.rfl, Option.getD_some, true_and]
  intro ps hps
  rw [hps]
