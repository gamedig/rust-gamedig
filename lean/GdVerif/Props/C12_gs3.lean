import GdVerif.Lemmas.Gs3Block
/-
  C12 (blocking steps that can run into their timeout) — GameSpy 3 (`query` and `query_vars`).
-/
open Gd Gd.Gs3

/-- Whatever the server does — for every script, fault vector and retry setting — at most
`retries + 1` blocking steps of a GameSpy 3 query run into their timeout (a failed socket creation,
a failed send, a timed-out receive): one per attempt, although an attempt has two sends and a receive
loop over the splitnum packets — the first step that fails ends the attempt, and the loop ends the
attempt at its first timeout.  Wall time ≤ (retries + 1) · timeout + the server's own delays. -/
theorem C12_gs3_blocking_bound (port retries : Nat) (script : List ConnScript) (faults : List Bool) :
    nBlocked (query port retries (Net.init script faults)).2.log ≤ retries + 1 := by
  have := (block_query port retries).total script faults
  omega

theorem C12_gs3_vars_blocking_bound (port retries : Nat) (script : List ConnScript) (faults : List Bool) :
    nBlocked (queryVars port retries (Net.init script faults)).2.log ≤ retries + 1 := by
  have := (block_queryVars port retries).total script faults
  omega

/-- A silent server (the socket is created, its first `retries + 1` receives time out; the rest of
the script is arbitrary): the query fails with the receive-class error after exactly `retries + 1`
attempts — `retries + 1` handshake requests, `retries + 1` timed-out receives, nothing received. -/
theorem C12_gs3_silent_server (port retries : Nat) (script : List ConnScript)
    (h : PendingSilent false (retries + 1) script) :
    (query port retries (Net.init script [])).1 = .err .packetReceive
      ∧ nSends (query port retries (Net.init script [])).2.log = retries + 1
      ∧ nBlocked (query port retries (Net.init script [])).2.log = retries + 1
      ∧ nRecvOk (query port retries (Net.init script [])).2.log = 0
      ∧ nOpened (query port retries (Net.init script [])).2.log = 1 :=
  (silent_query port retries (Net.init script []) rfl h).counts

theorem C12_gs3_vars_silent_server (port retries : Nat) (script : List ConnScript)
    (h : PendingSilent false (retries + 1) script) :
    (queryVars port retries (Net.init script [])).1 = .err .packetReceive
      ∧ nSends (queryVars port retries (Net.init script [])).2.log = retries + 1
      ∧ nBlocked (queryVars port retries (Net.init script [])).2.log = retries + 1
      ∧ nRecvOk (queryVars port retries (Net.init script [])).2.log = 0
      ∧ nOpened (queryVars port retries (Net.init script [])).2.log = 1 :=
  (silent_queryVars port retries (Net.init script []) rfl h).counts

/-- the hypothesis is satisfiable: no script at all, or `retries + 1` silences followed by anything -/
example (retries : Nat) (rest : List Delivery) (more : List ConnScript) :
    PendingSilent false (retries + 1) [] ∧
    PendingSilent false (retries + 1) (.opened (List.replicate (retries + 1) .silence ++ rest) :: more) :=
  ⟨rfl, SilentFor.replicate false (retries + 1) rest⟩

/-- the bound is attained by a server that answers the handshake and then stops (one retry, two
timeouts), and by one whose data request cannot be sent -/
example : nBlocked (query 2302 1 (Net.init [.opened [.data [9, 0, 0, 0, 1, 48, 0], .silence, .data [9, 0, 0, 0, 1, 48, 0], .silence]] [])).2.log = 2 := by
  decide +kernel
example : nBlocked (query 2302 1 (Net.init [.opened [.data [9, 0, 0, 0, 1, 48, 0], .data [9, 0, 0, 0, 1, 48, 0]]] [false, true, false, true])).2.log = 2 := by
  decide +kernel
