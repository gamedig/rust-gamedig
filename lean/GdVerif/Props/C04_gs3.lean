import GdVerif.Lemmas.Gs3Cut
import GdVerif.Lemmas.Gs3Legacy
/-
  C04 (GameSpy 3) — replies are decoded completely.

  MODEL: `GdVerif/Proto/Gs3.lean` (tied to protocols/gamespy/protocols/three and gamespy/common.rs by
  `./check C04` on every run; the repaired tree: see known_findings.json, property C04/C08).
  SPEC:  `GdVerif/Spec/Gs3.lean` — a server state is ALL its variables in the order sent (so every
  order, every set of extra variables), its players, its teams, optionally a `pid` column; the wire
  layout `Config` says how each column is cut into field sections (any slices with any offsets, in any
  order, possibly repeated, as long as every value is sent — `covered`), which marker bytes precede
  them, how the sections are spread over 1..128 packets, and the challenge.  `Spec.wf` is the domain.
  Extensions further down, each containing the one before as a special case: `ConfigX` / `wfX` (field
  sections the response has no place for), `ConfigC` / `wfC` (packets that END INSIDE the value list of
  their last section, the next packet continuing the field under its id and offset: `C04_gs3_query_cut`).
-/
open Gd Gd.Gs3 Gd.Gs3.Spec

/-- `query`: for every well-formed state and layout, and ANY arrival order of the data packets, the
query returns the server's name, map, mode, version, password flag and player limits, the player
count (the larger of reported and listed), every player and every team exactly as sent, and all
other variables — and only those — as unused entries: `Spec.expected`. -/
theorem C04_gs3_query (cfg : Config) (st : State) (h : wf cfg st = true) (port retries : Nat)
    (arrival : List Bytes) (harr : arrival.Perm (dataPackets cfg st)) :
    (query port retries (Net.init [.opened ((handshakeReply cfg.challenge :: arrival).map .data)] [])).1
      = .ok (expected st) := by
  rw [query_eq, (exchange_spec cfg st h port retries buildResponse arrival harr).1]
  exact buildResponse_spec cfg st h

/-- in particular for in-order arrival: `query ∘ SPEC script = expected` -/
theorem C04_gs3_query_in_order (cfg : Config) (st : State) (h : wf cfg st = true) (port retries : Nat) :
    (query port retries (Net.init [.opened ((script cfg st).map .data)] [])).1 = .ok (expected st) :=
  C04_gs3_query cfg st h port retries _ (List.Perm.refl _)

/-- `query_vars` returns exactly the key/value pairs sent. -/
theorem C04_gs3_query_vars (cfg : Config) (st : State) (h : wf cfg st = true) (port retries : Nat)
    (arrival : List Bytes) (harr : arrival.Perm (dataPackets cfg st)) :
    (queryVars port retries (Net.init [.opened ((handshakeReply cfg.challenge :: arrival).map .data)] [])).1
      = .ok st.vars := by
  rw [queryVars_eq, (exchange_spec cfg st h port retries buildVars arrival harr).1]
  exact buildVars_spec cfg st h

/-- The packet-level statement: everything `query` does with the packet payloads. -/
theorem C04_gs3_payloads (cfg : Config) (st : State) (h : wf cfg st = true) :
    buildResponse (payloads cfg st) = .ok (expected st) ∧ buildVars (payloads cfg st) = .ok st.vars :=
  ⟨buildResponse_spec cfg st h, buildVars_spec cfg st h⟩

/-- The unused entries are all variables minus the typed ones, as a set equality: a pair is an unused
entry iff it was sent and its key is none of the nine typed keys. -/
theorem C04_gs3_unused_exact (st : State) (p : Bytes × Bytes) :
    p ∈ (expected st).unusedEntries ↔ p ∈ st.vars ∧ p.1 ∉ typedKeys := by
  simp [expected, List.mem_filter]

/-- Players and teams alone: the field sections of all packets give back every player and every team,
in order, for any slicing that covers all values. -/
theorem C04_gs3_players_teams (cfg : Config) (st : State) (h : wf cfg st = true) :
    parsePlayersAndTeams (cfg.layout.map (encSlices st)) = .ok (st.players, st.teams) :=
  parsePlayersAndTeams_spec cfg st (wf_layout cfg st h)

/-! non-vacuity: a concrete state and layout — two players, one team, every column cut into two slices
spread over two packets, an extra variable `x=y`, challenge -7 — satisfies `wf`; and for it the
players are returned (the unrepaired tree returned `players = []` for every reply) -/

def C04_gs3_exampleState : State :=
  ⟨[([104, 111, 115, 116, 110, 97, 109, 101], [72]), ([109, 97, 112, 110, 97, 109, 101], [77]),
    ([103, 97, 109, 101, 116, 121, 112, 101], [71]), ([103, 97, 109, 101, 118, 101, 114], [49]),
    ([112, 97, 115, 115, 119, 111, 114, 100], [49]), ([109, 97, 120, 112, 108, 97, 121, 101, 114, 115], [56]),
    ([120], [121])],
   [⟨[65], -5, 30, 1, 2, 7⟩, ⟨[66], 6, 31, 2, 3, 8⟩], [⟨[82], 9⟩], none⟩

def C04_gs3_exampleSlice (t : Bool) (f : List UInt8) (o c : Nat) : Slice := ⟨[1], t, f, o, c⟩

def C04_gs3_playerFieldNames : List (List UInt8) :=
  [[112, 108, 97, 121, 101, 114], [115, 99, 111, 114, 101], [112, 105, 110, 103], [116, 101, 97, 109],
   [100, 101, 97, 116, 104, 115], [115, 107, 105, 108, 108]]

def C04_gs3_exampleConfig : Config :=
  ⟨-7, [C04_gs3_playerFieldNames.map (fun f => C04_gs3_exampleSlice false f 0 1),
        C04_gs3_playerFieldNames.map (fun f => C04_gs3_exampleSlice false f 1 1)
          ++ [C04_gs3_exampleSlice true [116, 101, 97, 109] 0 1, C04_gs3_exampleSlice true [115, 99, 111, 114, 101] 0 1]],
   [0, 1]⟩

/-- the variables that all examples below carry are in the domain -/
theorem C04_gs3_example_vars : wfVars C04_gs3_exampleState = true := by decide +kernel

theorem C04_gs3_example_wf : wf C04_gs3_exampleConfig C04_gs3_exampleState = true := by
  simp only [wf, C04_gs3_example_vars, Bool.true_and]
  decide +kernel

example : (query 29900 0 (Net.init [.opened ((script C04_gs3_exampleConfig C04_gs3_exampleState).map .data)] [])).1
    = .ok (expected C04_gs3_exampleState) :=
  C04_gs3_query_in_order _ _ C04_gs3_example_wf 29900 0

example : (expected C04_gs3_exampleState).players = [⟨[65], -5, 30, 1, 2, 7⟩, ⟨[66], 6, 31, 2, 3, 8⟩]
    ∧ (expected C04_gs3_exampleState).teams = [⟨[82], 9⟩] := ⟨rfl, rfl⟩

/-! ## Field sections the client has no place for (`kills_`, `time_on_`, `clan_`, `honor_t` …)

SPEC: `Spec.Extra` / `Spec.Section` / `Spec.ConfigX` — a reply may carry, anywhere among the slices of
any packet, sections of columns that are not part of the response.  `Spec.wfExtra` is what the format
allows for such a section and all the reader needs: marker bytes below 3, a field id that is a
non-empty text not starting with a marker byte and whose first `_`-segment is none of the typed names,
a row offset that is a byte, values that are non-empty texts.  Nothing is asked of what the values
say.  `Spec.wfX` is `Spec.wf` with sections for slices (`C04_gs3_extra_conservative`). -/

/-- `query` on a reply with extra sections: for every well-formed state, every layout, every list of
allowed extra sections at any positions, and ANY arrival order of the data packets, the response is
`Spec.expected st` — which does not mention the extra sections: they are ignored; players, teams and
unused entries are exactly those of the state. -/
theorem C04_gs3_query_extra (cfg : ConfigX) (st : State) (h : wfX cfg st = true) (port retries : Nat)
    (arrival : List Bytes) (harr : arrival.Perm (dataPacketsX cfg st)) :
    (query port retries (Net.init [.opened ((handshakeReply cfg.challenge :: arrival).map .data)] [])).1
      = .ok (expected st) := by
  rw [query_eq, (exchangeX_spec cfg st h port retries buildResponse arrival harr).1]
  exact buildResponseX_spec cfg st h

/-- in particular for in-order arrival: `query ∘ SPEC script with extra sections = expected` -/
theorem C04_gs3_query_extra_in_order (cfg : ConfigX) (st : State) (h : wfX cfg st = true) (port retries : Nat) :
    (query port retries (Net.init [.opened ((scriptX cfg st).map .data)] [])).1 = .ok (expected st) :=
  C04_gs3_query_extra cfg st h port retries _ (List.Perm.refl _)

/-- `query_vars` on a reply with extra sections: exactly the key/value pairs sent. -/
theorem C04_gs3_query_vars_extra (cfg : ConfigX) (st : State) (h : wfX cfg st = true) (port retries : Nat)
    (arrival : List Bytes) (harr : arrival.Perm (dataPacketsX cfg st)) :
    (queryVars port retries (Net.init [.opened ((handshakeReply cfg.challenge :: arrival).map .data)] [])).1
      = .ok st.vars := by
  rw [queryVars_eq, (exchangeX_spec cfg st h port retries buildVars arrival harr).1]
  exact buildVarsX_spec cfg st h

/-- The same response as without the extra sections, stated as an equation between the two queries:
when the reply stripped of its extra sections (`cfg.base`) is itself a well-formed reply, querying the
server that sends them and the server that does not gives the same result. -/
theorem C04_gs3_extra_ignored (cfg : ConfigX) (st : State) (h : wfX cfg st = true) (hb : wf cfg.base st = true)
    (port retries : Nat) :
    (query port retries (Net.init [.opened ((scriptX cfg st).map .data)] [])).1
      = (query port retries (Net.init [.opened ((script cfg.base st).map .data)] [])).1 := by
  rw [C04_gs3_query_extra_in_order cfg st h, C04_gs3_query_in_order cfg.base st hb]

/-- The packet-level statement with extra sections. -/
theorem C04_gs3_payloads_extra (cfg : ConfigX) (st : State) (h : wfX cfg st = true) :
    buildResponse (payloadsX cfg st) = .ok (expected st) ∧ buildVars (payloadsX cfg st) = .ok st.vars
    ∧ parsePlayersAndTeams (cfg.layout.map (encSections st)) = .ok (st.players, st.teams) :=
  ⟨buildResponseX_spec cfg st h, buildVarsX_spec cfg st h, parsePlayersAndTeamsX_spec cfg st h⟩

/-- The core, at the level of one packet: an allowed extra section in front of any allowed sections
is skipped — the field-section loop over `extra ++ rest` gives the tables of the loop over `rest`,
whatever the tables were before. -/
theorem C04_gs3_extra_section_skipped (st : State) (e : Extra) (he : wfExtra e = true) (rest : List Section)
    (hrest : ∀ s ∈ rest, SectionOk st s) (t : Tables) :
    (readSections t).run (encExtra e ++ encSections st rest) = (readSections t).run (encSections st rest) := by
  have h1 := readSectionsX_run st (.extra e :: rest) (fun s hs => by
    rcases List.mem_cons.mp hs with rfl | hs
    · exact he
    · exact hrest s hs) t
  have h2 := readSectionsX_run st rest hrest t
  simp only [encSections, List.map_cons, List.flatten_cons, encSection, slicesOf] at h1 h2
  simp only [encSections]
  rw [h1, h2]

/-- `wfX` and the scripts extend `wf` and the scripts without extra sections: a `Config` seen as a
`ConfigX` has the same domain and the same wire image, so `C04_gs3_query` is the case "no extra
section" of `C04_gs3_query_extra`. -/
theorem C04_gs3_extra_conservative (cfg : Config) (st : State) :
    wfX cfg.toX st = wf cfg st ∧ scriptX cfg.toX st = script cfg st ∧ cfg.toX.base = cfg := by
  refine ⟨wfX_toX cfg st, ?_, base_toX cfg⟩
  simp only [scriptX, script, dataPacketsX, dataPackets, payloadsX_toX]
  rfl

/-! non-vacuity: the example reply above with four extra sections spread over its two packets — `clan_`
continued at row 200 with the value `score`, `kills_` with two numbers, `time_on_` (two `_`-segments)
with a value containing `_`, `honor_t` with the values `score` and `team_rocket` — satisfies `wfX` -/

def C04_gs3_xClan : Extra := ⟨[], [99, 108, 97, 110, 95], 200, [[115, 99, 111, 114, 101]]⟩
def C04_gs3_xKills : Extra := ⟨[1], [107, 105, 108, 108, 115, 95], 0, [[51], [52]]⟩
def C04_gs3_xTime : Extra := ⟨[], [116, 105, 109, 101, 95, 111, 110, 95], 1, [[49, 50, 95, 51, 48]]⟩
def C04_gs3_xHonor : Extra := ⟨[2], [104, 111, 110, 111, 114, 95, 116], 0, [[115, 99, 111, 114, 101], [116, 101, 97, 109, 95, 114, 111, 99, 107, 101, 116]]⟩

/-- the example layout with the extra sections `first` put after the first slice of packet 0, and
those of `second` at the start, after the third slice and at the end of packet 1 -/
def C04_gs3_exampleConfigWith (first second : List Extra) : ConfigX :=
  match C04_gs3_exampleConfig.layout with
  | [p0, p1] =>
    ⟨-7, [(p0.take 1).map .slice ++ first.map .extra ++ (p0.drop 1).map .slice,
          (second.take 1).map .extra ++ (p1.take 3).map .slice ++ ((second.drop 1).take 1).map .extra
            ++ (p1.drop 3).map .slice ++ (second.drop 2).map .extra], [0, 1]⟩
  | _ => ⟨0, [], []⟩

def C04_gs3_exampleConfigX : ConfigX :=
  C04_gs3_exampleConfigWith [C04_gs3_xKills, C04_gs3_xClan] [C04_gs3_xTime, C04_gs3_xHonor, C04_gs3_xClan]

theorem C04_gs3_exampleX_wf : wfX C04_gs3_exampleConfigX C04_gs3_exampleState = true := by
  simp only [wfX, C04_gs3_example_vars, Bool.true_and]
  decide +kernel

example : (extrasOf C04_gs3_exampleConfigX.layout.flatten).length = 5 := by decide

example : (query 29900 0 (Net.init [.opened ((scriptX C04_gs3_exampleConfigX C04_gs3_exampleState).map .data)] [])).1
    = .ok (expected C04_gs3_exampleState) :=
  C04_gs3_query_extra_in_order _ _ C04_gs3_exampleX_wf 29900 0

/-! ### the condition is not padding

(1) The reader BEFORE the repair (`Legacy`, see known_findings: fix c5f422b) left an unknown field by
`continue` right after its name; the offset byte and the values then went through the section loop as
if they were field names.  A `clan_` column with the single value `score` — an allowed extra section —
made it take the next section's name for a score: the query failed.  The repaired reader returns the
expected response for the same packets. -/

def C04_gs3_exampleConfigScore : ConfigX :=
  C04_gs3_exampleConfigWith [⟨[], [99, 108, 97, 110, 95], 0, [[115, 99, 111, 114, 101]]⟩] []

theorem C04_gs3_extra_old_reader_defect :
    wfX C04_gs3_exampleConfigScore C04_gs3_exampleState = true
    ∧ Legacy.buildResponse (payloadsX C04_gs3_exampleConfigScore C04_gs3_exampleState) = .err .typeParse
    ∧ buildResponse (payloadsX C04_gs3_exampleConfigScore C04_gs3_exampleState) = .ok (expected C04_gs3_exampleState) := by
  have hwf : wfX C04_gs3_exampleConfigScore C04_gs3_exampleState = true := by
    simp only [wfX, C04_gs3_example_vars, Bool.true_and]
    decide +kernel
  exact ⟨hwf, by decide +kernel, buildResponseX_spec _ _ hwf⟩

/-! (2) Each clause of `wfExtra` that speaks about content is needed by the repaired reader too: a
section whose field id has a typed first segment with a suffix other than `t` (`score_total_`) is not
an extra section but a malformed typed one, and an empty value in the middle closes the section so
that what follows is read as sections — both change the result. -/

def C04_gs3_exampleConfigTypedName : ConfigX :=
  C04_gs3_exampleConfigWith [⟨[], [115, 99, 111, 114, 101, 95, 116, 111, 116, 97, 108, 95], 0, [[55]]⟩] []

def C04_gs3_exampleConfigEmptyValue : ConfigX :=
  C04_gs3_exampleConfigWith [⟨[], [99, 108, 97, 110, 95], 0, [[97], [], [112, 105, 110, 103, 95]]⟩] []

theorem C04_gs3_extra_condition_needed :
    (wfX C04_gs3_exampleConfigTypedName C04_gs3_exampleState = false
      ∧ buildResponse (payloadsX C04_gs3_exampleConfigTypedName C04_gs3_exampleState) = .err .packetBad)
    ∧ (wfX C04_gs3_exampleConfigEmptyValue C04_gs3_exampleState = false
      ∧ buildResponse (payloadsX C04_gs3_exampleConfigEmptyValue C04_gs3_exampleState) = .err .packetBad) := by
  decide +kernel

/-! ## Value lists that continue in the next packet

SPEC: `Spec.ConfigC` — when a reply does not fit one packet, real servers cut a field section at the
packet boundary: the packet ENDS inside the value list, after a value and without the closing empty
value, and the next packet continues the field under its field id with the offset of the first value
it carries.  `ConfigC` = `ConfigX` plus, per packet, whether it ends inside the value list of its last
section (typed or extra; `Spec.encOpen`); `Spec.cutLayout` builds such a reply from whole sections and
a list of cut points per section (`Spec.CutSection`).  `Spec.wfC` is `Spec.wfX` with the packets as they
are now; replies that close every list are the case `cfg.toC` (`C04_gs3_cut_conservative`). -/

/-- `query` on a reply whose packets may end inside value lists: for every well-formed state, every
layout with any allowed extra sections, EVERY choice of the packets that end inside the value list of
their last section, and ANY arrival order of the data packets, the response is `Spec.expected st`. -/
theorem C04_gs3_query_cut (cfg : ConfigC) (st : State) (h : wfC cfg st = true) (port retries : Nat)
    (arrival : List Bytes) (harr : arrival.Perm (dataPacketsC cfg st)) :
    (query port retries (Net.init [.opened ((handshakeReply cfg.challenge :: arrival).map .data)] [])).1
      = .ok (expected st) := by
  rw [query_eq, (exchangeC_spec cfg st h port retries buildResponse arrival harr).1]
  exact buildResponseC_spec cfg st h

/-- in particular for in-order arrival -/
theorem C04_gs3_query_cut_in_order (cfg : ConfigC) (st : State) (h : wfC cfg st = true) (port retries : Nat) :
    (query port retries (Net.init [.opened ((scriptC cfg st).map .data)] [])).1 = .ok (expected st) :=
  C04_gs3_query_cut cfg st h port retries _ (List.Perm.refl _)

/-- `query_vars` on such a reply: exactly the key/value pairs sent. -/
theorem C04_gs3_query_vars_cut (cfg : ConfigC) (st : State) (h : wfC cfg st = true) (port retries : Nat)
    (arrival : List Bytes) (harr : arrival.Perm (dataPacketsC cfg st)) :
    (queryVars port retries (Net.init [.opened ((handshakeReply cfg.challenge :: arrival).map .data)] [])).1
      = .ok st.vars := by
  rw [queryVars_eq, (exchangeC_spec cfg st h port retries buildVars arrival harr).1]
  exact buildVarsC_spec cfg st h

/-- The same from the side of whole sections: any runs of sections, each with ANY list of cut points
(`Spec.cutLayout`: a new packet after every cut point, the continuation under the field id with the
offset of its first value) — whenever the resulting reply is in the domain, the query returns the
expected response, in any arrival order. -/
theorem C04_gs3_query_cut_points (challenge : Int) (runs : List (List CutSection)) (unknown : List Nat) (st : State)
    (h : wfC (cutLayout challenge runs unknown) st = true) (port retries : Nat)
    (arrival : List Bytes) (harr : arrival.Perm (dataPacketsC (cutLayout challenge runs unknown) st)) :
    (query port retries (Net.init [.opened ((handshakeReply challenge :: arrival).map .data)] [])).1
      = .ok (expected st) :=
  C04_gs3_query_cut (cutLayout challenge runs unknown) st h port retries arrival harr

/-- The packet-level statement. -/
theorem C04_gs3_payloads_cut (cfg : ConfigC) (st : State) (h : wfC cfg st = true) :
    buildResponse (payloadsC cfg st) = .ok (expected st) ∧ buildVars (payloadsC cfg st) = .ok st.vars
    ∧ parsePlayersAndTeams (sectionBytesFrom st cfg.cut 0 cfg.layout) = .ok (st.players, st.teams) :=
  ⟨buildResponseC_spec cfg st h, buildVarsC_spec cfg st h, parsePlayersAndTeamsC_spec cfg st h⟩

/-- The core, at the level of one packet: the sections of a packet that ends inside the value list of
its last section are read exactly like those of the packet with the list closed — the end of the
buffer closes the list —, whatever the tables were before. -/
theorem C04_gs3_cut_packet_as_closed (st : State) (ss : List Section) (hss : ∀ s ∈ ss, SectionOk st s) (t : Tables) :
    (readSections t).run (encSectionsCut st ss) = (readSections t).run (encSections st ss) :=
  readSections_cut_eq_closed st ss hss t

/-- `wfC` and the scripts extend `wfX` and the scripts that close every list: a `ConfigX` seen as a
`ConfigC` has the same domain and the same wire image, so `C04_gs3_query_extra` (and through
`C04_gs3_extra_conservative` `C04_gs3_query`) is the case "no packet ends inside a value list". -/
theorem C04_gs3_cut_conservative (cfg : ConfigX) (st : State) :
    wfC cfg.toC st = wfX cfg st ∧ scriptC cfg.toC st = scriptX cfg st ∧ cfg.toC.closed = cfg := by
  refine ⟨wfC_toC cfg st, ?_, rfl⟩
  simp only [scriptC, scriptX, dataPacketsC, dataPacketsX, payloadsC_toC]
  rfl

/-! non-vacuity: four players, two teams; the reply is ONE run of whole columns with cut points: `player_`
cut after its first value, `score_` in the middle, `ping_` before its last value, `team_` after every
value (three cuts: two packets consist of one open piece each), a `kills_` extra section cut twice, and
the team column `team_t` cut after its first value — 10 packets, all but the last ending inside a value list —;
it satisfies `wfC`, every cut is continued as real servers do (`Spec.continued`), and the query gives
back all players and teams. -/

def C04_gs3_cutState : State :=
  ⟨C04_gs3_exampleState.vars,
   [⟨[65], -5, 30, 1, 2, 7⟩, ⟨[66], 6, 31, 2, 3, 8⟩, ⟨[67], 0, 32, 1, 0, 9⟩, ⟨[68], 7, 33, 2, 1, 0⟩],
   [⟨[82], 9⟩, ⟨[83], -1⟩], none⟩

def C04_gs3_cutRun : List CutSection :=
  [⟨.slice ⟨[1], false, [112, 108, 97, 121, 101, 114], 0, 4⟩, [1]⟩,
   ⟨.slice ⟨[], false, [115, 99, 111, 114, 101], 0, 4⟩, [2]⟩,
   ⟨.slice ⟨[], false, [112, 105, 110, 103], 0, 4⟩, [3]⟩,
   ⟨.slice ⟨[], false, [116, 101, 97, 109], 0, 4⟩, [1, 2, 3]⟩,
   ⟨.extra ⟨[1], [107, 105, 108, 108, 115, 95], 0, [[51], [52], [53], [54]]⟩, [1, 3]⟩,
   ⟨.slice ⟨[], false, [100, 101, 97, 116, 104, 115], 0, 4⟩, []⟩,
   ⟨.slice ⟨[], false, [115, 107, 105, 108, 108], 0, 4⟩, []⟩,
   ⟨.slice ⟨[2], true, [116, 101, 97, 109], 0, 2⟩, [1]⟩,
   ⟨.slice ⟨[], true, [115, 99, 111, 114, 101], 0, 2⟩, []⟩]

def C04_gs3_cutConfig : ConfigC := cutLayout (-7) [C04_gs3_cutRun] [0, 1]

example : C04_gs3_cutConfig.layout.length = 10 ∧ (C04_gs3_cutConfig.cut.filter id).length = 9 := by decide

theorem C04_gs3_cut_example_wf : wfC C04_gs3_cutConfig C04_gs3_cutState = true ∧ continued C04_gs3_cutConfig = true := by
  have hvars : wfVars C04_gs3_cutState = true := C04_gs3_example_vars
  constructor
  · simp only [wfC, hvars, Bool.true_and]
    decide +kernel
  · decide +kernel

example : (query 29900 0 (Net.init [.opened ((scriptC C04_gs3_cutConfig C04_gs3_cutState).map .data)] [])).1
    = .ok (expected C04_gs3_cutState) :=
  C04_gs3_query_cut_in_order _ _ C04_gs3_cut_example_wf.1 29900 0

example : (expected C04_gs3_cutState).players.length = 4 ∧ (expected C04_gs3_cutState).teams = [⟨[82], 9⟩, ⟨[83], -1⟩] :=
  ⟨rfl, rfl⟩

/-! ### reading packet by packet is not padding

The end of the buffer closes a value list only when every packet is read from its own buffer, as
`query` does.  A reader that first joins the section bytes of all packets into one buffer reads the
field id and the offset byte of a continuation as further values of the list before it: for the example
reply it does not return the players and teams, while `parse_players_and_teams` over the packets does. -/

theorem C04_gs3_cut_joined_buffer_differs :
    parsePlayersAndTeams [(sectionBytesFrom C04_gs3_cutState C04_gs3_cutConfig.cut 0 C04_gs3_cutConfig.layout).flatten]
      ≠ .ok (C04_gs3_cutState.players, C04_gs3_cutState.teams)
    ∧ parsePlayersAndTeams (sectionBytesFrom C04_gs3_cutState C04_gs3_cutConfig.cut 0 C04_gs3_cutConfig.layout)
      = .ok (C04_gs3_cutState.players, C04_gs3_cutState.teams) := by
  refine ⟨by decide +kernel, ?_⟩
  exact parsePlayersAndTeamsC_spec _ _ C04_gs3_cut_example_wf.1
