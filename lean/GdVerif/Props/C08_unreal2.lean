import GdVerif.Lemmas.Unreal2Query
/-
  C08 (Unreal 2) — multi-datagram lists and arrival order.

  The Unreal 2 list replies carry no sequence numbers.  The full property ("every arrival order yields
  the same response as in-order arrival; a duplicated datagram never yields a different successful
  response") therefore does NOT hold and cannot be made to hold by the client:

      theorem C08_unreal2 (ds ds' : List Bytes) (h : ds'.Perm ds) : accumulate ds' = accumulate ds     -- FALSE

  `C08_unreal2_order_matters` and `C08_unreal2_duplicate_accepted` below are the proved negations
  (recorded as findings `order-dependence:unreal2` / `duplicate-accepted:unreal2`).  What does hold,
  and is proved here as `C08_unreal2_partial_*`: for every arrival order of the datagrams of a
  well-formed reply the client accepts every datagram and returns the same entries up to list order —
  the same players and the same bots as multisets, the same set of mutators, the same rule keys with
  the same values under each key as multisets.  Missing for the full property: the order of the lists,
  and recognising duplicates — both need information the wire format does not carry.
-/
open Gd Gd.Unreal2 Gd.Unreal2.Spec

/-- Players: any arrival order of the datagrams of a reply (every datagram carrying at least one
player, not more players than announced) is accepted datagram by datagram and yields the same
players and the same bots, up to order. -/
theorem C08_unreal2_partial_players (st : State) (hh : st.header.length = 4) (n : Nat) (cs cs' : List (List SPlayer))
    (hperm : cs'.Perm cs) (hw : ∀ c ∈ cs, ∀ p ∈ c, wfPlayer p = true) (hne : ∀ c ∈ cs, c ≠ [])
    (hn : cs.flatten.length ≤ n) :
    ∃ r r', RoundsStop (playersRound n) .empty (cs.map (playersDg st)) r
      ∧ RoundsStop (playersRound n) .empty (cs'.map (playersDg st)) r'
      ∧ r'.players.Perm r.players ∧ r'.bots.Perm r.bots := by
  have hflat : cs'.flatten.Perm cs.flatten := hperm.flatten
  -- in any order, all datagrams but the last leave the announced number unreached
  have hinv : ∀ (l : List (List SPlayer)), (∀ c ∈ l, c ≠ []) → l.flatten.length ≤ n →
      (l.length ≤ 1 ∨ Players.empty.totalLen + l.dropLast.flatten.length < n) := by
    intro l hl hln
    by_cases hnil : l = []
    · left; subst hnil; simp
    · right
      have h0 : Players.empty.totalLen = 0 := rfl
      rw [h0, Nat.zero_add]
      have hsplit := List.dropLast_concat_getLast hnil
      have hlast : l.getLast hnil ≠ [] := hl _ (List.getLast_mem hnil)
      have hpos : 0 < (l.getLast hnil).length := List.length_pos_iff.mpr hlast
      rw [← hsplit] at hln
      simp only [List.flatten_append, List.flatten_cons, List.flatten_nil, List.append_nil, List.length_append] at hln
      omega
  have hw' : ∀ c ∈ cs', ∀ p ∈ c, wfPlayer p = true := fun c hc => hw c (hperm.mem_iff.mp hc)
  have hne' : ∀ c ∈ cs', c ≠ [] := fun c hc => hne c (hperm.mem_iff.mp hc)
  have hn' : cs'.flatten.length ≤ n := by rw [hflat.length_eq]; exact hn
  refine ⟨_, _, players_rounds st hh n cs hw .empty (hinv cs hne hn),
    players_rounds st hh n cs' hw' .empty (hinv cs' hne' hn'), ?_, ?_⟩
  · rw [foldl_pushPlayer, foldl_pushPlayer]
    exact List.Perm.append_left _ ((hflat.filter _).map _)
  · rw [foldl_pushPlayer, foldl_pushPlayer]
    exact List.Perm.append_left _ ((hflat.filter _).map _)

/-- Mutators and rules: any arrival order of the datagrams of a reply is accepted datagram by datagram
and yields the same set of mutators, the same rule keys, and under each key the same values up to
order. -/
theorem C08_unreal2_partial_rules (st : State) (hh : st.header.length = 4) (cs cs' : List (List (UStr × UStr)))
    (hperm : cs'.Perm cs) (hw : ∀ c ∈ cs, ∀ p ∈ c, wfStr p.1 = true ∧ wfStr p.2 = true) :
    ∃ r r', Rounds rulesRound .empty (cs.map (rulesDg st)) r
      ∧ Rounds rulesRound .empty (cs'.map (rulesDg st)) r'
      ∧ (∀ m, m ∈ r'.mutators ↔ m ∈ r.mutators)
      ∧ (∀ k, k ∈ r'.rules.map (·.1) ↔ k ∈ r.rules.map (·.1))
      ∧ (∀ k vs vs', (k, vs) ∈ r.rules → (k, vs') ∈ r'.rules → vs'.Perm vs) := by
  have hkv : (cs'.flatten.map pairText).Perm (cs.flatten.map pairText) := hperm.flatten.map _
  have hw' : ∀ c ∈ cs', ∀ p ∈ c, wfStr p.1 = true ∧ wfStr p.2 = true := fun c hc => hw c (hperm.mem_iff.mp hc)
  have h1 := rules_rounds st hh cs hw []
  have h2 := rules_rounds st hh cs' hw' []
  simp only [List.nil_append] at h1 h2
  refine ⟨_, _, h1, h2, ?_, ?_, ?_⟩
  · intro m
    show m ∈ expectedMutators _ ↔ m ∈ expectedMutators _
    unfold expectedMutators
    rw [mem_firsts, mem_firsts]
    exact ((hkv.filter _).map _).mem_iff
  · intro k
    show k ∈ (expectedRules _).map (·.1) ↔ k ∈ (expectedRules _).map (·.1)
    unfold expectedRules
    simp only [List.map_map]
    have hid : ∀ (rs : List (Bytes × Bytes)),
        ((fun (p : Bytes × List Bytes) => p.1) ∘ fun k => (k, valuesOf rs k)) = id := fun _ => rfl
    rw [hid, hid, List.map_id, List.map_id, mem_firsts, mem_firsts]
    exact ((hkv.filter _).map _).mem_iff
  · intro k vs vs' hvs hvs'
    change (k, vs) ∈ expectedRules _ at hvs
    change (k, vs') ∈ expectedRules _ at hvs'
    unfold expectedRules at hvs hvs'
    obtain ⟨k1, _, h3⟩ := List.mem_map.mp hvs
    obtain ⟨k2, _, h4⟩ := List.mem_map.mp hvs'
    cases h3
    cases h4
    unfold valuesOf
    exact ((hkv.filter _).filter _).map _

/-! ### the negations: why the full property is a finding -/

/-- the players a sequence of datagrams accumulates (every datagram taken) -/
def accumulatePlayers : Players → List Bytes → Res Players
  | acc, [] => .ok acc
  | acc, d :: ds =>
    match playersRound 1000 acc d with
    | .ok (acc', _) => accumulatePlayers acc' ds
    | .err k => .err k
    | .crash => .crash

/-- two players datagrams: `80 00 00 00 02` + one entry (id, name "A"/"B", ping 5, score 0, stats 0) -/
def dgA : Bytes := [0x80, 0, 0, 0, 2, 1, 0, 0, 0, 2, 0x41, 0, 5, 0, 0, 0, 0, 0, 0, 0, 0, 0, 0, 0]
def dgB : Bytes := [0x80, 0, 0, 0, 2, 2, 0, 0, 0, 2, 0x42, 0, 5, 0, 0, 0, 0, 0, 0, 0, 0, 0, 0, 0]

/-- Arrival order is observable: swapping two datagrams swaps the players. -/
theorem C08_unreal2_order_matters :
    accumulatePlayers .empty [dgA, dgB] = .ok ⟨[⟨1, [0x41], 5, 0, 0⟩, ⟨2, [0x42], 5, 0, 0⟩], []⟩
    ∧ accumulatePlayers .empty [dgB, dgA] = .ok ⟨[⟨2, [0x42], 5, 0, 0⟩, ⟨1, [0x41], 5, 0, 0⟩], []⟩ := by
  decide +kernel

/-- A datagram delivered twice is accepted and its player is listed twice. -/
theorem C08_unreal2_duplicate_accepted :
    accumulatePlayers .empty [dgA, dgA, dgB]
      = .ok ⟨[⟨1, [0x41], 5, 0, 0⟩, ⟨1, [0x41], 5, 0, 0⟩, ⟨2, [0x42], 5, 0, 0⟩], []⟩ := by
  decide +kernel

/-- `C08_unreal2_partial`: both lists together — for every arrival order of the datagrams of the
rules answer and of the players answer, the same entries up to list order. -/
theorem C08_unreal2_partial (st : State) (hh : st.header.length = 4) (n : Nat)
    (rs rs' : List (List (UStr × UStr))) (ps ps' : List (List SPlayer)) (hr : rs'.Perm rs) (hp : ps'.Perm ps)
    (hwr : ∀ c ∈ rs, ∀ p ∈ c, wfStr p.1 = true ∧ wfStr p.2 = true) (hwp : ∀ c ∈ ps, ∀ p ∈ c, wfPlayer p = true)
    (hne : ∀ c ∈ ps, c ≠ []) (hn : ps.flatten.length ≤ n) :
    (∃ r r', Rounds rulesRound .empty (rs.map (rulesDg st)) r ∧ Rounds rulesRound .empty (rs'.map (rulesDg st)) r'
      ∧ (∀ m, m ∈ r'.mutators ↔ m ∈ r.mutators) ∧ (∀ k, k ∈ r'.rules.map (·.1) ↔ k ∈ r.rules.map (·.1))
      ∧ (∀ k vs vs', (k, vs) ∈ r.rules → (k, vs') ∈ r'.rules → vs'.Perm vs))
    ∧ (∃ r r', RoundsStop (playersRound n) .empty (ps.map (playersDg st)) r
      ∧ RoundsStop (playersRound n) .empty (ps'.map (playersDg st)) r'
      ∧ r'.players.Perm r.players ∧ r'.bots.Perm r.bots) :=
  ⟨C08_unreal2_partial_rules st hh rs rs' hr hwr, C08_unreal2_partial_players st hh n ps ps' hp hwp hne hn⟩
