import GdVerif.Lemmas.TheShip
/-
  C09 — requests are the protocol's and go to the right port: The Ship (the Valve requests, C09_valve_*).
-/
open Gd Gd.Valve

/-- Whatever the server does, The Ship's query puts on the wire exactly what the Valve query does: one UDP
socket to the given port, A2S requests (without challenge, or carrying a challenge) to that port, 6144-byte
receives; the conversion does no I/O. -/
theorem C09_theship_conforms (ext : Ext) (port retries : Nat) (script : List ConnScript) (faults : List Bool) :
    ∀ e ∈ (TheShip.query ext port retries (Net.init script faults)).2.log,
      match e with
      | .opened c tcp p _ => c = 0 ∧ tcp = false ∧ p = port
      | .send c p data _ => c = 0 ∧ p = port ∧ Allowed data
      | .recv c size _ => c = 0 ∧ size = some 6144 := by
  intro e he
  have := log_of_init (TheShip.query_safe ext port retries (Net.init script faults)).2 e he
  cases e <;> exact this

/-- The transport log is the Valve query's, event for event. -/
theorem C09_theship_same_wire (ext : Ext) (port retries : Nat) (w : Net) :
    (TheShip.query ext port retries w).2.log
      = (Valve.query ext port TheShip.ENGINE Gather.default retries w).2.log := by
  unfold TheShip.query
  rw [Q.bind_apply]
  cases Valve.query ext port TheShip.ENGINE Gather.default retries w with
  | mk res w' => cases res <;> rfl

/-- the default port is the Source engine's -/
theorem C09_theship_default_port : TheShip.DEFAULT_PORT = TheShip.Spec.defaultPort := rfl
