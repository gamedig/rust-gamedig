import GdVerif.Lemmas.Gs1Faults
/-
  C08 — Multi-datagram responses do not depend on arrival order: GameSpy 1 parts.

  MODEL: `Gs1.recvLoop` / `Gs1.processPacket` (the receive loop of `get_server_values_impl` in the
  repaired tree: the part that carries `final` gives the number of parts, the loop runs until that
  many distinct parts have arrived; a repeated part number is an error).  The code does not sort:
  the parts are merged into one map as they arrive, and a map has no order (the model returns its
  canonical form), so the theorem is about the merge, not about a sort.
-/
open Gd Gd.Gs Gd.Gs1 Gd.Gs1.Spec

/-- Every arrival order of the parts of a well-formed reply (any number of parts) gives the same
response as in-order arrival — the complete one. -/
theorem C08_gs1_any_order (y : Style) (st : State) (h : wf y st = true) (port retries : Nat) (arr : List Bytes)
    (hp : arr.Perm (script y st)) :
    (query port retries (Net.init [.opened (arr.map .data)] [])).1
      = (query port retries (Net.init [.opened ((script y st).map .data)] [])).1 := by
  have hw := wf_iff y st h
  rw [show ([.opened (arr.map .data)] : List ConnScript) = scriptOf arr from rfl,
    show ([.opened ((script y st).map .data)] : List ConnScript) = scriptOf (script y st) from rfl,
    query_perm_expected hw port retries arr hp, query_perm_expected hw port retries _ (List.Perm.refl _)]

/-- The same for the raw variables. -/
theorem C08_gs1_vars_any_order (y : Style) (st : State) (h : wf y st = true) (port retries : Nat) (arr : List Bytes)
    (hp : arr.Perm (script y st)) :
    (queryVars port retries (Net.init [.opened (arr.map .data)] [])).1 = .ok (expectedVars y st) :=
  queryVars_any_order (wf_iff y st h) port retries arr hp

/-- Duplicates (and losses): for ANY sequence of datagrams drawn from the parts of the reply — any
order, any part repeated any number of times at any position, any part missing — the query returns
the complete response or an error, never a different successful response. -/
theorem C08_gs1_duplicates (y : Style) (st : State) (h : wf y st = true) (port retries : Nat) (arr : List Bytes)
    (harr : ∀ d ∈ arr, d ∈ script y st) :
    (query port retries (Net.init [.opened (arr.map .data)] [])).1 = .ok (expected st)
    ∨ ∃ k, (query port retries (Net.init [.opened (arr.map .data)] [])).1 = .err k :=
  query_drawn (wf_iff y st h) port retries arr harr

/-- A part that arrives a second time while the reply is still incomplete is rejected at once. -/
theorem C08_gs1_repeated_part_rejected {y : Style} {P seen : List NPart} {st : LoopSt} (hP : PartsOk y P)
    (hinv : Inv y P seen st) {a : NPart} (ha : a ∈ P) (hdup : a.1 ∈ seen.map (·.1)) :
    processPacket st (encN y P.length a) = .err .packetBad :=
  step_dup hP hinv ha hdup

/-- The loop does not stop early: with fewer distinct parts than the reply has, it goes on
receiving — also when the part carrying `final` has already arrived. -/
theorem C08_gs1_waits_for_all {y : Style} {P seen : List NPart} {st : LoopSt} (hP : PartsOk y P) (hne : P ≠ [])
    (hinv : Inv y P seen st) (hlt : seen.length < P.length) : st.done = false :=
  hinv.not_done hP hne hlt

def C08_gs1_exState : Spec.State :=
  { name := bs "S", map := bs "m", mapTitle := none, adminContact := none, adminName := none, hasPassword := false,
    gameMode := bs "g", gameVersion := bs "1", playersMaximum := 8, playersMinimum := none,
    players := [⟨bs "A", none, 1, none, none, none, 2, none, none, none⟩, ⟨bs "B", none, 3, none, none, none, 4, none, none, none⟩],
    tournament := none, extras := [] }

def C08_gs1_exStyle : Style := ⟨7, [3, 4], true, 0, false, false, false, 0⟩

-- non-vacuity: three parts; the last part first, then the first, then the second, gives the two players;
-- the last part twice gives an error
def C08_gs1_exPart (i : Nat) : Bytes := (script C08_gs1_exStyle C08_gs1_exState).getD i []

example : wf C08_gs1_exStyle C08_gs1_exState = true ∧ (script C08_gs1_exStyle C08_gs1_exState).length = 3 ∧
    (query 7777 0 (Net.init [.opened ([C08_gs1_exPart 2, C08_gs1_exPart 0, C08_gs1_exPart 1].map .data)] [])).1 = .ok (expected C08_gs1_exState)
    ∧ (query 7777 0 (Net.init [.opened ([C08_gs1_exPart 2, C08_gs1_exPart 2, C08_gs1_exPart 0, C08_gs1_exPart 1].map .data)] [])).1 = .err .packetBad := by
  decide +kernel
