import GdVerif.Lemmas.ValveFaults
import GdVerif.Proto.Games
/-
  C02 — the WHOLE Valve query reproduces the server's state field for field.

  `Props/C02.lean` has one theorem per section parser (parse ∘ SPEC-encode = state).  Here they are composed through
  the code that actually runs: `Valve.query` = open the socket, `A2S_INFO` / `A2S_PLAYER` / `A2S_RULES` through
  `get_request_data` (retry wrapper, challenge loop, `receive` with split-packet reassembly), gathering toggles,
  app-id check.  The server is the SPEC's (`Spec/Valve.lean`): `script cfg st` is every datagram it sends,
  `expected cfg st` the response the user is entitled to.

  MODEL: `GdVerif/Proto/Valve.lean`, `GdVerif/Proto/Games.lean` (`gameView`).
  SPEC:  `GdVerif/Spec/Valve.lean` (`State`, `Config`, `script`, `scriptAs`, `expected`, `wf`, `wfExchanges`, `fits`).
  The generator of the correspondence cases (`Run/GenValve.lean`) prints exactly `Spec.script cfg st` and
  `Spec.expected cfg st`, so what is proved here is what is exercised against the Rust.
-/
open Gd Gd.Valve Gd.Valve.Spec

/-- For every server state in the specification's domain (`wf`: all 32 extra-data flag subsets, either case of the
type bytes, Source or obsolete GoldSrc info layout with or without mod data, The Ship fields, 0–255 players, 0–65535
rules), every engine and gathering setting, every port, every retry count, every behaviour of the external decoders,
and every exchange in which each of the three requests is answered after ANY number of challenge rounds (any challenge
bytes) and the final reply comes in one datagram or split — Source layout for Source engines (uncompressed, ≤ 255
fragments), GoldSrc layout for GoldSrc engines (≤ 15 fragments), any cut points (`wfExchanges`; `uncompressed`:
the bzip2 variant is `C02_whole_compressed`) — with every datagram within the
client's 6144-byte receive buffer: `valve::query` returns exactly the response the SPEC entitles the user to, i.e.
the state field for field (`BadGame` exactly when the app-id check says so). -/
theorem C02_whole (ext : Ext) (port retries : Nat) (cfg : Config) (st : State)
    (hwf : wf cfg st = true) (hx : wfExchanges cfg = true) (hu : uncompressed cfg = true)
    (hfit : fits (script cfg st) = true) :
    (Valve.query ext port cfg.engine cfg.gather retries (Net.init [.opened ((script cfg st).map .data)] [])).1
      = expected cfg st := by
  rw [script_eq_scriptAs] at hfit ⊢
  exact query_whole ext port retries cfg st hwf hx (decodersAgree_of_uncompressed ext cfg st hu) _ _ _
    (List.Perm.refl _) (List.Perm.refl _) (List.Perm.refl _) hfit

/-- The same when the fragments of each split reply arrive in ANY order (UDP keeps none): `ai`, `ap`, `ar` are
arbitrary permutations of the datagrams carrying the three final replies (composition with C08's
`C08_valve_any_order`). -/
theorem C02_whole_any_order (ext : Ext) (port retries : Nat) (cfg : Config) (st : State)
    (hwf : wf cfg st = true) (hx : wfExchanges cfg = true) (hu : uncompressed cfg = true) (ai ap ar : List Bytes)
    (hai : ai.Perm (infoDatagrams cfg st)) (hap : ap.Perm (playersDatagrams cfg st))
    (har : ar.Perm (rulesDatagrams cfg st)) (hfit : fits (scriptAs cfg ai ap ar) = true) :
    (Valve.query ext port cfg.engine cfg.gather retries (Net.init [.opened ((scriptAs cfg ai ap ar).map .data)] [])).1
      = expected cfg st :=
  query_whole ext port retries cfg st hwf hx (decodersAgree_of_uncompressed ext cfg st hu) ai ap ar hai hap har hfit

/-- With bzip2-compressed Source split replies (any of the three, mixed freely with the other transports; fragment 0
announces size and CRC-32, bit 31 of the id set).  bzip2-rs and crc32fast are parameters of the model (`ext`), the
server's compressor is the parameter `compress`; the hypothesis is the law that ties them: the client's decoder
inverts the server's compressor (`hlaw`), and each compressed reply carries `compress reply` and the checksum the
client's CRC-32 computes for the reply, the reply being within the client's 4 MiB decompression limit (`hcar`).
Any arrival order of the fragments. -/
theorem C02_whole_compressed (ext : Ext) (compress : Bytes → Bytes) (hlaw : ∀ p, ext.bunzip (compress p) = some p)
    (port retries : Nat) (cfg : Config) (st : State)
    (hwf : wf cfg st = true) (hx : wfExchanges cfg = true) (hcar : carries compress ext.crc32 cfg st)
    (ai ap ar : List Bytes)
    (hai : ai.Perm (infoDatagrams cfg st)) (hap : ap.Perm (playersDatagrams cfg st))
    (har : ar.Perm (rulesDatagrams cfg st)) (hfit : fits (scriptAs cfg ai ap ar) = true) :
    (Valve.query ext port cfg.engine cfg.gather retries (Net.init [.opened ((scriptAs cfg ai ap ar).map .data)] [])).1
      = expected cfg st :=
  query_whole ext port retries cfg st hwf hx (decodersAgree_of_law ext compress hlaw cfg st hcar) ai ap ar hai hap har
    hfit

/-- What `expected` is, spelled out: the info block is the state's, the players and the rules are the state's exactly
when that section is asked for (Risk of Rain 2: without the rule `Test`, as documented). -/
theorem C02_whole_expected_fields (cfg : Config) (st : State) (r : Response) (h : expected cfg st = .ok r) :
    r.info = st.info
    ∧ r.players = (if cfg.gather.players == .skip then none else some st.players)
    ∧ r.rules = (if cfg.gather.rules == .skip then none else some (expectedRules cfg.engine st.rules)) := by
  unfold expected at h
  split at h
  · cases h
  · cases h; exact ⟨rfl, rfl, rfl⟩

/-- "the per-game response derived from it carries the same values": for every state and configuration, every field
of `game::Response::new_from_valve_response(expected response)` is the correspondingly named field of the server's
state; the five optional fields are those of the extra-data block (absent when the block is), the player list keeps
name / score / duration of every player in order, absent sections become empty collections. -/
theorem C02_game_view_fields (cfg : Config) (st : State) (r : Response) (h : expected cfg st = .ok r) :
    let g := Games.gameView r
    g.protocol = st.info.protocolVersion ∧ g.name = st.info.name ∧ g.map = st.info.map
    ∧ g.game = st.info.gameMode ∧ g.appid = st.info.appid ∧ g.playersOnline = st.info.playersOnline
    ∧ g.playersMaximum = st.info.playersMaximum ∧ g.playersBots = st.info.playersBots
    ∧ g.serverType = st.info.serverType ∧ g.hasPassword = st.info.hasPassword ∧ g.vacSecured = st.info.vacSecured
    ∧ g.version = st.info.gameVersion
    ∧ g.port = st.info.extraData.bind (·.port) ∧ g.steamId = st.info.extraData.bind (·.steamId)
    ∧ g.tvPort = st.info.extraData.bind (·.tvPort) ∧ g.tvName = st.info.extraData.bind (·.tvName)
    ∧ g.keywords = st.info.extraData.bind (·.keywords)
    ∧ g.playersDetails = (if cfg.gather.players == .skip then []
        else st.players.map fun p => ⟨p.name, p.score, p.duration⟩)
    ∧ g.rules = (if cfg.gather.rules == .skip then [] else expectedRules cfg.engine st.rules) := by
  obtain ⟨hi, hp, hr⟩ := C02_whole_expected_fields cfg st r h
  obtain ⟨info, players, rules⟩ := r
  simp only at hi hp hr
  subst hi hp hr
  intro g
  refine ⟨rfl, rfl, rfl, rfl, rfl, rfl, rfl, rfl, rfl, rfl, rfl, rfl, rfl, rfl, rfl, rfl, rfl, ?_, ?_⟩
  · show ((if cfg.gather.players == .skip then none else some st.players).getD []).map _ = _
    cases cfg.gather.players <;> rfl
  · show (if cfg.gather.rules == .skip then none else some (expectedRules cfg.engine st.rules)).getD [] = _
    cases cfg.gather.rules <;> rfl

/-- The two together: the game response of the whole query against a conforming server. -/
theorem C02_whole_game_view (ext : Ext) (port retries : Nat) (cfg : Config) (st : State)
    (hwf : wf cfg st = true) (hx : wfExchanges cfg = true) (hu : uncompressed cfg = true)
    (hfit : fits (script cfg st) = true) :
    (Games.mapQ Games.gameView (Valve.query ext port cfg.engine cfg.gather retries)
        (Net.init [.opened ((script cfg st).map .data)] [])).1
      = (expected cfg st >>= fun r => Res.ok (Games.gameView r)) := by
  have h := C02_whole ext port retries cfg st hwf hx hu hfit
  unfold Games.mapQ
  rw [Q.bind_apply]
  revert h
  cases Valve.query ext port cfg.engine cfg.gather retries (Net.init [.opened ((script cfg st).map .data)] []) with
  | mk res w =>
    intro h
    simp only at h
    rw [← h]
    cases res <;> rfl

/-! ### non-vacuity -/

/-- a TF2-like server: info behind 2 challenge rounds and split into 3 Source fragments, players behind 1 challenge
in one datagram, rules split in 2 -/
def C02_whole_demoCfg : Config :=
  ⟨Engine.new 440, ⟨.enforce, .try_, true⟩, false, [],
    ⟨[[1, 2, 3, 4], [0xFF, 0xFF, 0xFF, 0xFF]], .sourceSplit 7 [10, 10]⟩,
    ⟨[[0, 0, 0, 0x41]], .single⟩,
    ⟨[], .sourceSplit 9 [3]⟩⟩

def C02_whole_demoState : State :=
  ⟨⟨17, [84, 70, 50], [99, 112], [116, 102], [84, 70], 440, 3, 24, 1, .dedicated, .linux, false, true, none, [49],
      some ⟨some 27015, some 5, some 27020, some [116, 118], some [97, 44, 98], some (440 + 2 ^ 24 * 9)⟩, false, none⟩,
    [⟨[80], -3, 0x41200000, none, none⟩, ⟨[81, 82], 70000, 0, none, none⟩],
    [([97], [98]), ([99, 100], [])]⟩

/-! The demo server meets the hypotheses of the theorems (used by the demonstrations here and in
`Props/C10_valve_whole.lean`). -/

theorem C02_whole_demo_wf : wf C02_whole_demoCfg C02_whole_demoState = true := by decide +kernel

theorem C02_whole_demo_exchanges : wfExchanges C02_whole_demoCfg = true := by decide +kernel

theorem C02_whole_demo_uncompressed : uncompressed C02_whole_demoCfg = true := by decide +kernel

theorem C02_whole_demo_fits :
    fits (scriptAs C02_whole_demoCfg (infoDatagrams C02_whole_demoCfg C02_whole_demoState)
      (playersDatagrams C02_whole_demoCfg C02_whole_demoState)
      (rulesDatagrams C02_whole_demoCfg C02_whole_demoState)) = true := by decide +kernel

theorem C02_whole_demo_expected : expected C02_whole_demoCfg C02_whole_demoState
    = .ok ⟨C02_whole_demoState.info, some C02_whole_demoState.players, some C02_whole_demoState.rules⟩ := by
  decide +kernel

-- the hypotheses of `C02_whole` hold for it (2 challenge rounds and a 3-fragment split on the info exchange),
-- so the theorem applies: the query returns the state
example (ext : Ext) (port retries : Nat) :
    C02_whole_demoCfg.info.challenges.length = 2 ∧ (infoDatagrams C02_whole_demoCfg C02_whole_demoState).length = 3
    ∧ (script C02_whole_demoCfg C02_whole_demoState).length = 9
    ∧ (Valve.query ext port (Engine.new 440) ⟨.enforce, .try_, true⟩ retries
        (Net.init [.opened ((script C02_whole_demoCfg C02_whole_demoState).map .data)] [])).1
      = .ok ⟨C02_whole_demoState.info, some C02_whole_demoState.players, some C02_whole_demoState.rules⟩ := by
  refine ⟨by decide, by decide, by decide, ?_⟩
  have h := C02_whole ext port retries C02_whole_demoCfg C02_whole_demoState C02_whole_demo_wf
    C02_whole_demo_exchanges C02_whole_demo_uncompressed (by rw [script_eq_scriptAs]; exact C02_whole_demo_fits)
  rw [C02_whole_demo_expected] at h
  exact h

-- any order: the three info fragments arriving as 2, 0, 1
example (ext : Ext) (port retries : Nat) :
    let ds := infoDatagrams C02_whole_demoCfg C02_whole_demoState
    let ai := ds.drop 2 ++ ds.take 2
    ai ≠ ds ∧
    (Valve.query ext port (Engine.new 440) ⟨.enforce, .try_, true⟩ retries
        (Net.init [.opened ((scriptAs C02_whole_demoCfg ai (playersDatagrams C02_whole_demoCfg C02_whole_demoState)
          (rulesDatagrams C02_whole_demoCfg C02_whole_demoState)).map .data)] [])).1
      = expected C02_whole_demoCfg C02_whole_demoState := by
  intro ds ai
  refine ⟨by decide +kernel, ?_⟩
  exact C02_whole_any_order ext port retries C02_whole_demoCfg C02_whole_demoState C02_whole_demo_wf
    C02_whole_demo_exchanges C02_whole_demo_uncompressed ai _ _
    (List.perm_append_comm.trans (by rw [List.take_append_drop])) (List.Perm.refl _) (List.Perm.refl _) (by decide +kernel)

-- compressed: the rules reply as a 3-fragment compressed split; the law is satisfiable (an `ext` whose decoder
-- inverts `compress`: here both the identity, checksum constant), so are the other hypotheses
example (port retries : Nat) :
    let ext : Ext := ⟨some, fun _ => 7⟩
    let packet := reply 0x45 (encRules C02_whole_demoState.rules)
    let cfg : Config := { C02_whole_demoCfg with rules := ⟨[[9, 9, 9, 9]], .sourceSplitBz (2 ^ 31 + 5) [4, 4] packet 7⟩ }
    (rulesDatagrams cfg C02_whole_demoState).length = 3 ∧
    (Valve.query ext port cfg.engine cfg.gather retries
        (Net.init [.opened ((script cfg C02_whole_demoState).map .data)] [])).1
      = expected cfg C02_whole_demoState := by
  intro ext packet cfg
  refine ⟨by decide +kernel, ?_⟩
  rw [script_eq_scriptAs]
  exact C02_whole_compressed ext id (fun _ => rfl) port retries cfg C02_whole_demoState (by decide +kernel) (by decide +kernel)
    ⟨trivial, trivial, rfl, rfl, by decide +kernel⟩ _ _ _ (List.Perm.refl _) (List.Perm.refl _) (List.Perm.refl _) (by decide +kernel)

-- obsolete GoldSrc info layout (with mod data) behind 2 challenge rounds in a 3-fragment GoldSrc split, rules in a
-- 2-fragment GoldSrc split arriving reversed
example (ext : Ext) (port retries : Nat) :
    let st : State := ⟨⟨47, [72, 76], [99, 50], [118], [72], 0, 2, 16, 1, .dedicated, .windows, true, false, none, [], none,
        true, some ⟨[104], [100], 3, 70000, true, false⟩⟩, [⟨[80], 5, 0x3F800000, none, none⟩], [([107], [118])]⟩
    let cfg : Config := ⟨.goldSrc true, ⟨.try_, .enforce, true⟩, false, [49, 46, 50, 58, 51],
      ⟨[[5, 6, 7, 8], [0x41, 0, 0, 0]], .goldSplit 77 [9, 9]⟩, ⟨[], .single⟩, ⟨[[1, 1, 1, 1]], .goldSplit 78 [5]⟩⟩
    (infoDatagrams cfg st).length = 3 ∧
    (Valve.query ext port cfg.engine cfg.gather retries
        (Net.init [.opened ((scriptAs cfg (infoDatagrams cfg st) (playersDatagrams cfg st)
          (rulesDatagrams cfg st).reverse).map .data)] [])).1
      = .ok ⟨st.info, some st.players, some st.rules⟩ := by
  intro st cfg
  refine ⟨by decide +kernel, ?_⟩
  have h := C02_whole_any_order ext port retries cfg st (by decide +kernel) (by decide +kernel) (by decide +kernel) _ _ _
    (List.Perm.refl _) (List.Perm.refl _) (List.reverse_perm _) (by decide +kernel)
  rw [show expected cfg st = .ok ⟨st.info, some st.players, some st.rules⟩ by decide +kernel] at h
  exact h

-- the game view of that state: the hypothesis of `C02_game_view_fields` / `C02_whole_expected_fields` is satisfiable
example : ∃ r, expected C02_whole_demoCfg C02_whole_demoState = .ok r
    ∧ (Games.gameView r).name = [84, 70, 50] ∧ (Games.gameView r).port = some 27015
    ∧ (Games.gameView r).rules = [([97], [98]), ([99, 100], [])] :=
  ⟨_, C02_whole_demo_expected, by decide +kernel, by decide +kernel, by decide +kernel⟩

-- the game view of that state
example : (Games.gameView ⟨C02_whole_demoState.info, some C02_whole_demoState.players, some C02_whole_demoState.rules⟩).playersDetails
      = [⟨[80], -3, 0x41200000⟩, ⟨[81, 82], 70000, 0⟩] := by
  decide
