import GdVerif.Lemmas.Gs3Safe
/-
  C01 (GameSpy 3) — hostile server responses never crash or hang `gamespy::three::query` /
  `query_vars`.

  MODEL: `GdVerif/Proto/Gs3.lean` (tied to protocols/gamespy/protocols/three by `./check C01` and
  `./check C04` on every run).  `crash` stands for every way the Rust stops: a panic (the index
  expression `values[packet_id]`; `packets[1 ..]` comes after `packets[0]` was taken and cannot be out of
  range, so the model has no branch for it), exhausted fuel of a loop (= a loop that would
  not end: the packet loop's fuel is the number of queued deliveries + 1, the parsing loops' fuel is
  the number of remaining bytes + 1).
-/
open Gd

/-- `gamespy::three::query`: for EVERY reply script (any number of datagrams of any content and
size, silences, a refused socket, failing sends), port and retry count, the query returns a
response or an error. -/
theorem C01_gs3_query (port retries : Nat) (script : List ConnScript) (faults : List Bool) :
    (Gs3.query port retries (Net.init script faults)).1 ≠ .crash :=
  (Gs3.query_safe port retries (Net.init script faults)).1

/-- `gamespy::three::query_vars`, likewise. -/
theorem C01_gs3_query_vars (port retries : Nat) (script : List ConnScript) (faults : List Bool) :
    (Gs3.queryVars port retries (Net.init script faults)).1 ≠ .crash :=
  (Gs3.queryVars_safe port retries (Net.init script faults)).1

/-- The packet-level pieces alone, on any bytes: the reply header, the challenge, the split header,
the key/value block, the field sections of any list of packets, and everything `query` does with
any list of packet payloads. -/
theorem C01_gs3_parsers (kind : Nat) (data : Bytes) (packets : List Bytes) :
    (Gs3.readHeader kind).run data ≠ .crash
    ∧ Gs3.parseChallenge.run data ≠ .crash
    ∧ Gs3.readFrag.run data ≠ .crash
    ∧ Gs3.dataToMap data ≠ .crash
    ∧ Gs3.parsePlayersAndTeams packets ≠ .crash
    ∧ Gs3.buildResponse packets ≠ .crash
    ∧ Gs3.buildVars packets ≠ .crash :=
  ⟨Safe.run_ne_crash (Gs3.safe_readHeader kind) data, Safe.run_ne_crash Gs3.safe_parseChallenge data,
   Safe.run_ne_crash Gs3.safe_readFrag data, Gs3.dataToMap_ne data, Gs3.parsePlayersAndTeams_ne packets,
   Gs3.buildResponse_ne packets, Gs3.buildVars_ne packets⟩

/-- Storing a received packet never indexes out of bounds, whatever its id and whatever was stored
before (the slot is created first). -/
theorem C01_gs3_accept (a : Gs3.Acc) (f : Gs3.Frag) : Gs3.accept a f ≠ .crash := Gs3.accept_ne a f

-- non-vacuity: hostile scripts are in the quantifier — a handshake reply whose challenge is not a
-- number; silence, then (on the retry) a reply that is cut off inside the session id
example : (Gs3.query 29900 0 (Net.init [.opened [.data [9, 0, 0, 0, 1, 0x78, 0x2D, 0x31]]] [])).1 = .err .typeParse := by
  decide +kernel

example : (Gs3.queryVars 29900 1 (Net.init [.opened [.silence, .data [9, 0, 0]]] [])).1 = .err .packetUnderflow := by
  decide +kernel
