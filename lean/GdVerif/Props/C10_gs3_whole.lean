import GdVerif.Lemmas.Gs3Faults
import GdVerif.Lemmas.Gs3CutFaults
import GdVerif.Props.C04_gs3
/-
  C10 on WHOLE GameSpy 3 queries with faults injected.

  `Props/C10.lean` proves C10 for the combinator, `Props/C10_gs3.lean` names the retried unit: the WHOLE exchange
  (handshake request → challenge reply → data request → all data packets).  Here the property is proved end to end for
  `Gs3.query` (and `query_vars`) against the SPEC's server (`Spec/Gs3.lean`), on the scripts of
  `props/families/gs3.py: c10_build`: a plan (`Spec/Gs3Faults.lean`) lists the attempts that end in a timeout-class
  failure — at the HANDSHAKE stage (the challenge reply is lost / the handshake request cannot be sent) or at the DATA
  stage (the server answers the handshake, then the data packets are lost / the data request cannot be sent; the reply
  may also STOP HALF WAY: some of the data packets — any selection of them, each at most once, in any order, at least one
  missing, `Attempt.got` / `Faults.partOf` — still arrive before the silence) — and how the unit ends: the valid exchange
  (data packets in ANY order of arrival), nothing, or a malformed datagram at either stage (at the data stage possibly
  after some of the data packets).  `faultyScript` / `faultyFaults` are the two arguments of `Net.init`; what follows them (`restQ`, `restF`) is
  arbitrary.  Quantified: state and wire layout in the SPEC's domain — the domain of the DECODING theorems
  (`C04_gs3_query_extra`): `ConfigX` / `wfX`, i.e. any challenge, 1–128 packets, any arrival order, and any allowed extra
  field sections (`kills_`, `time_on_`, `honor_t` …) at any positions of any packet —, port, retry count, the plan.
  Replies without extra sections (`Config` / `wf`) are the case `cfg.toX`:
  `C10_gs3_faults_conservative`, `C10_gs3_query_faulty_no_extra`.
-/
open Gd Gd.Gs3 Gd.Gs3.Spec Gd.Faults

/-- For every plan in C10's domain for the retry count (`wfPlan`: a unit that is answered —
validly, or by a datagram that does not start with the kind byte of its stage — had at most `retries` timeout-class
failures before, a unit that is given up exactly `retries + 1`; what a failed attempt, or the attempt that meets the
malformed datagram, still receives of the reply at the data stage is nothing or an incomplete selection of its data
packets): the query returns the outcome the property prescribes
(`faultyExpected`: the fault-free response / the last failure's error / the malformed datagram's error), and the
datagrams it sent are exactly the plan's (`faultySends`: every attempt starts with the handshake request; a failed
attempt at the data stage also sends the data request).  The same on replies whose packets end inside value lists is
`C10_gs3_query_faulty_cut` below; this is its case `cfg.toC` (`C10_gs3_faults_cut_conservative`). -/
theorem C10_gs3_query_faulty (cfg : ConfigX) (st : State) (h : wfX cfg st = true) (port retries : Nat)
    (arrival : List Bytes) (harr : arrival.Perm (dataPacketsX cfg st)) (plan : Plan)
    (hplan : wfPlan retries (dataPacketsX cfg st) plan = true) (restQ : List Delivery) (restF : List Bool) :
    (Gs3.query port retries
        (Net.init [.opened (faultyScriptX cfg plan arrival ++ restQ)] (faultyFaults plan ++ restF))).1
      = faultyExpected st plan
    ∧ Gd.sentOf (Gs3.query port retries
        (Net.init [.opened (faultyScriptX cfg plan arrival ++ restQ)] (faultyFaults plan ++ restF))).2.log
      = faultySendsX cfg plan := by
  obtain ⟨hcount, hpay, hsize, hlo, hhi⟩ := wfX_wire cfg st h
  rw [query_eq, ← faultyExpected_of (buildResponseX_spec cfg st h) plan]
  exact exchange_faulty_wire cfg.challenge hlo hhi cfg.unknown (payloadsX cfg st) (payloadsX_ne_nil cfg st) hcount hpay
    hsize port retries buildResponse arrival harr plan hplan restQ restF

/-- the same for `query_vars`: the variables sent, under the same faults -/
theorem C10_gs3_query_vars_faulty (cfg : ConfigX) (st : State) (h : wfX cfg st = true) (port retries : Nat)
    (arrival : List Bytes) (harr : arrival.Perm (dataPacketsX cfg st)) (plan : Plan)
    (hplan : wfPlan retries (dataPacketsX cfg st) plan = true) (restQ : List Delivery) (restF : List Bool) :
    (Gs3.queryVars port retries
        (Net.init [.opened (faultyScriptX cfg plan arrival ++ restQ)] (faultyFaults plan ++ restF))).1
      = (faultyPacketsX cfg st plan >>= buildVars)
    ∧ Gd.sentOf (Gs3.queryVars port retries
        (Net.init [.opened (faultyScriptX cfg plan arrival ++ restQ)] (faultyFaults plan ++ restF))).2.log
      = faultySendsX cfg plan := by
  obtain ⟨hcount, hpay, hsize, hlo, hhi⟩ := wfX_wire cfg st h
  rw [queryVars_eq]
  exact exchange_faulty_wire cfg.challenge hlo hhi cfg.unknown (payloadsX cfg st) (payloadsX_ne_nil cfg st) hcount hpay
    hsize port retries buildVars arrival harr plan hplan restQ restF

/-- (a) RECOVERY.  `fails` (any number ≤ `retries`; each at the handshake or at the data stage, a silence or a failed
send, the silence at the data stage possibly after some — not all — of the data packets: `Attempt.wf`) precede the valid
exchange; nothing an abandoned attempt received shows in the result: the query returns exactly `Spec.expected st` — by `C04_gs3_query_extra` the result with no
faults —, and `fails.length + 1` attempts (handshake requests) were made. -/
theorem C10_gs3_query_recovers (cfg : ConfigX) (st : State) (h : wfX cfg st = true) (port retries : Nat)
    (arrival : List Bytes) (harr : arrival.Perm (dataPacketsX cfg st)) (fails : List Attempt)
    (hk : fails.length ≤ retries) (hw : ∀ a ∈ fails, a.wf (dataPacketsX cfg st) = true) (restQ : List Delivery)
    (restF : List Bool) :
    let plan : Plan := ⟨fails, .valid⟩
    let out := Gs3.query port retries
        (Net.init [.opened (faultyScriptX cfg plan arrival ++ restQ)] (faultyFaults plan ++ restF))
    out.1 = .ok (expected st)
    ∧ Gd.sentOf out.2.log = fails.flatMap (Attempt.sendsX cfg) ++ [(handshakeRequest, false), (dataRequest cfg.challenge, false)]
    ∧ attemptsOf (Gd.sentOf out.2.log) = fails.length + 1 := by
  intro plan out
  obtain ⟨h1, h2⟩ := C10_gs3_query_faulty cfg st h port retries arrival harr plan (wfPlan_valid hw hk) restQ restF
  exact ⟨h1, h2, h2 ▸ attemptsOf_planX cfg plan⟩

/-- (b) EXHAUSTION.  All `retries + 1` attempts end in a timeout-class failure (at either stage): the query fails with
the last attempt's error — `PacketReceive`, or `PacketSend` when that attempt ended on a failed send
(`C10_gs3_last_error`) — after exactly `retries + 1` attempts, whatever the script still holds. -/
theorem C10_gs3_query_exhausted (cfg : ConfigX) (st : State) (h : wfX cfg st = true) (port retries : Nat)
    (arrival : List Bytes) (harr : arrival.Perm (dataPacketsX cfg st)) (fails : List Attempt)
    (hk : fails.length = retries + 1) (hw : ∀ a ∈ fails, a.wf (dataPacketsX cfg st) = true) (restQ : List Delivery)
    (restF : List Bool) :
    let plan : Plan := ⟨fails, .gaveUp⟩
    let out := Gs3.query port retries
        (Net.init [.opened (faultyScriptX cfg plan arrival ++ restQ)] (faultyFaults plan ++ restF))
    out.1 = .err (lastError Attempt.error fails)
    ∧ (out.1 = .err .packetReceive ∨ out.1 = .err .packetSend)
    ∧ Gd.sentOf out.2.log = fails.flatMap (Attempt.sendsX cfg)
    ∧ attemptsOf (Gd.sentOf out.2.log) = retries + 1 := by
  intro plan out
  obtain ⟨h1, h2⟩ := C10_gs3_query_faulty cfg st h port retries arrival harr plan (wfPlan_gaveUp hw hk) restQ restF
  exact ⟨h1, (lastError_class fails).imp (fun e => h1.trans (congrArg Res.err e)) fun e => h1.trans (congrArg Res.err e),
    h2.trans (List.append_nil _), hk ▸ h2 ▸ attemptsOf_planX cfg plan⟩

theorem C10_gs3_last_error (fails : List Attempt) (a : Attempt) :
    lastError Attempt.error (fails ++ [a]) = (if a.sendFault then .packetSend else .packetReceive) :=
  lastError_concat _ fails a

/-- (c) A MALFORMED REPLY IS NOT RETRIED.  After any number ≤ `retries` of timed-out attempts, an attempt receives — as
the handshake reply, or after a valid handshake as the first data packet or after any incomplete selection `got` of the
data packets — a datagram that does not start with the kind byte of that stage (`09` / `00`), or is empty: ANY such
datagram.  Whatever `retries` is, the query fails at once with
`PacketBad` / `PacketUnderflow` (not a timeout-class error), and no further attempt is made: `fails.length + 1` in all. -/
theorem C10_gs3_query_malformed_not_retried (cfg : ConfigX) (st : State) (h : wfX cfg st = true) (port retries : Nat)
    (arrival : List Bytes) (harr : arrival.Perm (dataPacketsX cfg st)) (fails : List Attempt)
    (hk : fails.length ≤ retries) (hw : ∀ a ∈ fails, a.wf (dataPacketsX cfg st) = true) (stage : Stage)
    (got : List Bytes) (hgot : gotAt (dataPacketsX cfg st) stage false got = true) (m : Bytes)
    (hm : malformedAt stage m = true) (restQ : List Delivery) (restF : List Bool) :
    let plan : Plan := ⟨fails, .malformed stage got m⟩
    let out := Gs3.query port retries
        (Net.init [.opened (faultyScriptX cfg plan arrival ++ restQ)] (faultyFaults plan ++ restF))
    out.1 = .err (malformedError m)
    ∧ (malformedError m).isTimeout = false
    ∧ Gd.sentOf out.2.log = fails.flatMap (Attempt.sendsX cfg) ++ (Ending.malformed stage got m).sendsX cfg
    ∧ attemptsOf (Gd.sentOf out.2.log) = fails.length + 1 := by
  intro plan out
  obtain ⟨h1, h2⟩ := C10_gs3_query_faulty cfg st h port retries arrival harr plan (wfPlan_malformed hw hk hgot hm)
    restQ restF
  exact ⟨h1, malformedError_not_timeout m, h2, h2 ▸ attemptsOf_planX cfg plan⟩

/-- REPLIES WITHOUT EXTRA SECTIONS are the case `cfg.toX` of the statements above: same domain, same data packets, same
scripts, same sends, same prescribed packets. -/
theorem C10_gs3_faults_conservative (cfg : Config) (st : State) (plan : Plan) (arrival : List Bytes) :
    wfX cfg.toX st = wf cfg st ∧ dataPacketsX cfg.toX st = dataPackets cfg st
    ∧ faultyScriptX cfg.toX plan arrival = faultyScript cfg plan arrival
    ∧ faultySendsX cfg.toX plan = faultySends cfg plan
    ∧ faultyPacketsX cfg.toX st plan = faultyPackets cfg st plan := by
  obtain ⟨e1, e2, e3, e4⟩ := faulty_toX cfg st plan arrival
  exact ⟨wfX_toX cfg st, e4, e1, e2, e3⟩

/-- … so the statement for `Config` / `wf` (no extra sections) is an instance. -/
theorem C10_gs3_query_faulty_no_extra (cfg : Config) (st : State) (h : wf cfg st = true) (port retries : Nat)
    (arrival : List Bytes) (harr : arrival.Perm (dataPackets cfg st)) (plan : Plan)
    (hplan : wfPlan retries (dataPackets cfg st) plan = true) (restQ : List Delivery) (restF : List Bool) :
    (Gs3.query port retries
        (Net.init [.opened (faultyScript cfg plan arrival ++ restQ)] (faultyFaults plan ++ restF))).1
      = faultyExpected st plan
    ∧ Gd.sentOf (Gs3.query port retries
        (Net.init [.opened (faultyScript cfg plan arrival ++ restQ)] (faultyFaults plan ++ restF))).2.log
      = faultySends cfg plan := by
  obtain ⟨e0, e4, e1, e2, _⟩ := C10_gs3_faults_conservative cfg st plan arrival
  have key := C10_gs3_query_faulty cfg.toX st (by rw [e0]; exact h) port retries arrival (by rw [e4]; exact harr) plan
    (by rw [e4]; exact hplan) restQ restF
  rw [e1, e2] at key
  exact key

example : wf C04_gs3_exampleConfig C04_gs3_exampleState = true := C04_gs3_example_wf

/-! ### non-vacuity: the server of `Props/C04_gs3.lean` that sends five extra field sections (`C04_gs3_exampleConfigX`: two data
packets, challenge -7), retries = 2 -/

-- (a) the challenge reply lost once, then the data packets lost once (after a valid handshake): 6 deliveries
-- (silence; handshake reply, silence; handshake reply, 2 data packets), 5 sends; the result is the state, 3 attempts
example (port : Nat) :
    (faultyScriptX C04_gs3_exampleConfigX ⟨[⟨.handshake, false, []⟩, ⟨.data, false, []⟩], .valid⟩
      (dataPacketsX C04_gs3_exampleConfigX C04_gs3_exampleState)).length = 6
    ∧ faultyFaults ⟨[⟨.handshake, false, []⟩, ⟨.data, false, []⟩], .valid⟩ = [false, false, false, false, false]
    ∧ (Gs3.query port 2 (Net.init [.opened (faultyScriptX C04_gs3_exampleConfigX
          ⟨[⟨.handshake, false, []⟩, ⟨.data, false, []⟩], .valid⟩ (dataPacketsX C04_gs3_exampleConfigX C04_gs3_exampleState) ++ [])]
        (faultyFaults ⟨[⟨.handshake, false, []⟩, ⟨.data, false, []⟩], .valid⟩ ++ []))).1 = .ok (expected C04_gs3_exampleState)
    ∧ attemptsOf (Gd.sentOf (Gs3.query port 2 (Net.init [.opened (faultyScriptX C04_gs3_exampleConfigX
          ⟨[⟨.handshake, false, []⟩, ⟨.data, false, []⟩], .valid⟩ (dataPacketsX C04_gs3_exampleConfigX C04_gs3_exampleState) ++ [])]
        (faultyFaults ⟨[⟨.handshake, false, []⟩, ⟨.data, false, []⟩], .valid⟩ ++ []))).2.log) = 3 := by
  have h := C10_gs3_query_recovers C04_gs3_exampleConfigX C04_gs3_exampleState C04_gs3_exampleX_wf port 2 _
    (List.Perm.refl _) [⟨.handshake, false, []⟩, ⟨.data, false, []⟩] (by decide) (by decide) [] []
  exact ⟨by decide, by decide, h.1, h.2.2⟩

-- (b) three timeouts, the last one a failed send of the data request: PacketSend after 3 attempts
example (port : Nat) (restQ : List Delivery) :
    (Gs3.query port 2 (Net.init [.opened (faultyScriptX C04_gs3_exampleConfigX
          ⟨[⟨.handshake, true, []⟩, ⟨.data, false, []⟩, ⟨.data, true, []⟩], .gaveUp⟩
          (dataPacketsX C04_gs3_exampleConfigX C04_gs3_exampleState) ++ restQ)]
        (faultyFaults ⟨[⟨.handshake, true, []⟩, ⟨.data, false, []⟩, ⟨.data, true, []⟩], .gaveUp⟩ ++ []))).1 = .err .packetSend :=
  (C10_gs3_query_exhausted C04_gs3_exampleConfigX C04_gs3_exampleState C04_gs3_exampleX_wf port 2 _
    (List.Perm.refl _) [⟨.handshake, true, []⟩, ⟨.data, false, []⟩, ⟨.data, true, []⟩] rfl (by decide) restQ []).1

-- (c) retries = 7: after a valid handshake the datagram FF FF arrives instead of a data packet: PacketBad at once
example (port : Nat) :
    (Gs3.query port 7 (Net.init [.opened (faultyScriptX C04_gs3_exampleConfigX ⟨[], .malformed .data [] [0xFF, 0xFF]⟩
          (dataPacketsX C04_gs3_exampleConfigX C04_gs3_exampleState) ++ [])]
        (faultyFaults ⟨[], .malformed .data [] [0xFF, 0xFF]⟩ ++ []))).1 = .err .packetBad :=
  (C10_gs3_query_malformed_not_retried C04_gs3_exampleConfigX C04_gs3_exampleState C04_gs3_exampleX_wf port 7 _
    (List.Perm.refl _) [] (by decide) (by decide) .data [] (by decide) [0xFF, 0xFF] (by decide) [] []).1

/-! ### a reply that stops half way: the server's reply travels as two data packets -/

/-- one packet of a reply of several is an incomplete selection of its packets -/
theorem partOf_one (d : Bytes) (pool : List Bytes) (hd : d ∈ pool) (h : 2 ≤ pool.length) : partOf [d] pool = true := by
  have hne : (pool.erase d).isEmpty = false :=
    List.isEmpty_eq_false_iff.mpr (List.ne_nil_of_length_pos (List.length_erase_of_mem hd ▸ Nat.sub_pos_of_lt h))
  simp only [partOf, selects, List.contains_iff_mem.mpr hd, hne, List.isEmpty_cons, Bool.false_or, Bool.not_false,
    Bool.and_self]

theorem gotAt_data (pool got : List Bytes) : gotAt pool .data false got = partOf got pool := rfl

theorem partOf_take_one (pool : List Bytes) (h : 2 ≤ pool.length) : partOf (pool.take 1) pool = true := by
  match pool, h with
  | a :: b :: r, h => exact partOf_one a _ List.mem_cons_self h

theorem partOf_drop_one (pool : List Bytes) (h : pool.length = 2) : partOf (pool.drop 1) pool = true := by
  match pool, h with
  | [a, b], _ => exact partOf_one b _ (List.mem_cons_of_mem a List.mem_cons_self) (Nat.le_refl 2)

/-- the second of the two data packets -/
def C10_gs3_demoGot : List Bytes := (dataPacketsX C04_gs3_exampleConfigX C04_gs3_exampleState).drop 1

-- (a) the first attempt receives the handshake reply and the SECOND data packet, then nothing; the second attempt is
-- answered: 7 deliveries, the result is the state, 2 attempts; (c) retries = 7, after the handshake reply and the second
-- data packet the datagram FF FF arrives: PacketBad at once, one attempt
example (port : Nat) (restQ : List Delivery) :
    (dataPacketsX C04_gs3_exampleConfigX C04_gs3_exampleState).length = 2
    ∧ (faultyScriptX C04_gs3_exampleConfigX ⟨[⟨.data, false, C10_gs3_demoGot⟩], .valid⟩
      (dataPacketsX C04_gs3_exampleConfigX C04_gs3_exampleState)).length = 6
    ∧ (Gs3.query port 2 (Net.init [.opened (faultyScriptX C04_gs3_exampleConfigX
          ⟨[⟨.data, false, C10_gs3_demoGot⟩], .valid⟩ (dataPacketsX C04_gs3_exampleConfigX C04_gs3_exampleState) ++ restQ)]
        (faultyFaults ⟨[⟨.data, false, C10_gs3_demoGot⟩], .valid⟩ ++ []))).1 = .ok (expected C04_gs3_exampleState)
    ∧ attemptsOf (Gd.sentOf (Gs3.query port 2 (Net.init [.opened (faultyScriptX C04_gs3_exampleConfigX
          ⟨[⟨.data, false, C10_gs3_demoGot⟩], .valid⟩ (dataPacketsX C04_gs3_exampleConfigX C04_gs3_exampleState) ++ restQ)]
        (faultyFaults ⟨[⟨.data, false, C10_gs3_demoGot⟩], .valid⟩ ++ []))).2.log) = 2
    ∧ (Gs3.query port 7 (Net.init [.opened (faultyScriptX C04_gs3_exampleConfigX
          ⟨[], .malformed .data C10_gs3_demoGot [0xFF, 0xFF]⟩
          (dataPacketsX C04_gs3_exampleConfigX C04_gs3_exampleState) ++ restQ)]
        (faultyFaults ⟨[], .malformed .data C10_gs3_demoGot [0xFF, 0xFF]⟩ ++ []))).1 = .err .packetBad := by
  have hlen : (dataPacketsX C04_gs3_exampleConfigX C04_gs3_exampleState).length = 2 := by decide
  have hgot : gotAt (dataPacketsX C04_gs3_exampleConfigX C04_gs3_exampleState) .data false C10_gs3_demoGot = true :=
    (gotAt_data _ _).trans (partOf_drop_one _ hlen)
  have h := C10_gs3_query_recovers C04_gs3_exampleConfigX C04_gs3_exampleState C04_gs3_exampleX_wf port 2 _
    (List.Perm.refl _) [⟨.data, false, C10_gs3_demoGot⟩] (by decide)
    (fun a ha => by rw [List.mem_singleton.mp ha]; exact hgot) restQ []
  have hm := C10_gs3_query_malformed_not_retried C04_gs3_exampleConfigX C04_gs3_exampleState C04_gs3_exampleX_wf port 7 _
    (List.Perm.refl _) [] (by decide) (by decide) .data C10_gs3_demoGot hgot [0xFF, 0xFF] (by decide) restQ []
  exact ⟨hlen, by decide, h.1, h.2.2, hm.1⟩

/-! ### replies whose packets may end inside value lists (`Spec.ConfigC` / `Spec.wfC`, see `Props/C04_gs3.lean`)

The same statements for the domain of `C04_gs3_query_cut`: any allowed extra sections, any packets that end inside the
value list of their last section.  Plans, flags and the prescribed outcome do not mention the layout; scripts and sends
take only the challenge from the configuration (`cfg.closed`), the data packets are `dataPacketsC`.  Replies that close
every list are the case `cfg.toC` (`C10_gs3_faults_cut_conservative`). -/

theorem C10_gs3_query_faulty_cut (cfg : ConfigC) (st : State) (h : wfC cfg st = true) (port retries : Nat)
    (arrival : List Bytes) (harr : arrival.Perm (dataPacketsC cfg st)) (plan : Plan)
    (hplan : wfPlan retries (dataPacketsC cfg st) plan = true) (restQ : List Delivery) (restF : List Bool) :
    (Gs3.query port retries
        (Net.init [.opened (faultyScriptX cfg.closed plan arrival ++ restQ)] (faultyFaults plan ++ restF))).1
      = faultyExpected st plan
    ∧ Gd.sentOf (Gs3.query port retries
        (Net.init [.opened (faultyScriptX cfg.closed plan arrival ++ restQ)] (faultyFaults plan ++ restF))).2.log
      = faultySendsX cfg.closed plan := by
  obtain ⟨hcount, hpay, hsize, hlo, hhi⟩ := wfC_wire cfg st h
  rw [query_eq, ← faultyExpected_of (buildResponseC_spec cfg st h) plan]
  exact exchange_faulty_wire cfg.challenge hlo hhi cfg.unknown (payloadsC cfg st) (payloadsC_ne_nil cfg st) hcount hpay
    hsize port retries buildResponse arrival harr plan hplan restQ restF

theorem C10_gs3_query_vars_faulty_cut (cfg : ConfigC) (st : State) (h : wfC cfg st = true) (port retries : Nat)
    (arrival : List Bytes) (harr : arrival.Perm (dataPacketsC cfg st)) (plan : Plan)
    (hplan : wfPlan retries (dataPacketsC cfg st) plan = true) (restQ : List Delivery) (restF : List Bool) :
    (Gs3.queryVars port retries
        (Net.init [.opened (faultyScriptX cfg.closed plan arrival ++ restQ)] (faultyFaults plan ++ restF))).1
      = (faultyPacketsC cfg st plan >>= buildVars)
    ∧ Gd.sentOf (Gs3.queryVars port retries
        (Net.init [.opened (faultyScriptX cfg.closed plan arrival ++ restQ)] (faultyFaults plan ++ restF))).2.log
      = faultySendsX cfg.closed plan := by
  obtain ⟨hcount, hpay, hsize, hlo, hhi⟩ := wfC_wire cfg st h
  rw [queryVars_eq]
  exact exchange_faulty_wire cfg.challenge hlo hhi cfg.unknown (payloadsC cfg st) (payloadsC_ne_nil cfg st) hcount hpay
    hsize port retries buildVars arrival harr plan hplan restQ restF

/-- (a) RECOVERY on such a reply -/
theorem C10_gs3_query_recovers_cut (cfg : ConfigC) (st : State) (h : wfC cfg st = true) (port retries : Nat)
    (arrival : List Bytes) (harr : arrival.Perm (dataPacketsC cfg st)) (fails : List Attempt)
    (hk : fails.length ≤ retries) (hw : ∀ a ∈ fails, a.wf (dataPacketsC cfg st) = true) (restQ : List Delivery)
    (restF : List Bool) :
    let plan : Plan := ⟨fails, .valid⟩
    let out := Gs3.query port retries
        (Net.init [.opened (faultyScriptX cfg.closed plan arrival ++ restQ)] (faultyFaults plan ++ restF))
    out.1 = .ok (expected st)
    ∧ Gd.sentOf out.2.log = fails.flatMap (Attempt.sendsX cfg.closed) ++ [(handshakeRequest, false), (dataRequest cfg.challenge, false)]
    ∧ attemptsOf (Gd.sentOf out.2.log) = fails.length + 1 := by
  intro plan out
  obtain ⟨h1, h2⟩ := C10_gs3_query_faulty_cut cfg st h port retries arrival harr plan (wfPlan_valid hw hk) restQ restF
  exact ⟨h1, h2, h2 ▸ attemptsOf_planX cfg.closed plan⟩

/-- (b) EXHAUSTION on such a reply -/
theorem C10_gs3_query_exhausted_cut (cfg : ConfigC) (st : State) (h : wfC cfg st = true) (port retries : Nat)
    (arrival : List Bytes) (harr : arrival.Perm (dataPacketsC cfg st)) (fails : List Attempt)
    (hk : fails.length = retries + 1) (hw : ∀ a ∈ fails, a.wf (dataPacketsC cfg st) = true) (restQ : List Delivery)
    (restF : List Bool) :
    let plan : Plan := ⟨fails, .gaveUp⟩
    let out := Gs3.query port retries
        (Net.init [.opened (faultyScriptX cfg.closed plan arrival ++ restQ)] (faultyFaults plan ++ restF))
    out.1 = .err (lastError Attempt.error fails)
    ∧ (out.1 = .err .packetReceive ∨ out.1 = .err .packetSend)
    ∧ attemptsOf (Gd.sentOf out.2.log) = retries + 1 := by
  intro plan out
  obtain ⟨h1, h2⟩ := C10_gs3_query_faulty_cut cfg st h port retries arrival harr plan (wfPlan_gaveUp hw hk) restQ restF
  exact ⟨h1, (lastError_class fails).imp (fun e => h1.trans (congrArg Res.err e)) fun e => h1.trans (congrArg Res.err e),
    hk ▸ h2 ▸ attemptsOf_planX cfg.closed plan⟩

/-- (c) A MALFORMED REPLY IS NOT RETRIED on such a reply -/
theorem C10_gs3_query_malformed_not_retried_cut (cfg : ConfigC) (st : State) (h : wfC cfg st = true) (port retries : Nat)
    (arrival : List Bytes) (harr : arrival.Perm (dataPacketsC cfg st)) (fails : List Attempt)
    (hk : fails.length ≤ retries) (hw : ∀ a ∈ fails, a.wf (dataPacketsC cfg st) = true) (stage : Stage)
    (got : List Bytes) (hgot : gotAt (dataPacketsC cfg st) stage false got = true) (m : Bytes)
    (hm : malformedAt stage m = true) (restQ : List Delivery) (restF : List Bool) :
    let plan : Plan := ⟨fails, .malformed stage got m⟩
    let out := Gs3.query port retries
        (Net.init [.opened (faultyScriptX cfg.closed plan arrival ++ restQ)] (faultyFaults plan ++ restF))
    out.1 = .err (malformedError m)
    ∧ (malformedError m).isTimeout = false
    ∧ attemptsOf (Gd.sentOf out.2.log) = fails.length + 1 := by
  intro plan out
  obtain ⟨h1, h2⟩ := C10_gs3_query_faulty_cut cfg st h port retries arrival harr plan
    (wfPlan_malformed hw hk hgot hm) restQ restF
  exact ⟨h1, malformedError_not_timeout m, h2 ▸ attemptsOf_planX cfg.closed plan⟩

/-- REPLIES THAT CLOSE EVERY VALUE LIST are the case `cfg.toC`: same domain, same data packets, same configuration for
scripts and sends, same prescribed packets — `C10_gs3_query_faulty` is an instance of `C10_gs3_query_faulty_cut`. -/
theorem C10_gs3_faults_cut_conservative (cfg : ConfigX) (st : State) (plan : Plan) :
    wfC cfg.toC st = wfX cfg st ∧ dataPacketsC cfg.toC st = dataPacketsX cfg st ∧ cfg.toC.closed = cfg
    ∧ faultyPacketsC cfg.toC st plan = faultyPacketsX cfg st plan := by
  obtain ⟨e1, e2, e3⟩ := faulty_toC cfg st plan
  exact ⟨wfC_toC cfg st, e3, e1, e2⟩

-- non-vacuity: the reply of `Props/C04_gs3.lean` whose ten packets all but the last end inside a value list, retries = 2:
-- the challenge reply lost once, then the reply stops after its first data packet, then it arrives whole: the state, 3 attempts
example (port : Nat) (restQ : List Delivery) :
    (Gs3.query port 2 (Net.init [.opened (faultyScriptX C04_gs3_cutConfig.closed
          ⟨[⟨.handshake, false, []⟩, ⟨.data, false, (dataPacketsC C04_gs3_cutConfig C04_gs3_cutState).take 1⟩], .valid⟩
          (dataPacketsC C04_gs3_cutConfig C04_gs3_cutState) ++ restQ)]
        (faultyFaults ⟨[⟨.handshake, false, []⟩, ⟨.data, false, (dataPacketsC C04_gs3_cutConfig C04_gs3_cutState).take 1⟩], .valid⟩ ++ []))).1
      = .ok (expected C04_gs3_cutState) :=
  (C10_gs3_query_recovers_cut C04_gs3_cutConfig C04_gs3_cutState C04_gs3_cut_example_wf.1 port 2 _
    (List.Perm.refl _) [⟨.handshake, false, []⟩, ⟨.data, false, (dataPacketsC C04_gs3_cutConfig C04_gs3_cutState).take 1⟩]
    (by decide)
    (fun a ha => by
      rcases List.mem_cons.mp ha with rfl | ha
      · rfl
      · rw [List.mem_singleton.mp ha]
        exact (gotAt_data _ _).trans (partOf_take_one _ (by decide)))
    restQ []).1
