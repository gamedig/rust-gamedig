import GdVerif.Lemmas.Ffow
/-
  C10 — retries: Frontlines: Fuel of War.  The retried unit is the `LSQ` request with its challenge rounds, on the
  one socket; the combinator theorems of `Props/C10.lean` are generic in the unit and apply to it verbatim.
-/
open Gd

/-- the request goes through `retry_on_timeout` with the configured retry count -/
theorem C10_ffow_unit (ext : Valve.Ext) (s : Sock) (retries : Nat) :
    Ffow.queryBody ext s retries
      = (retryOnTimeout retries (Valve.requestImpl ext s (.goldSrc true) 0 Ffow.KIND Ffow.lsq) >>= fun data =>
          parse Ffow.parseResponse data) := rfl

-- non-vacuity: one silent attempt, then an answer, r = 1: two `LSQ` requests on the wire
example :
    let st : Ffow.Spec.State := ⟨2, [70], [109], [], [99], [100], [49], 5476, 3, 32, .dedicated, .linux, false, true, 60, 1, 5, 65535⟩
    let r := Ffow.query ⟨fun _ => none, fun _ => 0⟩ 5478 1 (Net.init [.opened [.silence, .data (Ffow.Spec.replyPacket false st)]] [])
    r.1 = .ok (Ffow.Spec.expected st) ∧ countSends r.2.log = 2 := by
  decide +kernel

