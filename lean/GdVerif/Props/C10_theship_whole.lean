import GdVerif.Lemmas.ValveFaults
import GdVerif.Lemmas.TheShip
import GdVerif.Props.C07_theship
/-
  C10 on WHOLE The Ship queries with faults injected.

  `theship::query` is `valve::query` with engine app 2400 and the DEFAULT gathering settings (players and rules are
  only *tried*), followed by the conversion, which *requires* both sections.  The theorems of
  `Props/C10_valve_whole.lean` therefore carry over through the conversion: same plans, same scripts
  (`Spec/ValveFaults.lean`, on `TheShip.Spec.shipConfig cfg`), any number of challenge rounds, split replies in any
  arrival order — and failed attempts that still receive some of the fragments of a split reply before the silence.

  What this makes explicit (see `C10_theship_section_exhausted`): when all `retries + 1` attempts of the players or of
  the rules unit time out, the Valve query — per C11 — returns a response with that section absent, and the conversion
  then fails with `PacketBad`: the caller of the game's own query sees `PacketBad`, not the receive/send-class error of
  the unit.  The info unit (always required) surfaces its own error.
-/
open Gd Gd.Valve Gd.Valve.Spec Gd.Faults

/-- THE GENERAL STATEMENT for The Ship: on the script of any plan in C10's domain (followed by anything), the game's query
returns the conversion of the outcome prescribed for the Valve query, having sent exactly the plan's datagrams. -/
theorem C10_theship_query_faulty (ext : Ext) (port retries : Nat) (cfg : Config) (st : State)
    (hwf : TheShip.Spec.wf cfg st = true) (hx : wfExchanges (TheShip.Spec.shipConfig cfg) = true)
    (hdec : DecodersAgree ext (TheShip.Spec.shipConfig cfg) st) (ai ap ar : List Bytes)
    (hai : ai.Perm (infoDatagrams (TheShip.Spec.shipConfig cfg) st))
    (hap : ap.Perm (playersDatagrams (TheShip.Spec.shipConfig cfg) st))
    (har : ar.Perm (rulesDatagrams (TheShip.Spec.shipConfig cfg) st))
    (hfit : fits (scriptAs (TheShip.Spec.shipConfig cfg) ai ap ar) = true)
    (plan : Plan) (hplan : wfPlanReached retries (TheShip.Spec.shipConfig cfg) st plan = true)
    (restQ : List Delivery) (restF : List Bool) :
    (TheShip.query ext port retries (Net.init
        [.opened (faultyScript (TheShip.Spec.shipConfig cfg) plan ai ap ar ++ restQ)]
        (faultyFaults (TheShip.Spec.shipConfig cfg) plan ++ restF))).1
      = (faultyExpected (TheShip.Spec.shipConfig cfg) st plan >>= TheShip.convert)
    ∧ sentOf (TheShip.query ext port retries (Net.init
        [.opened (faultyScript (TheShip.Spec.shipConfig cfg) plan ai ap ar ++ restQ)]
        (faultyFaults (TheShip.Spec.shipConfig cfg) plan ++ restF))).2.log
      = faultySends (TheShip.Spec.shipConfig cfg) st plan := by
  obtain ⟨h1, h2⟩ := query_faulty ext port retries (TheShip.Spec.shipConfig cfg) st hwf hx hdec
    ai ap ar hai hap har hfit plan hplan restQ restF
  unfold TheShip.query
  rw [Q.bind_lift]
  exact ⟨by rw [← h1]; rfl, h2⟩

/-- (a) RECOVERY: at most `retries` timeout-class failures before the valid exchange of each of the three units — the
game's query returns exactly `TheShip.Spec.expected st`, the fault-free result (`C07_theship`). -/
theorem C10_theship_query_recovers (ext : Ext) (port retries : Nat) (cfg : Config) (st : State)
    (hwf : TheShip.Spec.wf cfg st = true) (hx : wfExchanges (TheShip.Spec.shipConfig cfg) = true)
    (hdec : DecodersAgree ext (TheShip.Spec.shipConfig cfg) st) (ai ap ar : List Bytes)
    (hai : ai.Perm (infoDatagrams (TheShip.Spec.shipConfig cfg) st))
    (hap : ap.Perm (playersDatagrams (TheShip.Spec.shipConfig cfg) st))
    (har : ar.Perm (rulesDatagrams (TheShip.Spec.shipConfig cfg) st))
    (hfit : fits (scriptAs (TheShip.Spec.shipConfig cfg) ai ap ar) = true)
    (fi fp fr : List Attempt) (hki : fi.length ≤ retries) (hkp : fp.length ≤ retries) (hkr : fr.length ≤ retries)
    (hwi : ∀ a ∈ fi, a.wf (infoDatagrams (TheShip.Spec.shipConfig cfg) st) = true)
    (hwp : ∀ a ∈ fp, a.wf (playersDatagrams (TheShip.Spec.shipConfig cfg) st) = true)
    (hwr : ∀ a ∈ fr, a.wf (rulesDatagrams (TheShip.Spec.shipConfig cfg) st) = true)
    (restQ : List Delivery) (restF : List Bool) :
    (TheShip.query ext port retries (Net.init
        [.opened (faultyScript (TheShip.Spec.shipConfig cfg) ⟨⟨fi, .valid⟩, ⟨fp, .valid⟩, ⟨fr, .valid⟩⟩ ai ap ar ++ restQ)]
        (faultyFaults (TheShip.Spec.shipConfig cfg) ⟨⟨fi, .valid⟩, ⟨fp, .valid⟩, ⟨fr, .valid⟩⟩ ++ restF))).1
      = TheShip.Spec.expected st := by
  have hplan : wfPlan retries (TheShip.Spec.shipConfig cfg) st ⟨⟨fi, .valid⟩, ⟨fp, .valid⟩, ⟨fr, .valid⟩⟩ = true := by
    simp only [wfPlan, wfUnit, Bool.and_eq_true, Bool.or_eq_true, decide_eq_true_eq, List.all_eq_true]
    exact ⟨⟨⟨hwi, hki⟩, Or.inr ⟨hwp, hkp⟩⟩, Or.inr ⟨hwr, hkr⟩⟩
  rw [(C10_theship_query_faulty ext port retries cfg st hwf hx hdec ai ap ar hai hap har hfit _
    (wfPlanReached_of_wfPlan _ _ st _ hplan) restQ restF).1,
    faultyExpected_recovers _ st _ (fun u _ => by cases u <;> rfl)]
  exact TheShip.convert_expected cfg st hwf

/-- (b) EXHAUSTION of the info unit (`retries + 1` timeout-class failures): the query fails with the last failure's
error, `PacketReceive` or `PacketSend`; nothing of the other units is sent. -/
theorem C10_theship_info_exhausted (ext : Ext) (port retries : Nat) (cfg : Config) (st : State)
    (hwf : TheShip.Spec.wf cfg st = true) (hx : wfExchanges (TheShip.Spec.shipConfig cfg) = true)
    (hdec : DecodersAgree ext (TheShip.Spec.shipConfig cfg) st) (ai ap ar : List Bytes)
    (hai : ai.Perm (infoDatagrams (TheShip.Spec.shipConfig cfg) st))
    (hap : ap.Perm (playersDatagrams (TheShip.Spec.shipConfig cfg) st))
    (har : ar.Perm (rulesDatagrams (TheShip.Spec.shipConfig cfg) st))
    (hfit : fits (scriptAs (TheShip.Spec.shipConfig cfg) ai ap ar) = true)
    (fi : List Attempt) (hki : fi.length = retries + 1)
    (hwi : ∀ a ∈ fi, a.wf (infoDatagrams (TheShip.Spec.shipConfig cfg) st) = true) (pp pr : UnitPlan)
    (restQ : List Delivery) (restF : List Bool) :
    let plan : Plan := ⟨⟨fi, .gaveUp⟩, pp, pr⟩
    let out := TheShip.query ext port retries (Net.init
        [.opened (faultyScript (TheShip.Spec.shipConfig cfg) plan ai ap ar ++ restQ)]
        (faultyFaults (TheShip.Spec.shipConfig cfg) plan ++ restF))
    out.1 = .err (lastError Attempt.error fi)
    ∧ sentOf out.2.log = fi.flatMap (Attempt.sends .info cfg.info) := by
  intro plan out
  have hu : (plan.unit .info).error = some (lastError Attempt.error fi) := rfl
  have hplan := wfPlanReached_stops retries (TheShip.Spec.shipConfig cfg) st plan .info _
    (fun v hv _ => by
      have : v = .info := by simpa [earlier] using hv
      subst this
      simp only [plan, Plan.unit, wfUnit, poolOf, Bool.and_eq_true, List.all_eq_true, beq_iff_eq]
      exact ⟨hwi, hki⟩) hu rfl
  obtain ⟨h1, h2⟩ := C10_theship_query_faulty ext port retries cfg st hwf hx hdec ai ap ar hai hap har hfit plan hplan
    restQ restF
  rw [faultyExpected_stops _ st plan .info _ (fun v hv => by simp [earlier] at hv) hu rfl (fun h => absurd rfl h)] at h1
  rw [faultySends_reached,
    reached_stops _ st plan .info _ (fun v hv => by simp [earlier] at hv) hu rfl (fun h => absurd rfl h)] at h2
  refine ⟨h1, ?_⟩
  show sentOf out.2.log = _
  rw [show sentOf out.2.log = _ from h2]
  simp [sendsOf, earlier, toggleOf, plan, Plan.unit, exchangeOf, UnitPlan.sends, Ending.sends, TheShip.Spec.shipConfig]

/-- (b') EXHAUSTION / malformed reply of the PLAYERS or RULES unit.  These sections are only tried by the game's query
(default gathering settings) but required by its conversion: when unit `u` does not end with the server's reply — all
its `retries + 1` attempts time out, or an attempt receives a malformed datagram — while the other units are answered
and the server is The Ship (app 2400), the game's query fails with `PacketBad`, NOT with the unit's receive/send-class
error. -/
theorem C10_theship_section_exhausted (ext : Ext) (port retries : Nat) (cfg : Config) (st : State)
    (hwf : TheShip.Spec.wf cfg st = true) (hx : wfExchanges (TheShip.Spec.shipConfig cfg) = true)
    (hdec : DecodersAgree ext (TheShip.Spec.shipConfig cfg) st) (ai ap ar : List Bytes)
    (hai : ai.Perm (infoDatagrams (TheShip.Spec.shipConfig cfg) st))
    (hap : ap.Perm (playersDatagrams (TheShip.Spec.shipConfig cfg) st))
    (har : ar.Perm (rulesDatagrams (TheShip.Spec.shipConfig cfg) st))
    (hfit : fits (scriptAs (TheShip.Spec.shipConfig cfg) ai ap ar) = true)
    (plan : Plan) (hplan : wfPlan retries (TheShip.Spec.shipConfig cfg) st plan = true) (u : Request) (hu0 : u ≠ .info)
    (hothers : ∀ v, v ≠ u → (plan.unit v).ending = .valid) (hu : (plan.unit u).ending ≠ .valid)
    (happ : st.info.appid = 2400) (restQ : List Delivery) (restF : List Bool) :
    (TheShip.query ext port retries (Net.init
        [.opened (faultyScript (TheShip.Spec.shipConfig cfg) plan ai ap ar ++ restQ)]
        (faultyFaults (TheShip.Spec.shipConfig cfg) plan ++ restF))).1 = .err .packetBad := by
  obtain ⟨k, hk⟩ := error_of_not_valid hu
  have htry : toggleOf (TheShip.Spec.shipConfig cfg) u = .try_ := by
    cases u with
    | info => exact absurd rfl hu0
    | players => rfl
    | rules => rfl
  rw [(C10_theship_query_faulty ext port retries cfg st hwf hx hdec ai ap ar hai hap har hfit plan
    (wfPlanReached_of_wfPlan _ _ st _ hplan) restQ restF).1,
    faultyExpected_try _ st plan u k (fun v hv _ => error_of_valid (hothers v hv)) hk htry]
  have hexp : ∃ r, expected (TheShip.Spec.shipConfig cfg) st = .ok r := by
    unfold expected
    simp [TheShip.Spec.shipConfig, TheShip.Spec.shipEngine, appIdOk, Engine.new, Gather.default, happ]
  obtain ⟨r, hr⟩ := hexp
  rw [hr]
  simp only [Res.bind_ok]
  cases u with
  | info => exact absurd rfl hu0
  | players => exact (C07_theship_required (withoutSection r .players)).2.1 rfl
  | rules => exact (C07_theship_required (withoutSection r .rules)).2.2 rfl

/-! ### non-vacuity: a The Ship server whose players reply sits behind one challenge round, retries = 1 -/

def C10_theship_demoState : State :=
  ⟨⟨17, [83], [109], [115, 104, 105, 112], [84], 2400, 1, 8, 0, .dedicated, .linux, false, true,
    some ⟨1, 2, 3⟩, [49], some ⟨some 27015, none, none, none, some [107], none⟩, false, none⟩,
    [⟨[80], -3, 0x41200000, some 2, some 500⟩], [([97], [98])]⟩

def C10_theship_demoCfg : Config :=
  ⟨.source none, ⟨.skip, .skip, false⟩, false, [], ⟨[], .single⟩, ⟨[[1, 2, 3, 4]], .single⟩, ⟨[], .sourceSplit 5 [4]⟩⟩

/-- the first of the two fragments of the rules reply (`sourceSplit 5 [4]`) -/
def C10_theship_demoGot : List Bytes :=
  (rulesDatagrams (TheShip.Spec.shipConfig C10_theship_demoCfg) C10_theship_demoState).take 1

/-- both attempts of the players unit are lost: once at the initial request, once after the challenge round -/
def C10_theship_demoPlan : Plan := ⟨⟨[], .valid⟩, ⟨[⟨0, false, []⟩, ⟨1, false, []⟩], .gaveUp⟩, ⟨[], .valid⟩⟩

-- the hypotheses of `C10_theship_section_exhausted` hold for it: the game's query answers PacketBad; with at most one
-- failure per unit — the failed attempt of the rules unit having received the first of the two fragments of the reply
-- before the silence — it answers the state
example (ext : Ext) (port : Nat) :
    (TheShip.query ext port 1 (Net.init
        [.opened (faultyScript (TheShip.Spec.shipConfig C10_theship_demoCfg) C10_theship_demoPlan
          (infoDatagrams (TheShip.Spec.shipConfig C10_theship_demoCfg) C10_theship_demoState)
          (playersDatagrams (TheShip.Spec.shipConfig C10_theship_demoCfg) C10_theship_demoState)
          (rulesDatagrams (TheShip.Spec.shipConfig C10_theship_demoCfg) C10_theship_demoState) ++ [])]
        (faultyFaults (TheShip.Spec.shipConfig C10_theship_demoCfg) C10_theship_demoPlan ++ []))).1 = .err .packetBad
    ∧ (TheShip.query ext port 1 (Net.init
        [.opened (faultyScript (TheShip.Spec.shipConfig C10_theship_demoCfg)
          ⟨⟨[⟨0, true, []⟩], .valid⟩, ⟨[⟨1, false, []⟩], .valid⟩, ⟨[⟨0, false, C10_theship_demoGot⟩], .valid⟩⟩
          (infoDatagrams (TheShip.Spec.shipConfig C10_theship_demoCfg) C10_theship_demoState)
          (playersDatagrams (TheShip.Spec.shipConfig C10_theship_demoCfg) C10_theship_demoState)
          (rulesDatagrams (TheShip.Spec.shipConfig C10_theship_demoCfg) C10_theship_demoState) ++ [])]
        (faultyFaults (TheShip.Spec.shipConfig C10_theship_demoCfg)
          ⟨⟨[⟨0, true, []⟩], .valid⟩, ⟨[⟨1, false, []⟩], .valid⟩, ⟨[⟨0, false, C10_theship_demoGot⟩], .valid⟩⟩ ++ []))).1
      = TheShip.Spec.expected C10_theship_demoState := by
  constructor
  · exact C10_theship_section_exhausted ext port 1 C10_theship_demoCfg C10_theship_demoState (by decide +kernel) (by decide +kernel)
      (decodersAgree_of_uncompressed ext _ _ (by decide +kernel)) _ _ _ (List.Perm.refl _) (List.Perm.refl _) (List.Perm.refl _)
      (by decide +kernel) C10_theship_demoPlan (by decide +kernel) .players (by decide +kernel)
      (fun v hv => by cases v <;> first | rfl | exact absurd rfl hv) (by decide +kernel) rfl [] []
  · exact C10_theship_query_recovers ext port 1 C10_theship_demoCfg C10_theship_demoState (by decide +kernel) (by decide +kernel)
      (decodersAgree_of_uncompressed ext _ _ (by decide +kernel)) _ _ _ (List.Perm.refl _) (List.Perm.refl _) (List.Perm.refl _)
      (by decide +kernel) [⟨0, true, []⟩] [⟨1, false, []⟩] [⟨0, false, C10_theship_demoGot⟩] (by decide +kernel)
      (by decide +kernel) (by decide +kernel)
      (by decide +kernel) (by decide +kernel) (by decide +kernel) [] []
