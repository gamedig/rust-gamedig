import GdVerif.Lemmas.FfowFaults
import GdVerif.Props.C07_ffow
/-
  C10 on WHOLE Frontlines: Fuel of War queries with faults injected.

  The retried unit is the `LSQ` request through Valve's `get_request_data_impl` (`Props/C10_ffow.lean`).  Against the
  SPEC's server (`Spec/Ffow.lean`: one datagram, no challenge) a plan is a one-exchange plan (`Faults.Plan1`): the
  attempts that end in a timeout-class failure (`false`: the reply is lost, `true`: the request cannot be sent), then the
  datagram that answers, if any — exactly the scripts of `props/families/ffow.py: c10_build`.  What follows the plan in
  the script and in the fault vector is arbitrary.
-/
open Gd Gd.Valve Gd.Ffow Gd.Ffow.Spec Gd.Faults

/-- (a) RECOVERY: any number ≤ `retries` of lost replies / failed sends before the server's reply — the query returns
exactly `Spec.expected st` (`C07_ffow`: the result with no faults), after `fails.length + 1` requests. -/
theorem C10_ffow_query_recovers (ext : Ext) (upper : Bool) (st : State) (h : wf st = true)
    (hlen : (replyPacket upper st).length ≤ 6144) (port retries : Nat) (fails : List Bool)
    (hk : fails.length ≤ retries) (restQ : List Delivery) (restF : List Bool) :
    let p : Plan1 := ⟨fails, some (replyPacket upper st)⟩
    let out := Ffow.query ext port retries (Net.init [.opened (p.deliveries ++ restQ)] (p.faults ++ restF))
    out.1 = .ok (expected st)
    ∧ sentOf out.2.log = fails.map (fun f => (lsqRequest, f)) ++ [(lsqRequest, false)]
    ∧ (sentOf out.2.log).length = fails.length + 1 := by
  intro p out
  obtain ⟨h1, h2⟩ := query_plan ext port retries p (by simp [p, Plan1.wf, hk, PACKET_SIZE, hlen])
    (.ok ⟨0xFFFFFFFF, 0x49, encode upper st⟩) (fun pk hpk => by cases hpk; show (0x49 : Nat) ≠ 0x41; decide) (fun k hk => by cases hk) restQ
    (fun d hd fs sn => by
      have : d = replyPacket upper st := by simpa [p] using hd.symm
      subst this
      exact steps_receive_single ext _ rfl (.goldSrc true) 0 0x49 (by decide) (encode upper st) hlen restQ fs sn)
    restF
  have h1' : out.1 = .ok (expected st) := by
    rw [show out.1 = _ from h1]
    simp only [Plan1.outcome, p, Res.bind_ok]
    exact C07_ffow_decode upper st h
  have h2' : sentOf out.2.log = fails.map (fun f => (lsqRequest, f)) ++ [(lsqRequest, false)] := by
    rw [show sentOf out.2.log = _ from h2]; simp [p, Plan1.sends]
  exact ⟨h1', h2', by rw [h2']; simp⟩

/-- (b) EXHAUSTION: all `retries + 1` attempts end in a timeout-class failure — the query fails with the last attempt's
error (`PacketReceive`, or `PacketSend` for a failed send) after exactly `retries + 1` requests. -/
theorem C10_ffow_query_exhausted (ext : Ext) (port retries : Nat) (fails : List Bool)
    (hk : fails.length = retries + 1) (restQ : List Delivery) (restF : List Bool) :
    let p : Plan1 := ⟨fails, none⟩
    let out := Ffow.query ext port retries (Net.init [.opened (p.deliveries ++ restQ)] (p.faults ++ restF))
    out.1 = .err (lastError attemptError fails)
    ∧ (out.1 = .err .packetReceive ∨ out.1 = .err .packetSend)
    ∧ sentOf out.2.log = fails.map (fun f => (lsqRequest, f))
    ∧ (sentOf out.2.log).length = retries + 1 := by
  intro p out
  obtain ⟨h1, h2⟩ := query_plan ext port retries p (by simp [p, Plan1.wf, hk])
    (.err .packetBad) (fun pk hpk => by cases hpk) (fun k hk => by cases hk; rfl) restQ
    (fun d hd => by simp [p] at hd) restF
  have h1' : out.1 = .err (lastError attemptError fails) := by
    rw [show out.1 = _ from h1]; simp [Plan1.outcome, p]
  have h2' : sentOf out.2.log = fails.map (fun f => (lsqRequest, f)) := by
    rw [show sentOf out.2.log = _ from h2]; simp [p, Plan1.sends]
  refine ⟨h1', ?_, h2', by rw [h2', List.length_map, hk]⟩
  rw [h1']
  rcases List.eq_nil_or_concat fails with rfl | ⟨init, f, rfl⟩
  · simp at hk
  · rw [List.concat_eq_append, lastError_attempt]
    cases f <;> simp

/-- (c) A MALFORMED REPLY IS NOT RETRIED: after any number ≤ `retries` of timed-out attempts the client receives ANY
datagram shorter than the 5 bytes of a packet header — the query fails at once with `PacketUnderflow`, whatever
`retries` is, after `fails.length + 1` requests. -/
theorem C10_ffow_query_malformed_not_retried (ext : Ext) (port retries : Nat) (fails : List Bool)
    (hk : fails.length ≤ retries) (m : Bytes) (hm : m.length < 5) (restQ : List Delivery) (restF : List Bool) :
    let p : Plan1 := ⟨fails, some m⟩
    let out := Ffow.query ext port retries (Net.init [.opened (p.deliveries ++ restQ)] (p.faults ++ restF))
    out.1 = .err .packetUnderflow
    ∧ sentOf out.2.log = fails.map (fun f => (lsqRequest, f)) ++ [(lsqRequest, false)]
    ∧ (sentOf out.2.log).length = fails.length + 1 := by
  intro p out
  obtain ⟨h1, h2⟩ := query_plan ext port retries p (by
      have : m.length ≤ Valve.PACKET_SIZE := by unfold Valve.PACKET_SIZE; omega
      simp [p, Plan1.wf, hk, this])
    (.err .packetUnderflow) (fun pk hpk => by cases hpk) (fun k hk => by cases hk; rfl) restQ
    (fun d hd fs sn => by
      have : d = m := by simpa [p] using hd.symm
      subst this
      exact steps_receive_short ext _ rfl (.goldSrc true) 0 d hm restQ fs sn)
    restF
  have h1' : out.1 = .err .packetUnderflow := by
    rw [show out.1 = _ from h1]; simp [Plan1.outcome, p]
  have h2' : sentOf out.2.log = fails.map (fun f => (lsqRequest, f)) ++ [(lsqRequest, false)] := by
    rw [show sentOf out.2.log = _ from h2]; simp [p, Plan1.sends]
  exact ⟨h1', h2', by rw [h2']; simp⟩

/-! ### non-vacuity: the server of `Props/C07_ffow.lean`, retries = 2 -/

def C10_ffow_demoState : State :=
  ⟨2, [70], [109], [], [99], [100], [49], 5476, 3, 32, .dedicated, .windows, true, false, 60, 1, 5, 300⟩

-- a lost reply and a failed send, then the reply: the state after 3 requests; three lost replies: PacketReceive;
-- `FF FF` with retries = 9: PacketUnderflow after one request
example (ext : Ext) (port : Nat) (restQ : List Delivery) :
    (Ffow.query ext port 2 (Net.init
        [.opened ((Plan1.mk [false, true] (some (replyPacket true C10_ffow_demoState))).deliveries ++ restQ)]
        ((Plan1.mk [false, true] (some (replyPacket true C10_ffow_demoState))).faults ++ []))).1
      = .ok (expected C10_ffow_demoState)
    ∧ (Ffow.query ext port 2 (Net.init [.opened ((Plan1.mk [false, false, false] none).deliveries ++ restQ)]
        ((Plan1.mk [false, false, false] none).faults ++ []))).1 = .err .packetReceive
    ∧ (Ffow.query ext port 9 (Net.init [.opened ((Plan1.mk [] (some [0xFF, 0xFF])).deliveries ++ restQ)]
        ((Plan1.mk [] (some [0xFF, 0xFF])).faults ++ []))).1 = .err .packetUnderflow :=
  ⟨(C10_ffow_query_recovers ext true C10_ffow_demoState (by decide) (by decide) port 2 [false, true] (by decide)
      restQ []).1,
   (C10_ffow_query_exhausted ext port 2 [false, false, false] rfl restQ []).1,
   (C10_ffow_query_malformed_not_retried ext port 9 [] (by decide) [0xFF, 0xFF] (by decide) restQ []).1⟩
