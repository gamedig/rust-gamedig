import GdVerif.Lemmas.MasterRounds
/-
  C01 — hostile replies never crash or hang a query: the Valve master-server service
  (`valve_master_server::{query, query_singular}`, the paging loop of `ValveMasterServer::query`).

  The property text on hanging: the query must not "fail to return once the server has gone silent".  A reply script
  is a finite sequence of deliveries followed by silence.  In the MODEL a loop that would not end is fuel exhaustion,
  which is a `crash`; the paging loop's fuel is (queued deliveries + 1).  The theorems below show the fuel is never
  exhausted — every further round needs a datagram that was actually received — and bound the number of rounds by
  the number of datagrams in the script, so after the last datagram the very next receive times out and the query
  returns.  (A server that never goes silent can keep the complete query paging for as long as it keeps sending fresh
  pages; that is outside the property's quantifier and is how the protocol works.)
-/
open Gd Gd.Master

/-- For EVERY reply script (any datagrams, silences, a socket that cannot be opened), every send-fault vector, every
region byte and every filter set, the complete query returns addresses or an error, never a crash. -/
theorem C01_master_query (region : Nat) (fs : Option SearchFilters) (script : List ConnScript) (faults : List Bool) :
    (Master.query region fs (Net.init script faults)).1 ≠ .crash :=
  (query_safe region fs script faults).1

/-- The same for the single-page query. -/
theorem C01_master_query_singular (region : Nat) (fs : Option SearchFilters) (script : List ConnScript)
    (faults : List Bool) : (Master.querySingular region fs (Net.init script faults)).1 ≠ .crash :=
  (querySingular_safe region fs script faults).1

/-- From any transport state whatever (sockets already open, any log), not only the initial one. -/
theorem C01_master_any_state (region : Nat) (fs : Option SearchFilters) (w : Net) :
    (Master.query region fs w).1 ≠ .crash ∧ (Master.querySingular region fs w).1 ≠ .crash :=
  ⟨query_safe_any region fs w, querySingular_safe_any region fs w⟩

/-- The reply parser alone, on any bytes (its `while remaining > 0` loop has fuel `remaining + 1`, never exhausted). -/
theorem C01_master_parser (data : Bytes) : parsePage.run data ≠ .crash := parsePage_ne_crash data

/-- Fuel sufficiency of the paging loop (`ValveMasterServer::query` on a socket the caller keeps): on any open UDP
socket to the master port, in any state, for any seed and any list accumulated so far, every fuel above the number of
deliveries still queued on that socket is enough — each further round consumed one. -/
theorem C01_master_fuel (s : Sock) (hp : s.port = masterPort) (hudp : s.tcp = false) (region : Nat) (fb : Bytes)
    (fuel : Nat) (ips : List Addr) (ip : Bytes) (port : Nat) (w : Net) (hopen : IsOpen s w)
    (hfuel : qlen w s.id < fuel) : (pageLoop s region fb fuel ips ip port w).1 ≠ .crash :=
  (qsafe_pageLoop (fun _ => True) s hp hudp region fb (fun _ => trivial) fuel ips ip port w trivial hopen hfuel).1

/-- "Returns once the server has gone silent": the complete query makes at most one request per datagram the script
holds for its socket, plus one — the request after the last datagram meets silence and ends the query. -/
theorem C01_master_rounds_bounded (region : Nat) (fs : Option SearchFilters) (ds : List Delivery)
    (rest : List ConnScript) (faults : List Bool) :
    nSends (Master.query region fs (Net.init (.opened ds :: rest) faults)).2.log ≤ countData ds + 1 :=
  nSends_query region fs ds rest faults

-- non-vacuity: an endless stream of full pages (each page ends on a fresh address) ends when the script does:
-- three pages, four requests, the fourth times out
example : (Master.query 3 none (Net.init [.opened [
      .data [0xFF, 0xFF, 0xFF, 0xFF, 0x66, 0x0A, 1, 2, 3, 4, 0x69, 0x87],
      .data [0xFF, 0xFF, 0xFF, 0xFF, 0x66, 0x0A, 5, 6, 7, 8, 0x69, 0x87],
      .data [0xFF, 0xFF, 0xFF, 0xFF, 0x66, 0x0A, 9, 9, 9, 9, 0, 80]]] [])).1 = .err .packetReceive := by
  decide +kernel

-- a page that repeats its seed stops the loop (both entries are returned)
example : (Master.query 3 none (Net.init [.opened [
      .data [0xFF, 0xFF, 0xFF, 0xFF, 0x66, 0x0A, 1, 2, 3, 4, 0x69, 0x87],
      .data [0xFF, 0xFF, 0xFF, 0xFF, 0x66, 0x0A, 1, 2, 3, 4, 0x69, 0x87],
      .data [0xFF, 0xFF, 0xFF, 0xFF, 0x66, 0x0A, 9, 9, 9, 9, 0, 80]]] [])).1
    = .ok [((1, 2, 3, 4), 27015), ((1, 2, 3, 4), 27015)] := by
  decide +kernel

-- a truncated entry, a bad header, an empty datagram are errors, not crashes
example : (Master.query 0 none (Net.init [.opened [.data [0xFF, 0xFF, 0xFF, 0xFF, 0x66, 0x0A, 1, 2, 3]]] [])).1
    = .err .packetUnderflow := by decide +kernel
example : (Master.querySingular 0 none (Net.init [.opened [.data [0xFF, 0xFF, 0xFF, 0xFE, 0x66, 0x0A]]] [])).1
    = .err .packetBad := by decide +kernel
example : (Master.querySingular 0 none (Net.init [.opened [.data []]] [])).1 = .err .packetUnderflow := by decide +kernel
