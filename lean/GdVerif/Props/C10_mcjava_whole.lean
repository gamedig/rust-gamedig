import GdVerif.Lemmas.McFaults
import GdVerif.Props.C03
/-
  C10 on WHOLE Minecraft Java queries with faults injected.

  The retried unit is handshake + status request + ping + read + decode on ONE TCP socket (`Props/C10_minecraft.lean`):
  THREE requests per attempt, and every retry sends the handshake again.  Here the property is proved end to end for
  `queryJava` on the scripts of `props/families/mcjava.py: c10_build` (`props/mc_c10.py`): a plan
  (`Spec/FaultsN.lean: PlanN`, three requests per attempt) lists the attempts that end in a timeout-class failure — one
  of the three requests cannot be sent (the earlier ones went out; the check injects the fault at the handshake), or all
  went out and the read TIMES OUT ON THE OPEN STREAM — and then what the peer writes (the status response, or a malformed
  stream), or nothing.  A stream the peer has CLOSED is an empty read: a malformed reply, not retried.  The JSON crate is
  a parameter (`ext`), as in `C03_java`.
-/
open Gd Gd.Mc Gd.Mc.Spec Gd.Faults

/-- THE GENERAL STATEMENT: for every plan in C10's domain (each failed attempt: a failed send at request 0, 1 or 2 after
the earlier ones, or a timed-out read after all three; an answered unit had at most `retries` failures before, a unit
given up exactly `retries + 1`) whose answer, if the decoder rejects it, is rejected with an error that is not a
timeout: the result is the plan's outcome and the requests on the wire are exactly the plan's. -/
theorem C10_mcjava_query_faulty (ext : Ext) (port retries : Nat) (rs : RequestSettings)
    (hh : rs.hostname.length < 2 ^ 31) (p : PlanN) (hp : p.wf retries 3 (fitsRead true none) = true)
    (hcheck : ∀ d e, p.answer = some d → javaDec ext d = .err e → e.isTimeout = false)
    (restQ : List Delivery) (restF : List Bool) :
    (queryJava ext port rs retries (Net.init [.opened (p.deliveries ++ restQ)] (p.faults 3 ++ restF))).1
      = p.outcome (javaDec ext)
    ∧ sentOf (queryJava ext port rs retries (Net.init [.opened (p.deliveries ++ restQ)] (p.faults 3 ++ restF))).2.log
      = p.sends (javaRequests rs port) := by
  rw [queryJava_queryN ext port rs retries hh]
  exact queryN_faulty true port retries (javaRequests rs port) none (javaDec ext) p hp hcheck restQ restF

/-- the status request and the ping are not the handshake: attempts can be counted by handshakes -/
theorem C10_mcjava_handshake_distinct (rs : RequestSettings) (port : Nat) :
    ∀ d ∈ [statusRequest, bareFinalPing], (d == handshake rs.protocolVersion rs.hostname port) = false := by
  intro d hd
  have hlen : 3 ≤ (handshake rs.protocolVersion rs.hostname port).length := by
    have hframe : ∀ body : Bytes, 2 ≤ body.length → 3 ≤ (frame body).length := by
      intro body hb
      have h1 := (asVarintFrom_length 5 body.length (by omega)).1
      show 3 ≤ (asVarintFrom 5 body.length ++ body).length
      rw [List.length_append]
      omega
    apply hframe
    simp only [List.length_append, List.length_cons, List.length_nil]
    omega
  have hd2 : d.length = 2 := by
    rcases List.mem_cons.mp hd with rfl | hd
    · decide
    · rcases List.mem_cons.mp hd with rfl | hd
      · decide
      · cases hd
  simp only [beq_eq_false_iff_ne, ne_eq]
  intro e
  rw [e] at hd2
  omega

/-- handshakes on the wire count the plan's attempts -/
theorem javaHandshakes_of_sends (rs : RequestSettings) (port : Nat) (p : PlanN) (hfails : ∀ a ∈ p.fails, a.wf 3 = true)
    {l : List (Bytes × Bool)} (h : l = p.sends (javaRequests rs port)) :
    l = p.sends (javaRequests rs port) ∧ firstRequests (javaRequests rs port) l = p.attempts :=
  ⟨h, h ▸ firstRequests_plan _ _ (C10_mcjava_handshake_distinct rs port) p hfails⟩

/-- (a) RECOVERY.  `fails` (any number ≤ `retries`) precede the status response: the query returns exactly
`expectedJava ext st` — by `C03_java` the result with no faults —, and `fails.length + 1` handshakes were sent. -/
theorem C10_mcjava_query_recovers (ext : Ext) (st : JavaStatus) (text trailing : Bytes) (j : Json)
    (hparse : ext.parseJson text = some j) (hrep : Represents j st) (hwf : wfJava st text = true)
    (port retries : Nat) (rs : RequestSettings) (hh : rs.hostname.length < 2 ^ 31)
    (fails : List AttemptN) (hfails : ∀ a ∈ fails, a.wf 3 = true) (hk : fails.length ≤ retries)
    (restQ : List Delivery) (restF : List Bool) :
    let p : PlanN := ⟨fails, some (statusResponse text trailing)⟩
    let out := queryJava ext port rs retries (Net.init [.opened (p.deliveries ++ restQ)] (p.faults 3 ++ restF))
    out.1 = .ok (expectedJava ext st)
    ∧ sentOf out.2.log = p.sends (javaRequests rs port)
    ∧ firstRequests (javaRequests rs port) (sentOf out.2.log) = fails.length + 1 := by
  intro p out
  have := queryN_recovers true port retries (javaRequests rs port) none (javaDec ext) (statusResponse text trailing)
    (expectedJava ext st) (javaDec_response ext text trailing j st hparse hrep hwf) (by simp [fitsRead]) fails hfails hk
    restQ restF
  rw [← queryJava_queryN ext port rs retries hh] at this
  exact ⟨this.1, javaHandshakes_of_sends rs port p hfails this.2⟩

/-- (b) EXHAUSTION.  All `retries + 1` attempts end in a timeout-class failure: the last attempt's error after exactly
`retries + 1` handshakes, whatever the script still holds. -/
theorem C10_mcjava_query_exhausted (ext : Ext) (port retries : Nat) (rs : RequestSettings)
    (hh : rs.hostname.length < 2 ^ 31) (fails : List AttemptN) (hfails : ∀ a ∈ fails, a.wf 3 = true)
    (hk : fails.length = retries + 1) (restQ : List Delivery) (restF : List Bool) :
    let p : PlanN := ⟨fails, none⟩
    let out := queryJava ext port rs retries (Net.init [.opened (p.deliveries ++ restQ)] (p.faults 3 ++ restF))
    out.1 = .err (lastError AttemptN.error fails)
    ∧ (out.1 = .err .packetReceive ∨ out.1 = .err .packetSend)
    ∧ sentOf out.2.log = fails.flatMap (AttemptN.sends (javaRequests rs port))
    ∧ firstRequests (javaRequests rs port) (sentOf out.2.log) = retries + 1 := by
  intro p out
  have := queryN_exhausted true port retries (javaRequests rs port) none (javaDec ext) fails hfails hk restQ restF
  rw [← queryJava_queryN ext port rs retries hh] at this
  obtain ⟨h1, h2, h3⟩ := this
  have h3' : sentOf out.2.log = fails.flatMap (AttemptN.sends (javaRequests rs port)) := h3
  refine ⟨h1, h2, h3', ?_⟩
  rw [h3', ← PlanN.sends_nil]
  exact (firstRequests_plan _ _ (C10_mcjava_handshake_distinct rs port) ⟨fails, none⟩ hfails).trans
    (by simp [PlanN.attempts, hk])

/-- (c) A MALFORMED REPLY IS NOT RETRIED.  After any number ≤ `retries` of timed-out attempts the peer writes a stream
that ends inside the frame-length VarInt — ANY stream of at most four bytes that all carry the continuation bit
(`Spec.malformedJava`).  The query fails at once with `PacketUnderflow` (not a timeout-class error); no further
handshake is sent. -/
theorem C10_mcjava_query_malformed_not_retried (ext : Ext) (port retries : Nat) (rs : RequestSettings)
    (hh : rs.hostname.length < 2 ^ 31) (fails : List AttemptN) (hfails : ∀ a ∈ fails, a.wf 3 = true)
    (hk : fails.length ≤ retries) (m : Bytes) (hm : malformedJava m = true) (restQ : List Delivery) (restF : List Bool) :
    let p : PlanN := ⟨fails, some m⟩
    let out := queryJava ext port rs retries (Net.init [.opened (p.deliveries ++ restQ)] (p.faults 3 ++ restF))
    out.1 = .err .packetUnderflow
    ∧ ErrKind.packetUnderflow.isTimeout = false
    ∧ sentOf out.2.log = p.sends (javaRequests rs port)
    ∧ firstRequests (javaRequests rs port) (sentOf out.2.log) = fails.length + 1 := by
  intro p out
  have := queryN_malformed true port retries (javaRequests rs port) none (javaDec ext) m _ (java_malformed ext m hm) rfl
    (by simp [fitsRead]) fails hfails hk restQ restF
  rw [← queryJava_queryN ext port rs retries hh] at this
  exact ⟨this.1, rfl, javaHandshakes_of_sends rs port p hfails this.2⟩

/-- (c') A CLOSED STREAM IS NOT RETRIED: after any number ≤ `retries` of timed-out attempts the peer closes the
connection (the script ends): the empty read is a malformed reply — `PacketUnderflow`, at once. -/
theorem C10_mcjava_query_closed_not_retried (ext : Ext) (port retries : Nat) (rs : RequestSettings)
    (hh : rs.hostname.length < 2 ^ 31) (fails : List AttemptN) (hfails : ∀ a ∈ fails, a.wf 3 = true)
    (hk : fails.length ≤ retries) (restF : List Bool) :
    let out := queryJava ext port rs retries (Net.init [.opened (fails.flatMap AttemptN.deliveries)]
      (fails.flatMap AttemptN.faults ++ (List.replicate 3 false ++ restF)))
    out.1 = .err .packetUnderflow
    ∧ sentOf out.2.log = fails.flatMap (AttemptN.sends (javaRequests rs port)) ++ (javaRequests rs port).map (·, false) := by
  intro out
  have hc : javaDec ext [] = .err .packetUnderflow := java_malformed ext [] (by decide)
  have := queryN_closed port retries (javaRequests rs port) none (javaDec ext) fails hfails hk
    (fun e he => by rw [hc] at he; cases he; rfl) restF
  rw [hc] at this
  show (queryJava ext port rs retries _).1 = _ ∧ sentOf (queryJava ext port rs retries _).2.log = _
  rw [queryJava_queryN ext port rs retries hh]
  exact this

/-! ### non-vacuity (the server and the JSON-crate behaviour of `Props/C03.lean`) -/

-- (a) retries = 2: the status request cannot be sent (after the handshake), then a read times out, then the response:
-- the status, 3 handshakes, 1 + 3 + 3 send flags
example :
    (PlanN.mk [⟨1, true⟩, ⟨3, false⟩] (some (statusResponse (asciiBytes "{}") []))).faults 3
      = [false, true, false, false, false, false, false, false]
    ∧ (queryJava exExt 25565 RequestSettings.default 2 (Net.init
        [.opened ((PlanN.mk [⟨1, true⟩, ⟨3, false⟩] (some (statusResponse (asciiBytes "{}") []))).deliveries ++ [])]
        ((PlanN.mk [⟨1, true⟩, ⟨3, false⟩] (some (statusResponse (asciiBytes "{}") []))).faults 3 ++ []))).1
      = .ok (expectedJava exExt exJava) :=
  ⟨by decide, (C10_mcjava_query_recovers exExt exJava _ _ (statusJson exJava) rfl (C03_java_document_represents exJava)
    (by decide +kernel) 25565 2 RequestSettings.default (by decide +kernel) [⟨1, true⟩, ⟨3, false⟩] (by decide) (by decide)
    [] []).1⟩

-- (b) retries = 1: two reads time out on the open stream: PacketReceive after 2 handshakes
example (ext : Ext) (port : Nat) (restQ : List Delivery) :
    (queryJava ext port RequestSettings.default 1 (Net.init
      [.opened ((PlanN.mk [⟨3, false⟩, ⟨3, false⟩] none).deliveries ++ restQ)]
      ((PlanN.mk [⟨3, false⟩, ⟨3, false⟩] none).faults 3 ++ []))).1 = .err .packetReceive :=
  (C10_mcjava_query_exhausted ext port 1 RequestSettings.default (by decide +kernel) [⟨3, false⟩, ⟨3, false⟩] (by decide)
    rfl restQ []).1

-- (c) retries = 4: the check's malformed stream `ff ff`
example (ext : Ext) (port : Nat) :
    (queryJava ext port RequestSettings.default 4 (Net.init
      [.opened ((PlanN.mk [⟨0, true⟩] (some [0xFF, 0xFF])).deliveries ++ [])]
      ((PlanN.mk [⟨0, true⟩] (some [0xFF, 0xFF])).faults 3 ++ []))).1 = .err .packetUnderflow :=
  (C10_mcjava_query_malformed_not_retried ext port 4 RequestSettings.default (by decide +kernel) [⟨0, true⟩] (by decide)
    (by decide) [0xFF, 0xFF] (by decide) [] []).1
