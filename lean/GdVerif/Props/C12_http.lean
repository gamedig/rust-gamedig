import GdVerif.Lemmas.Http
/-
  C12 — timeouts bound every blocking step and every failure of the transport is reported under the matching class: the
  HTTP client and the Eco query.

  MODEL: `GdVerif/Proto/Http.lean` (`call`, `readBody`, `request`, `requestJson`, `requestError`, `Eco.query`).  The wire — what
  `ureq` and the network make of one request: how the connect, the write of the request, the response head and the body
  end — is a PARAMETER (`Wire`); the theorems hold for every wire.  Tied on every run: the real client against a loopback
  listener that refuses / does not answer the connection attempt / stays mute / closes / stalls after the status line /
  sends garbage / an error status / stops or closes inside the body / sends a body that is not the document (`http-plan`,
  generator `httperr`), result kind, requests seen and wall clock against the model of the same behaviour.
  What is measured, not proved: that `ureq` and the OS honour the three timeouts.
-/
open Gd Gd.Http

/-- `request_error` is total over `ureq`'s error kinds: a failed connection is `SocketConnect`, every other way a call can fail
is `PacketSend`. -/
theorem C12_http_request_error_table (k : UreqErrorKind) :
    requestError k = (if k = .connectionFailed then .socketConnect else .packetSend) := by
  cases k <;> rfl

/-- THE DECISION TABLE of `get_json`, for every client, wire behaviour, deserialiser, path and headers: a connection
that is refused or not answered is `SocketConnect`; a request that cannot be written, a response head that does not arrive
(mute peer, peer closing, stalling in the head), that is not HTTP, a redirect loop, and an error status are `PacketSend`
(no answer to the request: the client library cannot tell which half of the exchange failed); a body that stops arriving
or is cut short is `PacketReceive`; a body that arrives whole and is not the document is `ProtocolFormat`; otherwise the
document. -/
theorem C12_http_json_decision_table {α : Type} (client : Client) (w : Wire) (json : Bytes → Option α) (method path : Bytes)
    (headers : List (Bytes × Bytes)) :
    (client.requestJson w json method path headers).2.1 =
      match w.connect, w.send, w.head, w.body with
      | .refused, _, _, _ => .err .socketConnect
      | .timedOut, _, _, _ => .err .socketConnect
      | .connected, .failed, _, _ => .err .packetSend
      | .connected, .timedOut, _, _ => .err .packetSend
      | .connected, .sent, .timedOut, _ => .err .packetSend
      | .connected, .sent, .closed, _ => .err .packetSend
      | .connected, .sent, .malformed, _ => .err .packetSend
      | .connected, .sent, .tooManyRedirects, _ => .err .packetSend
      | .connected, .sent, .head status _, body =>
        if status ≥ 400 then .err .packetSend
        else match body with
          | .timedOut => .err .packetReceive
          | .closedEarly => .err .packetReceive
          | .complete b => match json b with
            | some v => .ok v
            | none => .err .protocolFormat := by
  induction w using Wire.byCall with
  | head status cl b =>
    by_cases hs : status ≥ 400
    · simp only [Client.requestJson, call, hs, if_true]
      rfl
    · cases b with
      | complete body =>
        simp only [Client.requestJson, call, readBody, hs, if_false]
        cases json body <;> rfl
      | _ => simp only [Client.requestJson, call, readBody, hs, if_false]
  | _ => rfl

/-- THE DECISION TABLE of `get` (the body as bytes): as above, except that a `Content-Length` header which is not a number is
`ProtocolFormat` and any complete body is returned as it is. -/
theorem C12_http_raw_decision_table (client : Client) (w : Wire) (method path : Bytes) (headers : List (Bytes × Bytes)) :
    (client.request w method path headers).2.1 =
      match w.connect, w.send, w.head, w.body with
      | .refused, _, _, _ => .err .socketConnect
      | .timedOut, _, _, _ => .err .socketConnect
      | .connected, .failed, _, _ => .err .packetSend
      | .connected, .timedOut, _, _ => .err .packetSend
      | .connected, .sent, .timedOut, _ => .err .packetSend
      | .connected, .sent, .closed, _ => .err .packetSend
      | .connected, .sent, .malformed, _ => .err .packetSend
      | .connected, .sent, .tooManyRedirects, _ => .err .packetSend
      | .connected, .sent, .head status cl, body =>
        if status ≥ 400 then .err .packetSend
        else if (match cl with | some l => (parseUnsigned 64 l).isSome | none => true) = false then .err .protocolFormat
        else match body with
          | .timedOut => .err .packetReceive
          | .closedEarly => .err .packetReceive
          | .complete b => .ok b := by
  induction w using Wire.byCall with
  | head status cl b =>
    by_cases hs : status ≥ 400
    · simp only [Client.request, call, hs, if_true]
      rfl
    · -- the `Content-Length` check first, then the body
      cases cl with
      | none => cases b <;> simp only [Client.request, call, readBody, hs, if_false] <;> rfl
      | some l =>
        by_cases hl : (parseUnsigned 64 l).isSome = true <;> cases b <;>
          simp [Client.request, call, readBody, hs, hl]
  | _ => rfl

/-- WHAT C12 EXPECTS of each class of failure, written from the property: the connection cannot be made → the connect
class; connected but no well-formed answer to the request (nothing at all, a head that does not complete, garbage, an
error status, a redirect loop) → the send / receive class; the answer begins and its body stops → the receive class; a
complete body → the document or a format error. -/
def C12_http_expected (w : Wire) : List ErrKind :=
  match w.connect with
  | .refused | .timedOut => [.socketConnect]
  | .connected =>
    match w.send with
    | .failed | .timedOut => [.packetSend, .packetReceive]
    | .sent =>
      match w.head with
      | .timedOut | .closed | .malformed | .tooManyRedirects => [.packetSend, .packetReceive]
      | .head status _ =>
        if status ≥ 400 then [.packetSend, .packetReceive]
        else match w.body with
          | .timedOut | .closedEarly => [.packetReceive]
          | .complete _ => [.protocolFormat]

/-- Every failure lands in the class the property expects, and a query fails only when the transport did or the document is
not the expected one — for every wire behaviour. -/
theorem C12_http_error_classes {α : Type} (client : Client) (w : Wire) (json : Bytes → Option α) (method path : Bytes)
    (headers : List (Bytes × Bytes)) :
    (∀ k, (client.requestJson w json method path headers).2.1 = .err k → k ∈ C12_http_expected w)
    ∧ (client.requestJson w json method path headers).2.1 ≠ .crash
    ∧ (∀ v, (client.requestJson w json method path headers).2.1 = .ok v →
        ∃ status cl body, w = ⟨.connected, .sent, .head status cl, .complete body⟩ ∧ status < 400 ∧ json body = some v) := by
  rw [C12_http_json_decision_table]
  induction w using Wire.byCall with
  | head status cl b =>
    by_cases hs : status ≥ 400
    · simp [C12_http_expected, hs]
    · cases b with
      | complete body =>
        cases hj : json body with
        | none => simp [C12_http_expected, hs, hj]
        | some v => simpa [C12_http_expected, hs, hj] using ⟨status, cl, body, ⟨⟨rfl, rfl⟩, rfl⟩, by omega, hj⟩
      | _ => simp [C12_http_expected, hs]
  | _ => simp [C12_http_expected]

/-- AT MOST ONE BLOCKING STEP RUNS INTO ITS TIMEOUT, whatever the wire does, and it is the step the behaviour names: the
connect when the connection attempt is not answered, the write when the request cannot be written, one read when the
response head or — after a good head — the body stops arriving.  A request that fails for any other reason waits for
nothing. -/
theorem C12_http_blocking_bound {α : Type} (client : Client) (w : Wire) (json : Bytes → Option α) (method path : Bytes)
    (headers : List (Bytes × Bytes)) :
    let steps := (client.requestJson w json method path headers).2.2
    steps.length ≤ 1
    ∧ (steps = [.connect] ↔ w.connect = .timedOut)
    ∧ (steps = [.write] ↔ w.connect = .connected ∧ w.send = .timedOut)
    ∧ (steps = [.read] ↔ w.connect = .connected ∧ w.send = .sent ∧
        (w.head = .timedOut ∨ ∃ status cl, w.head = .head status cl ∧ status < 400 ∧ w.body = .timedOut)) := by
  induction w using Wire.byCall with
  | head status cl b =>
    by_cases hs : status ≥ 400
    · have hs' : ¬ status < 400 := by omega
      simp [Client.requestJson, call, hs, hs']
    · have hs' : status < 400 := by omega
      cases b with
      | complete body => cases hj : json body <;> simp [Client.requestJson, call, readBody, hs, hj]
      | _ => simp [Client.requestJson, call, readBody, hs, hs']
  | _ => simp [Client.requestJson, call]

/-- The same bound for `get`. -/
theorem C12_http_raw_blocking_bound (client : Client) (w : Wire) (method path : Bytes) (headers : List (Bytes × Bytes)) :
    (client.request w method path headers).2.2.length ≤ 1 := by
  induction w using Wire.byCall with
  | head status cl b =>
    by_cases hs : status ≥ 400
    · simp [Client.request, call, hs]
    · cases cl with
      | none => cases b <;> simp [Client.request, call, readBody, hs]
      | some l => cases b <;> simp [Client.request, call, readBody, hs] <;> split <;> simp
  | _ => simp [Client.request, call]

/-- THE DURATION THAT BOUNDS EACH STEP is the one configured for it and no other: with the client `new` builds from timeout
settings `t`, a blocked read waits `t.read`, a blocked write `t.write`, an unanswered connect `t.connect` (`ureq`'s own 30 s
when the settings leave the connect timeout out); there is no deadline for the whole request that could cut any of them short
or stretch it (`AgentBuilder::timeout` is never called). -/
theorem C12_http_step_timeouts (idna : Bytes → Option Bytes) (ua : Bytes) (address : SocketAddr) (t : Settings.Timeout)
    (hs : HttpSettings) (client : Client) (h : Http.new idna ua address (some t) hs = .ok client) :
    client.agent.timeoutOverall = none
    ∧ Ureq.timeoutOf client.agent .read = t.read
    ∧ Ureq.timeoutOf client.agent .write = t.write
    ∧ Ureq.timeoutOf client.agent .connect = (match t.connect with | some c => some c | none => some ⟨30, 0⟩) := by
  obtain ⟨_, _, hov, hr, hw, _⟩ := new_ok h
  simp only [Ureq.timeoutOf, hov]
  exact ⟨trivial, hr, hw, new_ok_connect h⟩

/-- Without settings the defaults apply: 4 s each, finite. -/
theorem C12_http_default_timeouts (idna : Bytes → Option Bytes) (ua : Bytes) (address : SocketAddr)
    (hs : HttpSettings) (client : Client) (h : Http.new idna ua address none hs = .ok client) :
    Ureq.timeoutOf client.agent .read = some ⟨4, 0⟩ ∧ Ureq.timeoutOf client.agent .write = some ⟨4, 0⟩
    ∧ Ureq.timeoutOf client.agent .connect = some ⟨4, 0⟩ := by
  obtain ⟨_, _, hov, hr, hw, hc, _⟩ := new_ok h
  simp only [Ureq.timeoutOf, hov]
  exact ⟨hr, hw, hc⟩

/-- THE ECO QUERY: its result is the table's, the document mapped by `From<Root>`; at most one blocking step times out. -/
theorem C12_eco_error_classes (idna : Bytes → Option Bytes) (ua : Bytes) (w : Wire) (json : Bytes → Option Eco.Info)
    (ip : IpAddr) (port : Option Nat) (ts : Option Settings.Timeout) (extra : Option Eco.RequestSettings) :
    let r := Eco.query idna ua w json ip port ts extra
    r.2.2.length ≤ 1 ∧ r.2.1 ≠ .crash
    ∧ (∀ k, r.2.1 = .err k → k = .invalidInput ∧ r.1 = none ∨ r.1.isSome ∧ k ∈ C12_http_expected w) := by
  simp only [Eco.query]
  have hnew := new_total idna ua ⟨ip, port.getD Eco.DEFAULT_PORT⟩ ts (extra.getD {}).toHttp
  split
  · rename_i client hn
    have hb := (C12_http_blocking_bound client w json GET (asciiBytes Eco.PATH) []).1
    have hc := C12_http_error_classes client w json GET (asciiBytes Eco.PATH) []
    refine ⟨hb, ?_, ?_⟩
    · cases hr : (client.requestJson w json GET (asciiBytes Eco.PATH) []).2.1 with
      | ok v => simp [Res.bind]
      | err k => simp [Res.bind]
      | crash => exact absurd hr hc.2.1
    · intro k hk
      right
      refine ⟨rfl, ?_⟩
      cases hr : (client.requestJson w json GET (asciiBytes Eco.PATH) []).2.1 with
      | ok v => rw [hr] at hk; simp [Res.bind] at hk
      | err k' =>
        rw [hr] at hk
        simp only [Res.bind] at hk
        cases hk
        exact hc.1 k hr
      | crash => exact absurd hr hc.2.1
  · rename_i k hn
    have := hnew.2 k hn
    subst this
    simp
  · rename_i hn
    exact absurd hn hnew.1

-- non-vacuity: behaviours of each class, and a document that arrives
example : C12_http_expected ⟨.connected, .sent, .timedOut, .closedEarly⟩ = [.packetSend, .packetReceive] := rfl
example :
    let c : Client := ⟨ureqDefaults, ⟨.http, [], none, .domain [97], none, [47], none, none⟩, []⟩
    (c.requestJson ⟨.connected, .sent, .head 200 none, .complete [49]⟩ (fun b => some b.length) GET [47] []).2.1 = .ok 1
    ∧ (c.requestJson ⟨.connected, .sent, .head 200 none, .timedOut⟩ (fun b => some b.length) GET [47] []).2 = (.err .packetReceive, [.read])
    ∧ (c.requestJson ⟨.timedOut, .sent, .closed, .closedEarly⟩ (fun b => some b.length) GET [47] []).2 = (.err .socketConnect, [.connect])
    ∧ (c.requestJson ⟨.connected, .sent, .head 503 none, .complete []⟩ (fun b => some b.length) GET [47] []).2 = (.err .packetSend, []) := by
  decide
