import GdVerif.Lemmas.QuakeSafe
/-
  C01 — Hostile server responses never crash or hang a query: the Quake 1 / 2 / 3 family
  (`protocols::quake::{one,two,three}::query`, and through them every Quake game wrapper).

  MODEL: `GdVerif/Proto/Quake.lean` (tied to protocols/quake by the correspondence run of `./check C01`).
  Crash branches of the model: the slice of `remove_wrapping_quotes` (`sliceInner`), exhausted fuel of the
  player-line loop (= a loop that would not end).  Both are shown unreachable here for EVERY script.
-/
open Gd

/-- No crash for any reply script (any number of datagrams of any content and size, silences, a refused
socket, failing sends), any version, port and retry count. -/
theorem C01_quake (port : Nat) (v : Quake.Version) (retries : Nat) (script : List ConnScript) (faults : List Bool) :
    (Quake.query port v retries (Net.init script faults)).1 ≠ .crash :=
  (Quake.query_safe port v retries (Net.init script faults)).1

/-- The parsers alone, on any bytes: the header check of `get_data_impl` and everything `client_query` does
with the rest of the packet. -/
theorem C01_quake_parsers (v : Quake.Version) (data : Bytes) :
    ((Quake.stripHeader v).run data).isCrash = false ∧ ((Quake.parseBody v).run data).isCrash = false := by
  have key : ∀ {α : Type} (p : Par α), Safe p → (p.run data).isCrash = false := by
    intro α p hp
    have := hp (Buf.new data)
    unfold Par.run
    cases h : p (Buf.new data) with
    | ok x => rfl
    | err k => rfl
    | crash => rw [h] at this; exact this.elim
  exact ⟨key _ (Quake.safe_stripHeader v), key _ (Quake.safe_parseBody v)⟩

/-- The field that made the unrepaired code panic: a lone double quote is returned as it is. -/
theorem C01_quake_lone_quote : Quake.removeWrappingQuotes [0x22] = .ok [0x22] := by decide

/-- `remove_wrapping_quotes` never takes the slice `[1 .. len - 1]` of a string shorter than two bytes. -/
theorem C01_quake_quotes (s : Bytes) : Quake.removeWrappingQuotes s ≠ .crash :=
  Quake.removeWrappingQuotes_ne_crash s

-- non-vacuity: hostile scripts are in the quantifier — a truncated header, and the player line consisting of
-- two numbers and a lone quote (the panic of the unrepaired code) goes through the line parser
example : (Quake.query 27500 .one 1 (Net.init [.opened [.data [0xFF, 0xFF]]] [])).1 = .err .packetUnderflow := by
  decide +kernel

example : Quake.parsePlayer .two (Quake.splitFields false [0x30, 0x20, 0x30, 0x20, 0x22])
    = .ok (.two ⟨0, 0, [0x22], none⟩) := by
  decide +kernel
