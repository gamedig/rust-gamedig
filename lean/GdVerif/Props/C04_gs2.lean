import GdVerif.Lemmas.Gs2Faults
/-
  C04 — GameSpy 2 replies are decoded completely.

  MODEL: `GdVerif/Proto/Gs2.lean` (protocols/gamespy/protocols/two, repaired tree: the column heads of
  a table are consumed whatever its row count; tied to the code by `./check C04`).
  SPEC:  `GdVerif/Spec/Gs2.lean` — header `00` + the 4-byte id, NUL-terminated key/value pairs ended
  by an empty key, then the player table and the team table (`00`, row count, heads, empty head,
  cells), written from node-gamedig's gamespy2.js (`readFieldData`).

  The domain (`Spec.wf`): texts are UTF-8 without NUL, numbers in the range of the response's
  fields, 0–255 players and 0–255 teams (the row count is a byte; 0–64 / 0–8 included), extra
  variables with distinct non-empty keys that are not typed keys, any number of extra columns (with
  distinct non-empty heads other than the standard ones) in both tables, reply within the 2048-byte
  receive buffer.
-/
open Gd Gd.Gs Gd.Gs2 Gd.Gs2.Spec

/-- `two::query` returns the server's name, map, password flag, player limits, EVERY player and EVERY
team exactly as sent (also when a table has no rows), `players_online` = the reported number or the
number of players listed when that is larger, and exactly the other variables as unused entries. -/
theorem C04_gs2_query (y : Style) (st : State) (h : wf y st = true) (port retries : Nat) :
    (query port retries (Net.init [.opened [.data (reply y st)]] [])).1 = .ok (expected st) :=
  query_expected (Wf.of_wf h) port retries

/-- A table decodes to its rows whatever their number — in particular a table WITHOUT rows still
carries (and the parser consumes) its column heads, so that what follows it is read from the right
place. -/
theorem C04_gs2_table (hs : List Bytes) (rows : List (List Bytes)) (hok : ∀ h ∈ hs, OkStr h ∧ h ≠ [])
    (hrows : RowsOk hs rows) (hn : rows.length < 256) :
    Decodes dataAsTable (encTable hs rows) (pushRows (emptyTable hs) hs rows, rows.length) :=
  decodes_dataAsTable hs rows hok hrows hn

/-- The variables block: exactly the pairs sent, and the cursor is left on the NUL that starts the
player table. -/
theorem C04_gs2_vars (ps : List (Bytes × Bytes)) (hok : ∀ p ∈ ps, OkVar p) (hd : Distinct ps) (post : Bytes) :
    ∃ b', getServerVars (Buf.new ((ps.map encPair).flatten ++ [0] ++ (0 :: post))) = .ok (canon ps, b')
      ∧ b'.rest = 0 :: post := by
  obtain ⟨b', h1, h2, _⟩ := getServerVars_enc ps hok hd (Buf.new _) post rfl
  exact ⟨b', h1, h2⟩

/-- "All other variables, and only those". -/
theorem C04_gs2_unused_exact (y : Style) (st : State) (h : wf y st = true) (p : Bytes × Bytes) :
    p ∈ (expected st).unusedEntries ↔ (p ∈ serverPairs st ∧ p.1 ∉ typedKeys) := by
  have hw := Wf.of_wf h
  show p ∈ canon st.extras ↔ _
  rw [(canon_perm_self st.extras).mem_iff]
  constructor
  · intro he
    exact ⟨by rw [serverPairs_eq]; simp [he], hw.extrasKeys p he⟩
  · rintro ⟨hall, hnt⟩
    rw [serverPairs_eq] at hall
    rcases List.mem_append.mp hall with h1 | h1
    · exact absurd (present_skeleton_key h1) hnt
    · exact h1

def C04_gs2_exState : Spec.State :=
  { name := bs "Srv", map := bs "m1", hasPassword := true, teams := [⟨bs "Red", 3⟩, ⟨bs "Blue", 65535⟩],
    playersMaximum := 16, reportedPlayers := some 0, playersMinimum := some 2, players := [],
    extras := [(bs "gamever", bs "1.2")] }

def C04_gs2_exState2 : Spec.State := { C04_gs2_exState with players := [⟨bs "Bob", 7, 40, 1⟩], reportedPlayers := some 5 }

def C04_gs2_exStyle : Style := ⟨[(bs "deaths_", bs "9")], []⟩

/-- both example servers are in the domain -/
theorem C04_gs2_ex_wf : wf C04_gs2_exStyle C04_gs2_exState = true ∧ wf C04_gs2_exStyle C04_gs2_exState2 = true := by
  decide +kernel

-- non-vacuity: a server WITHOUT players but with teams (the case the unrepaired code could not
-- decode) and one with a player, an extra column and a larger reported count are in the domain
example : wf C04_gs2_exStyle C04_gs2_exState = true ∧
    (query 2302 0 (Net.init [.opened [.data (reply C04_gs2_exStyle C04_gs2_exState)]] [])).1 = .ok (expected C04_gs2_exState)
    ∧ (expected C04_gs2_exState).teams.length = 2 ∧ (expected C04_gs2_exState).playersOnline = 0
    ∧ wf C04_gs2_exStyle C04_gs2_exState2 = true
    ∧ (query 2302 0 (Net.init [.opened [.data (reply C04_gs2_exStyle C04_gs2_exState2)]] [])).1 = .ok (expected C04_gs2_exState2)
    ∧ (expected C04_gs2_exState2).playersOnline = 5 :=
  ⟨C04_gs2_ex_wf.1, C04_gs2_query _ _ C04_gs2_ex_wf.1 2302 0, rfl, rfl,
    C04_gs2_ex_wf.2, C04_gs2_query _ _ C04_gs2_ex_wf.2 2302 0, rfl⟩
