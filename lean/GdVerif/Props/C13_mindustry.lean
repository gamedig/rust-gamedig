import GdVerif.Lemmas.SmallCost
import GdVerif.Lemmas.SmallBlock
/-
  C13 (requests sent) — Mindustry.  `units` = 1: one ping per attempt (every attempt on a socket of
  its own).
-/
open Gd Gd.Mindustry

/-- At most `retries + 1` pings, whatever is received, for every script, fault vector, retry setting. -/
theorem C13_mindustry_send_bound (port retries : Nat) (script : List ConnScript) (faults : List Bool) :
    nSends (query port retries (Net.init script faults)).2.log ≤ retries + 1 :=
  (sends_query port retries).total script faults

/-- The form the trace oracle checks (`send_units` = 1). -/
theorem C13_mindustry_send_bound_units (port retries : Nat) (script : List ConnScript) (faults : List Bool) :
    nSends (query port retries (Net.init script faults)).2.log
      ≤ 1 * (retries + 1) + nRecvOk (query port retries (Net.init script faults)).2.log := by
  have := C13_mindustry_send_bound port retries script faults
  omega

/-- The bound is attained for every retry setting by a server that never answers. -/
theorem C13_mindustry_send_bound_attained (port retries : Nat) :
    nSends (query port retries (Net.init [] [])).2.log = retries + 1 :=
  (silent_query port retries (Net.init [] []) rfl
    (AllSilent.nil_udp 1 _ fun t ht => (List.mem_replicate.mp ht).2)).counts.2.1

example : nSends (query 6567 2 (Net.init [.opened [.silence], .opened [.silence], .opened []] [])).2.log = 3 := by decide +kernel
