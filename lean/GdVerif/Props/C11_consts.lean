import GdVerif.Gen.Consts
import GdVerif.Lemmas.Consts
/-
  C11 — the default gather toggles of the SOURCE are the MODEL's (tie by TRANSLATION).
-/
open Gd Gd.Gen Gd.ConstsAux

/-- `valve::GatheringSettings::default()`: players Try, rules Try, check_app_id true = `Valve.Gather.default` -/
theorem C11_consts_valve_gather_default :
    [("players", toggleName Valve.Gather.default.players), ("rules", toggleName Valve.Gather.default.rules),
     ("check_app_id", boolName Valve.Gather.default.checkAppId)] = Consts.valve_gather_default := rfl

/-- `unreal2::GatheringSettings::default()`: players Try, mutators_and_rules Enforce = `Unreal2.Gather.default` -/
theorem C11_consts_unreal2_gather_default :
    [("players", toggleName Unreal2.Gather.default.players),
     ("mutators_and_rules", toggleName Unreal2.Gather.default.mutatorsAndRules)] = Consts.unreal2_gather_default := rfl

example : Consts.valve_gather_default.length = 3 := rfl
