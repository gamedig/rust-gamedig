import GdVerif.Lemmas.ValveSilent
import GdVerif.Proto.Settings
/-
  C12 — Timeouts bound every blocking step on real sockets.

  What a model can carry (and what is proved here): how many blocking steps of a query can run into
  their timeout at all, that the transport hands bytes over unmodified, and that the sockets are
  always given the configured timeouts.  That the operating system then honours SO_RCVTIMEO /
  connect_timeout, and what the wall clock shows, is MEASURED by `props/c12.py` on real loopback
  sockets (IPv4 and IPv6) and is not a theorem.  Claimed as partial.
-/
open Gd Gd.Valve

/-- Whatever the server does — silent from the start, stopping after any reply, answering garbage —
at most `3 · (retries + 1) + 1` blocking steps of a Valve query run into their timeout (timed-out
receives, failed sends, a failed socket creation): one per attempt of each of its three requests, and one for the
socket.  Every other blocking step returned because the peer delivered something.  Hence
wall time ≤ (3 · (retries + 1) + 1) · timeout + the server's own delays. -/
theorem C12_valve_blocking_bound (ext : Ext) (port : Nat) (engine : Engine) (g : Gather) (retries : Nat)
    (script : List ConnScript) (faults : List Bool) :
    nBlocked (query ext port engine g retries (Net.init script faults)).2.log ≤ 3 * (retries + 1) + 1 := by
  have := (block_query_sharp ext port engine g retries).total script faults
  omega

/-- one attempt against a silent server: the request is sent, the receive times out, nothing else happens -/
theorem requestImpl_silent (ext : Ext) (s : Sock) (engine : Engine) (protocol kind : Nat) (payload : Bytes)
    (pending : List ConnScript) (conns : List (List Delivery)) (log : List Ev) (hudp : s.tcp = false)
    (hq : conns.getD s.id [] = []) :
    requestImpl ext s engine protocol kind payload ⟨pending, conns, [], log⟩
      = (.err .packetReceive, ⟨pending, conns, [], log ++ [.send s.id s.port (packetBytes kind payload) false,
          .recv s.id (some PACKET_SIZE) none]⟩) := by
  simp only [requestImpl, bind, Q.bind', Gd.send, receive, Gd.recv, hq, hudp, Bool.false_eq_true, ↓reduceIte,
    List.append_assoc, List.cons_append, List.nil_append]

/-- A silent server: every attempt of a request times out once; after exactly `retries + 1` attempts
(one request and one timed-out receive each) the request fails with the receive-class error. -/
theorem C12_silent_server (ext : Ext) (s : Sock) (engine : Engine) (protocol : Nat) (req : Request) (hudp : s.tcp = false)
    (retries : Nat) : ∀ (pending : List ConnScript) (conns : List (List Delivery)) (log : List Ev),
      conns.getD s.id [] = [] →
      ∃ added, requestData ext s retries engine protocol req ⟨pending, conns, [], log⟩
          = (.err .packetReceive, ⟨pending, conns, [], log ++ added⟩)
        ∧ nBlocked added = retries + 1 ∧ added.length = 2 * (retries + 1) := by
  intro pending conns log hq
  have attempt : ∀ log, ∃ evs, requestImpl ext s engine protocol req.kind req.defaultPayload ⟨pending, conns, [], log⟩
      = (.err .packetReceive, ⟨pending, conns, [], log ++ evs⟩) ∧ nBlocked evs = 1 ∧ evs.length = 2 :=
    fun log => ⟨_, requestImpl_silent ext s engine protocol req.kind req.defaultPayload pending conns log hudp hq,
      by simp [nBlocked, isBlocked], rfl⟩
  induction retries generalizing log with
  | zero => exact attempt log
  | succ r ih =>
    obtain ⟨evs, h0, hb, hl⟩ := attempt log
    obtain ⟨added, h1, h2, h3⟩ := ih (log ++ evs)
    refine ⟨evs ++ added, ?_, by rw [nBlocked_append, hb, h2]; omega, by rw [List.length_append, hl, h3]; omega⟩
    rw [requestData, retryOnTimeout_again h0 rfl, ← List.append_assoc]
    exact h1

/-- Transport fidelity as the code defines it: a received UDP datagram is delivered unmodified up to
the requested buffer size (1024 when none is given); a TCP stream is delivered unmodified. -/
theorem C12_receive_unmodified (s : Sock) (size : Option Nat) (w : Net) (d : Bytes) (rest : List Delivery)
    (h : w.conns.getD s.id [] = .data d :: rest) :
    (recv s size w).1 = .ok (if s.tcp then d else d.take (size.getD 1024)) := by
  unfold Gd.recv
  rw [h]

/-- Bytes handed to the transport are logged (sent) unmodified to the socket's address. -/
theorem C12_send_unmodified (s : Sock) (data : Bytes) (w : Net) :
    ∃ failed, (send s data w).2.log = w.log ++ [.send s.id s.port data failed] :=
  send_log s data w

/-- Every socket is given timeouts: with no settings the defaults (4 s) apply, never "block forever". -/
theorem C12_default_timeouts_are_finite :
    Settings.default.read = some ⟨4, 0⟩ ∧ Settings.default.write = some ⟨4, 0⟩ ∧ Settings.default.connect = some ⟨4, 0⟩ := by
  decide
