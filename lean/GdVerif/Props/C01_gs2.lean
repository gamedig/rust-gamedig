import GdVerif.Lemmas.GsSafe
/-
  C01 — Hostile server responses never crash or hang a query: GameSpy 2.

  MODEL: `GdVerif/Proto/Gs2.lean`.  The three loops of the parser (`get_server_vars`, the column
  heads, the rows) take fuel from the bytes remaining and crash when it runs out: the theorem
  includes that it never does (every round that goes on consumed a byte; the rows are counted).
-/
open Gd Gd.Gs

/-- `gamespy::two::query`: no crash for any script and any retry count. -/
theorem C01_gs2_query (port retries : Nat) (script : List ConnScript) (faults : List Bool) :
    (Gs2.query port retries (Net.init script faults)).1 ≠ .crash :=
  (Gs2.query_safe port retries (Net.init script faults)).1

/-- The parsers alone, on any bytes and from any cursor position. -/
theorem C01_gs2_parsers (data : Bytes) :
    (Gs2.checkHeader.run data).isCrash = false ∧ (Gs2.parseBody.run data).isCrash = false
    ∧ (Gs2.dataAsTable.run data).isCrash = false ∧ (Gs2.getServerVars.run data).isCrash = false := by
  have key : ∀ {α : Type} (p : Par α), Safe p → (p.run data).isCrash = false := by
    intro α p hp
    have := Safe.run_ne_crash hp data
    cases h : p.run data <;> simp_all [Res.isCrash]
  exact ⟨key _ Gs2.safe_checkHeader, key _ Gs2.safe_parseBody, key _ Gs2.safe_dataAsTable, key _ Gs2.safe_getServerVars⟩

-- non-vacuity: an unterminated value (the reply that panicked through the packet reader before its
-- repair) and a table announcing 255 rows with nothing behind are in the quantifier
example : (Gs2.query 2302 0 (Net.init [.opened [.data [0, 0, 0, 0, 1, 107, 0, 118]]] [])).1 = .err .packetUnderflow := by
  decide +kernel

example : (Gs2.query 2302 0 (Net.init [.opened [.data [0, 0, 0, 0, 1, 0, 0, 255]]] [])).1 = .err .packetBad := by
  decide +kernel
