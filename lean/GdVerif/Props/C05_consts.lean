import GdVerif.Gen.Consts
import GdVerif.Lemmas.Consts
import GdVerif.Spec.Quake
/-
  C05 — the names and bytes of the Quake 1 / 2 / 3 parser: SOURCE = MODEL = SPEC (tie by TRANSLATION).

  The variable names behind each response field with their fallback spelling (`hostname` / `sv_hostname`, …), the
  response header of each version, the reply marker and the line delimiter.  `Gd.Gen.Consts.*` is regenerated from
  protocols/quake/{client,one,two,three}.rs on every run.
-/
open Gd Gd.Gen Gd.ConstsAux

/-- `server_vars.remove("hostname").or_else(|| server_vars.remove("sv_hostname"))` … per response field =
the model's keys -/
theorem C05_consts_quake_var_names :
    [("name", Quake.kHostname, Quake.kSvHostname), ("map", Quake.kMapname, Quake.kMap),
     ("players_maximum", Quake.kMaxclients, Quake.kSvMaxclients), ("game_version", Quake.kVersion, Quake.kStarVersion)]
      = Consts.quake_var_names.map (fun t => (t.1, asciiBytes t.2.1, asciiBytes t.2.2)) := rfl

/-- … = the SPEC's -/
theorem C05_consts_quake_spec_var_names :
    [("name", Quake.Spec.hostnameKey, Quake.Spec.hostnameAlt), ("map", Quake.Spec.mapKey, Quake.Spec.mapAlt),
     ("players_maximum", Quake.Spec.maxKey, Quake.Spec.maxAlt), ("game_version", Quake.Spec.versionKey, Quake.Spec.versionAlt)]
      = Consts.quake_var_names.map (fun t => (t.1, asciiBytes t.2.1, asciiBytes t.2.2)) := rfl

/-- `get_response_header` of the three clients = `Quake.Version.responseHeader` = the SPEC's header -/
theorem C05_consts_quake_response_headers :
    [("One", Quake.Version.one.responseHeader), ("Two", Quake.Version.two.responseHeader),
     ("Three", Quake.Version.three.responseHeader)] = Consts.quake_response_headers
    ∧ [("One", Quake.Spec.header .one), ("Two", Quake.Spec.header .two), ("Three", Quake.Spec.header .three)]
      = Consts.quake_response_headers := by decide +kernel

/-- `read::<u32>() != u32::MAX`: the marker in front of the response header -/
theorem C05_consts_quake_reply_marker (v : Quake.Version) (cfg : Quake.Spec.Config) (st : Quake.Spec.State) :
    Quake.stripHeader v = (do
      let h ← readUnsigned .little 4
      if h != Consts.quake_reply_header then Par.fail .packetBad
      else do
        let rest ← remainingBytes
        if !(v.responseHeader.isPrefixOf rest) then Par.fail .packetBad
        else do
          moveCursor (v.responseHeader.length : Int)
          remainingBytes)
    ∧ Quake.Spec.reply cfg st = natLE 4 Consts.quake_reply_header ++ Quake.Spec.header cfg.version ++ Quake.Spec.body cfg st := ⟨rfl, rfl⟩

/-- `read_string::<Utf8Decoder>(Some([0x0A]))`: variables and player lines end at a line feed -/
theorem C05_consts_quake_line_delimiter (v : Quake.Version) :
    Quake.getServerValues = (do
      let data ← readStrUntil (UInt8.ofNat (Consts.quake_line_delimiter.getD 0 0))
      pure (Quake.insertAll (Quake.pairs (Quake.dropEmptyFirst (splitOn 0x5C data)))))
    ∧ Quake.playerLine v = (do
      let data ← readStrUntil (UInt8.ofNat (Consts.quake_line_delimiter.getD 1 0))
      Par.lift (Quake.parsePlayer v (Quake.splitFields false data)))
    ∧ Quake.Spec.lf = [UInt8.ofNat (Consts.quake_line_delimiter.getD 0 0)] := ⟨rfl, rfl, rfl⟩

example : Consts.quake_var_names.length = 4 := rfl
