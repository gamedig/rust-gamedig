import GdVerif.Lemmas.McCost
import GdVerif.Lemmas.McBlock
/-
  C13 (requests sent) — Minecraft: Java, Bedrock, the three legacy variants, `query_legacy`, and the
  auto-detecting `query`.  No reply earns a further request, so every bound is absolute (and a
  fortiori holds with `+ datagrams received`, the form `props/c13.py` checks).  `units`:
  Java 3 (handshake, status request, ping are three writes of one attempt), Bedrock 1, a legacy
  variant 1, `query_legacy` 3 = 1 + 1 + 1 (three connections), auto-detect 7 = 3 + 1 + 3 (five sockets).
-/
open Gd Gd.Mc

/-- Java: at most three packets per attempt, for every script, fault vector, settings, JSON crate. -/
theorem C13_minecraft_java_send_bound (ext : Ext) (port : Nat) (st : RequestSettings) (retries : Nat)
    (script : List ConnScript) (faults : List Bool) :
    nSends (queryJava ext port st retries (Net.init script faults)).2.log ≤ 3 * (retries + 1) :=
  (sends_queryJava ext port st retries).total script faults

/-- Bedrock: one ping per attempt. -/
theorem C13_minecraft_bedrock_send_bound (port retries : Nat) (script : List ConnScript) (faults : List Bool) :
    nSends (queryBedrock port retries (Net.init script faults)).2.log ≤ retries + 1 :=
  (sends_queryBedrock port retries).total script faults

/-- A legacy variant (1.6, 1.4, beta 1.8): one ping per attempt. -/
theorem C13_minecraft_legacy_specific_send_bound (g : LegacyGroup) (port retries : Nat) (script : List ConnScript)
    (faults : List Bool) :
    nSends (queryLegacySpecific g port retries (Net.init script faults)).2.log ≤ retries + 1 :=
  (sends_queryLegacySpecific g port retries).total script faults

/-- `query_legacy`: the three variants one after the other. -/
theorem C13_minecraft_legacy_send_bound (port retries : Nat) (script : List ConnScript) (faults : List Bool) :
    nSends (queryLegacy port retries (Net.init script faults)).2.log ≤ 3 * (retries + 1) :=
  (sends_queryLegacy port retries).total script faults

/-- Auto-detect: Java, Bedrock, then the three legacy variants: 3 + 1 + 3 packets per retry round. -/
theorem C13_minecraft_auto_send_bound (ext : Ext) (port : Nat) (st : RequestSettings) (retries : Nat)
    (script : List ConnScript) (faults : List Bool) :
    nSends (queryAuto ext port st retries (Net.init script faults)).2.log ≤ 7 * (retries + 1) :=
  (sends_queryAuto ext port st retries).total script faults

/-- The forms the trace oracle checks: `send_units` = 3 (mcjava), 1 (mcbedrock), 3 (mclegacy: a single
variant or `any`), 7 (mcauto). -/
theorem C13_minecraft_send_bound_units (ext : Ext) (port : Nat) (st : RequestSettings) (g : LegacyGroup) (retries : Nat)
    (script : List ConnScript) (faults : List Bool) :
    nSends (queryJava ext port st retries (Net.init script faults)).2.log
        ≤ 3 * (retries + 1) + nRecvOk (queryJava ext port st retries (Net.init script faults)).2.log
    ∧ nSends (queryBedrock port retries (Net.init script faults)).2.log
        ≤ 1 * (retries + 1) + nRecvOk (queryBedrock port retries (Net.init script faults)).2.log
    ∧ nSends (queryLegacySpecific g port retries (Net.init script faults)).2.log
        ≤ 3 * (retries + 1) + nRecvOk (queryLegacySpecific g port retries (Net.init script faults)).2.log
    ∧ nSends (queryLegacy port retries (Net.init script faults)).2.log
        ≤ 3 * (retries + 1) + nRecvOk (queryLegacy port retries (Net.init script faults)).2.log
    ∧ nSends (queryAuto ext port st retries (Net.init script faults)).2.log
        ≤ 7 * (retries + 1) + nRecvOk (queryAuto ext port st retries (Net.init script faults)).2.log := by
  have h1 := C13_minecraft_java_send_bound ext port st retries script faults
  have h2 := C13_minecraft_bedrock_send_bound port retries script faults
  have h3 := C13_minecraft_legacy_specific_send_bound g port retries script faults
  have h4 := C13_minecraft_legacy_send_bound port retries script faults
  have h5 := C13_minecraft_auto_send_bound ext port st retries script faults
  exact ⟨Nat.le_trans h1 (Nat.le_add_right _ _), by omega, by omega, Nat.le_trans h4 (Nat.le_add_right _ _),
    Nat.le_trans h5 (Nat.le_add_right _ _)⟩

/-- The auto-detect bound (hence each of its parts) is attained for every retry setting: five peers
that accept and never answer get exactly `7 · (retries + 1)` packets. -/
theorem C13_minecraft_auto_send_bound_attained (ext : Ext) (port : Nat) (st : RequestSettings) (retries : Nat)
    (hh : st.hostname.length < 2 ^ 31) :
    nSends (queryAuto ext port st retries
      (Net.init (List.replicate 5 (.opened (List.replicate (retries + 1) .silence))) [])).2.log = 7 * (retries + 1) := by
  have hs : SilentFor true (retries + 1) (List.replicate (retries + 1) .silence) := by
    simpa using SilentFor.replicate true (retries + 1) []
  have hu : SilentFor false (retries + 1) (List.replicate (retries + 1) .silence) := by
    simpa using SilentFor.replicate false (retries + 1) []
  have hall : AllSilent (retries + 1) [true, false, true, true, true]
      (List.replicate 5 (.opened (List.replicate (retries + 1) .silence))) := ⟨hs, hu, hs, hs, hs, True.intro⟩
  exact (silent_queryAuto ext port st retries hh (Net.init _ []) rfl hall).counts.2.1

/-- Java alone: `3 · (retries + 1)`. -/
theorem C13_minecraft_java_send_bound_attained (ext : Ext) (port : Nat) (st : RequestSettings) (retries : Nat)
    (hh : st.hostname.length < 2 ^ 31) :
    nSends (queryJava ext port st retries (Net.init [.opened (List.replicate (retries + 1) .silence)] [])).2.log
      = 3 * (retries + 1) := by
  have hs : SilentFor true (retries + 1) (List.replicate (retries + 1) .silence) := by
    simpa using SilentFor.replicate true (retries + 1) []
  have hp : PendingSilent true (retries + 1) [.opened (List.replicate (retries + 1) .silence)] := hs
  exact (silent_queryJava ext port st retries hh (Net.init _ []) rfl hp).counts.2.1

example : (RequestSettings.default).hostname.length < 2 ^ 31 := by decide +kernel

example : nSends (queryAuto ⟨fun _ => none, fun _ => []⟩ 25565 RequestSettings.default 1
    (Net.init (List.replicate 5 (.opened [.silence, .silence])) [])).2.log = 14 := by decide +kernel
