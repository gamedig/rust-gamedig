import GdVerif.Lemmas.CliBson
import GdVerif.Lemmas.CliCodec
/-
  C19 — BSON's binary layout inside the model (`Proto/CliBson.lean`: the bytes `bson::to_vec(&result)` writes for the
  value serde hands it, and a reader written from bsonspec.org).

  For EVERY value (any nesting, any strings and keys, every Rust integer type at every value, every f64 bit pattern):
    * the serialiser fails exactly on what BSON cannot hold — a `u64` above `i64::MAX`, a key with a NUL in it (a key is
      a cstring: the crate answers `InvalidCString`, the tool exits non-zero with that message and prints nothing), a
      value that is not a document at the top — and otherwise writes the document;
    * the reader gives the value back, numbers in the BSON type the crate chose for their Rust type
      (i8 / i16 / i32 / u8 / u16 → int32, u32 / i64 / u64 → int64, f64 → double), and a value already in BSON's types
      comes back unchanged;
    * every int32 length field holds exactly the number of bytes the specification says it spans, every document and
      array ends with 0x00 and holds a well-formed element list, keys are cstrings, array keys are the decimal indices;
    * composed with hex / base64: the text the tool prints decodes to the value.
  The crate does not check that a length fits an int32 (it writes `len as i32`): the theorems ask for documents below
  2^31 bytes (`V.small`; the model writes the length modulo 2^32 as the crate does).  Strings and keys are UTF-8
  (`typed`; Rust `String`s are) — the reader checks it, as the crate's does.
-/
open Gd Gd.Cli

/-- the response of a Valve server with two rules, one of them named like an extended-JSON marker: Rust types as the
derive hands them over -/
def C19_bson_sample : VMembers :=
  .cons (asciiBytes "name") (.str (asciiBytes "srv"))
    (.cons (asciiBytes "players") (.arr (.cons (.num (.int .u8 200)) (.cons (.num (.int .i64 (-1))) (.cons (.num (.f64 0x3FF8000000000000)) .nil))))
      (.cons (asciiBytes "max") (.num (.int .u64 9223372036854775807))
        (.cons (asciiBytes "rules") (.doc (.cons (asciiBytes "$numberLong") (.str (asciiBytes "7")) (.cons [] .null .nil))) .nil)))

/-- FULL ROUND TRIP: for EVERY document the serialiser accepts (no `u64` above `i64::MAX`, no NUL in a key), of well-typed
numbers and UTF-8 text, below 2^31 bytes: `bson::to_vec` succeeds and the reader gives back the value, numbers in their
BSON type. -/
theorem C19_bson_decode_encode (ms : VMembers) (he : VMembers.encodable ms = true) (ht : VMembers.typed ms = true)
    (hs : V.small (.doc ms) = true) :
    bsonEncode (.doc ms) = .ok (encV (.doc ms)) ∧ bsonDecode (encV (.doc ms)) = some (.doc (VMembers.canon ms)) := by
  have hf := (VMembers.firstErr_none_iff ms).mpr he
  exact ⟨by simp [bsonEncode, hf], bsonDecode_enc ms hf ht hs⟩

example : VMembers.encodable C19_bson_sample = true ∧ VMembers.typed C19_bson_sample = true
    ∧ V.small (.doc C19_bson_sample) = true := by decide +kernel

/-- what comes back is made of BSON's own types, and a value that already is comes back UNCHANGED (so the reader is an
exact inverse on them: decode (encode v) = v) -/
theorem C19_bson_decode_encode_exact (ms : VMembers) (hb : VMembers.isBson ms = true) (he : VMembers.encodable ms = true)
    (ht : VMembers.typed ms = true) (hs : V.small (.doc ms) = true) :
    bsonDecode (encV (.doc ms)) = some (.doc ms) ∧ ∀ ms', VMembers.isBson (VMembers.canon ms') = true := by
  refine ⟨?_, VMembers.canon_isBson⟩
  have h := (C19_bson_decode_encode ms he ht hs).2
  rwa [VMembers.canon_of_isBson ms hb] at h

example : VMembers.isBson (VMembers.canon C19_bson_sample) = true ∧ VMembers.isBson C19_bson_sample = false := by
  decide +kernel

/-- THE SERIALISER FAILS EXACTLY ON WHAT BSON CANNOT HOLD: a document is written iff it holds no `u64` above `i64::MAX`
and no key with a NUL; the error is the first one met walking the value; nothing but a document is accepted at the top
(an error, not a panic). -/
theorem C19_bson_fails_exactly (v : V) :
    ((∃ b, bsonEncode v = .ok b) ↔ ∃ ms, v = .doc ms ∧ VMembers.encodable ms = true)
    ∧ (∀ ms e, v = .doc ms → (bsonEncode v = .error e ↔ VMembers.firstErr ms = some e))
    ∧ (∀ k x t, v = .doc (.cons k x t) → (0 : UInt8) ∈ k → bsonEncode v = .error .nulKey)
    ∧ (∀ k n t, v = .doc (.cons k (.num (.int .u64 n)) t) → (0 : UInt8) ∉ k → i64Max < n →
        bsonEncode v = .error .unsignedRange) := by
  refine ⟨⟨?_, ?_⟩, ?_, ?_, ?_⟩
  · rintro ⟨b, hb⟩
    cases v with
    | doc ms =>
      refine ⟨ms, rfl, (VMembers.firstErr_none_iff ms).mp ?_⟩
      cases hf : VMembers.firstErr ms with
      | none => rfl
      | some e => simp [bsonEncode, hf] at hb
    | num n => simp only [bsonEncode] at hb; split at hb <;> cases hb
    | _ => simp [bsonEncode] at hb
  · rintro ⟨ms, rfl, he⟩
    exact ⟨encV (.doc ms), by simp [bsonEncode, (VMembers.firstErr_none_iff ms).mpr he]⟩
  · rintro ms e rfl
    cases hf : VMembers.firstErr ms <;> simp [bsonEncode, hf]
  · rintro k x t rfl hk
    simp [bsonEncode, VMembers.firstErr, hk]
  · rintro k n t rfl hk hn
    simp [bsonEncode, VMembers.firstErr, hk, V.firstErr, Num.refused, hn]

example : bsonEncode (.doc (.cons [97, 0] .null .nil)) = .error .nulKey
    ∧ bsonEncode (.doc (.cons [97] (.num (.int .u64 9223372036854775808)) .nil)) = .error .unsignedRange
    ∧ bsonEncode (.arr .nil) = .error .notDocument
    ∧ bsonEncode (.doc .nil) = .ok [5, 0, 0, 0, 0] := ⟨rfl, rfl, rfl, rfl⟩

/-- THE LAYOUT: the bytes written are a document in the sense of the specification — the int32 at its head is the length
of the whole document, every embedded document, array and string carries the length of exactly the bytes it spans
(`WfVal.doc`, `.arr`, `.str`), each ends with 0x00, element lists nest properly, keys are cstrings. -/
theorem C19_bson_layout (ms : VMembers) (he : VMembers.encodable ms = true) (hs : V.small (.doc ms) = true) :
    WfVal 0x03 (encV (.doc ms))
    ∧ encV (.doc ms) = natLE 4 (encV (.doc ms)).length ++ encMembers ms ++ [0]
    ∧ leNat ((encV (.doc ms)).take 4) = (encV (.doc ms)).length := by
  have hl : (encV (.doc ms)).length = (encMembers ms).length + 5 := by
    simp only [encV, List.length_append, natLE_length, List.length_singleton]; omega
  have hsm : (encMembers ms).length + 5 < 2 ^ 31 := by
    simp only [V.small, Bool.and_eq_true, decide_eq_true_eq] at hs; exact hs.1
  refine ⟨encV_wf (.doc ms) (by simpa [V.encodable] using he) hs, ?_, ?_⟩
  · rw [hl]; simp [encV]
  · rw [hl]
    have : (encV (.doc ms)).take 4 = natLE 4 ((encMembers ms).length + 5) := by
      simp only [encV, List.append_assoc]
      exact List.take_left' (natLE_length 4 _)
    rw [this, leNat_natLE]
    exact Nat.mod_eq_of_lt (by omega)

example : encV (.doc C19_bson_sample) = natLE 4 108 ++ encMembers C19_bson_sample ++ [0]
    ∧ (encV (.doc C19_bson_sample)).length = 108 := by decide +kernel

/-- arrays are documents whose keys are the decimal indices, in order -/
theorem C19_bson_array_keys (i : Nat) (h : V) (t : VList) :
    encItems i (.cons h t) = h.tag :: (natDec i ++ [0] ++ encV h ++ encItems (i + 1) t) := by
  simp [encItems]

/-- THE PRINTED TEXT DECODES TO THE VALUE: `bson-hex` and `bson-base64` of every document the serialiser accepts, read
back through the hex / base64 decoder and the BSON reader. -/
theorem C19_bson_printed_text_decodes (ms : VMembers) (he : VMembers.encodable ms = true) (ht : VMembers.typed ms = true)
    (hs : V.small (.doc ms) = true) :
    ∃ b, bsonEncode (.doc ms) = .ok b
      ∧ (hexDecode (hexEncode b)).bind bsonDecode = some (.doc (VMembers.canon ms))
      ∧ (b64Decode (b64Encode b)).bind bsonDecode = some (.doc (VMembers.canon ms)) := by
  obtain ⟨h1, h2⟩ := C19_bson_decode_encode ms he ht hs
  exact ⟨_, h1, by simp [hexDecode_encode, h2], by simp [b64Decode_encode, h2]⟩
