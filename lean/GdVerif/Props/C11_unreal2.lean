import GdVerif.Props.C11
import GdVerif.Props.C09_unreal2
import GdVerif.Lemmas.Unreal2Faults
/-
  C11 (Unreal 2) — gather toggles.  Server info is always required; mutators-and-rules and players
  each have a toggle.  "Absent" is the default `MutatorsAndRules` / the empty `Players`.
  `maybe_gather!` itself is `C11_skip / C11_try_* / C11_enforce_*` in `Props/C11.lean`; here is how
  `Unreal2Protocol::query` composes it, for every script, and the full toggle × outcome table on the
  SPEC's scripts.
-/
open Gd Gd.Unreal2 Gd.Unreal2.Spec

/-- Skip: a section set to Skip is never requested.  For EVERY script: every request the query sends
is the server-info request or the request of a section that is not set to Skip. -/
theorem C11_unreal2_skip_never_requested (port : Nat) (g : Gather) (retries : Nat) (script : List ConnScript)
    (faults : List Bool) :
    ∀ e ∈ (query port g retries (Net.init script faults)).2.log, ∀ c p data f, e = .send c p data f →
      ∃ kind : PacketKind, data = requestBytes kind ∧
        (kind = .mutatorsAndRules → g.mutatorsAndRules ≠ .skip) ∧ (kind = .players → g.players ≠ .skip) := by
  let P : Ev → Prop := fun e => ∀ c p data f, e = Ev.send c p data f →
      ∃ kind : PacketKind, data = requestBytes kind ∧
        (kind = .mutatorsAndRules → g.mutatorsAndRules ≠ .skip) ∧ (kind = .players → g.players ≠ .skip)
  have hbody : ∀ s : Sock, s.tcp = false → QSafe s P (queryBody s g retries) := by
    intro s hudp
    refine (qsafe_queryBody_kinds s hudp g retries).mono ?_
    intro e he c p data f heq
    subst heq
    obtain ⟨_, _, kind, hk, hd⟩ := he
    refine ⟨kind, hd, ?_, ?_⟩
    · intro h; subst h; exact hk
    · intro h; subst h; exact hk
  exact log_of_init (P := fun _ => P) (query_log_all P port g retries hbody
    (fun _ _ _ _ c p data f h => by cases h) (Net.init script faults))

/-- The body of the query once the socket is open and the server info has been obtained: exactly the
two `maybe_gather!` sections in this order, the password flag taken from the gathered rules. -/
theorem C11_unreal2_after_info (port : Nat) (g : Gather) (r : Nat) (w w0 w1 : Net) (s : Sock) (info : ServerInfo)
    (hopen : openSock false port w = (.ok s, w0)) (hinfo : queryServerInfo s r w0 = (.ok info, w1)) :
    query port g r w =
      (do
        let mr ← maybeGather g.mutatorsAndRules (queryRules s r)
        let mr := mr.getD .empty
        let info := applyPassword info mr
        let players ← maybeGather g.players (queryPlayers s r info.numPlayers)
        pure (⟨info, mr, players.getD .empty⟩ : Response)) w1 := by
  rw [query_eq, Q.bind_ok hopen]
  unfold queryBody
  rw [Q.bind_ok hinfo]

/-- Server info is always required: its failure is the query's failure. -/
theorem C11_unreal2_info_required (port : Nat) (g : Gather) (r : Nat) (w w0 w1 : Net) (s : Sock) (k : ErrKind)
    (hopen : openSock false port w = (.ok s, w0)) (hinfo : queryServerInfo s r w0 = (.err k, w1)) :
    query port g r w = (.err k, w1) := by
  rw [query_eq, Q.bind_ok hopen]
  unfold queryBody
  rw [Q.bind_err hinfo]

/-- … and a skipped section is absent from the response (for every script). -/
theorem C11_unreal2_skip_absent (port : Nat) (retries : Nat) (pl : Toggle) (w : Net) (resp : Response) (w' : Net)
    (h : query port ⟨pl, .skip⟩ retries w = (.ok resp, w')) : resp.mutatorsAndRules = .empty := by
  unfold query at h
  obtain ⟨s, w0, _, h⟩ := Q.bind_ok_inv h
  unfold queryBody at h
  obtain ⟨info, w1, _, h⟩ := Q.bind_ok_inv h
  rw [Q.bind_ok (C11_skip _ w1)] at h
  obtain ⟨players, w2, _, h⟩ := Q.bind_ok_inv h
  cases h
  rfl

/-- Enforce on mutators-and-rules, section fails with `k` (timeout or malformed): the whole query
fails with `k`, and nothing more is requested. -/
theorem C11_unreal2_enforce_rules_fail (port : Nat) (pl : Toggle) (r : Nat) (w w0 w1 w2 : Net) (s : Sock)
    (info : ServerInfo) (k : ErrKind) (hopen : openSock false port w = (.ok s, w0))
    (hinfo : queryServerInfo s r w0 = (.ok info, w1)) (hrules : queryRules s r w1 = (.err k, w2)) :
    query port ⟨pl, .enforce⟩ r w = (.err k, w2) := by
  rw [C11_unreal2_after_info port _ r w w0 w1 s info hopen hinfo]
  exact Q.bind_err (C11_enforce_fail _ w1 w2 k hrules)

/-- Try on mutators-and-rules, section fails (any error): the query goes on exactly as it would with
the section absent — players are gathered next, the rest of the response is intact. -/
theorem C11_unreal2_try_rules_fail (port : Nat) (pl : Toggle) (r : Nat) (w w0 w1 w2 : Net) (s : Sock)
    (info : ServerInfo) (k : ErrKind) (hopen : openSock false port w = (.ok s, w0))
    (hinfo : queryServerInfo s r w0 = (.ok info, w1)) (hrules : queryRules s r w1 = (.err k, w2)) :
    query port ⟨pl, .try_⟩ r w =
      (do
        let players ← maybeGather pl (queryPlayers s r info.numPlayers)
        pure (⟨info, .empty, players.getD .empty⟩ : Response)) w2 := by
  rw [C11_unreal2_after_info port _ r w w0 w1 s info hopen hinfo, Q.bind_ok (C11_try_fail _ w1 w2 k hrules)]
  simp only [Option.getD_none, applyPassword_empty]

/-- Enforce on players, section fails with `k`: the whole query fails with `k` (this is the repaired
defect: a silent server used to give `Ok` with no players). -/
theorem C11_unreal2_enforce_players_fail (port : Nat) (mrt : Toggle) (r : Nat) (w w0 w1 w2 w3 : Net) (s : Sock)
    (info : ServerInfo) (mr : Option MutatorsAndRules) (k : ErrKind) (hopen : openSock false port w = (.ok s, w0))
    (hinfo : queryServerInfo s r w0 = (.ok info, w1))
    (hrules : maybeGather mrt (queryRules s r) w1 = (.ok mr, w2))
    (hplayers : queryPlayers s r (applyPassword info (mr.getD .empty)).numPlayers w2 = (.err k, w3)) :
    query port ⟨.enforce, mrt⟩ r w = (.err k, w3) := by
  rw [C11_unreal2_after_info port _ r w w0 w1 s info hopen hinfo, Q.bind_ok hrules]
  exact Q.bind_err (C11_enforce_fail _ w2 w3 k hplayers)

/-- Try on players, section fails: the response is intact with no players. -/
theorem C11_unreal2_try_players_fail (port : Nat) (mrt : Toggle) (r : Nat) (w w0 w1 w2 w3 : Net) (s : Sock)
    (info : ServerInfo) (mr : Option MutatorsAndRules) (k : ErrKind) (hopen : openSock false port w = (.ok s, w0))
    (hinfo : queryServerInfo s r w0 = (.ok info, w1))
    (hrules : maybeGather mrt (queryRules s r) w1 = (.ok mr, w2))
    (hplayers : queryPlayers s r (applyPassword info (mr.getD .empty)).numPlayers w2 = (.err k, w3)) :
    query port ⟨.try_, mrt⟩ r w = (.ok ⟨applyPassword info (mr.getD .empty), mr.getD .empty, .empty⟩, w3) := by
  rw [C11_unreal2_after_info port _ r w w0 w1 s info hopen hinfo, Q.bind_ok hrules]
  exact Q.bind_ok (C11_try_fail _ w2 w3 k hplayers)

/-- The players request itself reports its failure (it used to be swallowed): if the first request of
`query_players` fails with `k`, `query_players` fails with `k`. -/
theorem C11_unreal2_players_reports_failure (s : Sock) (r n : Nat) (w w' : Net) (k : ErrKind)
    (h : requestData s r .players w = (.err k, w')) : queryPlayers s r n w = (.err k, w') := by
  unfold queryPlayers
  exact Q.bind_err h

/-- The full table on the SPEC's scripts — all 9 toggle pairs × each section {answered, silent,
malformed} × any retry count × any server state of the domain: the query returns what the table
`Spec.sectionResult` says (Skip / failed Try → absent, rest intact; failed Enforce → that failure:
`PacketReceive` for a silent server, `PacketBad` for a malformed answer). -/
theorem C11_unreal2_table (cfg : Config) (st : State) (hwf : wf cfg st = true) (port : Nat) :
    (query port cfg.gather cfg.retries (Net.init [.opened (script cfg st)] [])).1 =
      (do
        let mr ← sectionResult cfg.gather.mutatorsAndRules cfg.rulesOutcome (expectedMR st)
        let mr := mr.getD .empty
        let players ← sectionResult cfg.gather.players cfg.playersOutcome (expectedPlayers st)
        pure ⟨⟨st.serverId, st.ip.text, st.gamePort, st.queryPort, st.name.text, st.map.text, st.gameType.text,
                st.numPlayers, st.maxPlayers, expectedPassword mr⟩, mr, players.getD .empty⟩) :=
  query_spec cfg st hwf port

/-- In particular the repaired defect, on the wire: players = Enforce and a server that answers the
info (and rules) request but never the players request → the query fails with `PacketReceive`. -/
theorem C11_unreal2_enforce_players_silent (cfg : Config) (st : State) (hwf : wf cfg st = true) (port : Nat)
    (h1 : cfg.gather.players = .enforce) (h2 : cfg.playersOutcome = .silent) (h3 : rulesFatal cfg = false) :
    (query port cfg.gather cfg.retries (Net.init [.opened (script cfg st)] [])).1 = .err .packetReceive := by
  obtain ⟨o, ho⟩ := sectionResult_of_not_rulesFatal h3 (expectedMR st)
  rw [query_spec cfg st hwf port]
  unfold expected
  rw [ho, h1, h2]
  rfl

example : sectionResult .enforce .silent (0 : Nat) = .err .packetReceive
    ∧ sectionResult .try_ .malformed (0 : Nat) = .ok none ∧ sectionResult .skip .valid (0 : Nat) = .ok none := by
  decide
