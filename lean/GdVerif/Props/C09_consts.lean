import GdVerif.Gen.Consts
import GdVerif.Spec.Valve
import GdVerif.Spec.Gs1
import GdVerif.Spec.Gs2
import GdVerif.Spec.Gs3
import GdVerif.Spec.Quake
import GdVerif.Spec.Unreal2
import GdVerif.Spec.Minecraft
import GdVerif.Spec.Ffow
import GdVerif.Spec.Jc2m
import GdVerif.Spec.Savage2
import GdVerif.Spec.Mindustry
import GdVerif.Spec.TheShip
import GdVerif.Spec.Battalion
import GdVerif.Spec.Eco
import GdVerif.Proto.Master
import GdVerif.Proto.Dispatch
import GdVerif.Props.C09
/-
  C09 — the request constants of the SOURCE, of the MODEL and of the SPEC are the same (tie by TRANSLATION).

  `Gd.Gen.Consts.*` is regenerated from crates/lib/src on every run (tools/xlate.py `gen_consts`): request byte
  literals, request / packet kinds, the receive-buffer sizes the requests are answered into, default ports.  Every
  theorem below is proved by evaluation: a changed constant in the source changes the generated side and the theorem
  stops checking, whether or not a generated case of the differential happens to exercise it.  Where the SPEC states the literal independently the triangle
  source = model = spec is closed.
-/
open Gd Gd.Gen

/-! ### Valve -/

/-- `enum Request { Info = 0x54, Players = 0x55, Rules = 0x56 }` = `Valve.Request.kind` -/
theorem C09_consts_valve_request_kinds :
    [("Info", Valve.Request.info.kind), ("Players", Valve.Request.players.kind), ("Rules", Valve.Request.rules.kind)]
      = Consts.valve_request_kinds := by rfl

/-- `Request::get_default_payload`: `"Source Engine Query\0"` for Info = `Valve.infoPayload` -/
theorem C09_consts_valve_request_info :
    Valve.infoPayload = Consts.valve_info_payload ∧ Valve.Request.info.defaultPayload = Consts.valve_info_payload := by
  decide +kernel

/-- … and `FF FF FF FF` (no challenge yet) for the other two = `Valve.Request.defaultPayload`, = SPEC `noChallenge` -/
theorem C09_consts_valve_request_default_payload :
    Valve.Request.players.defaultPayload = Consts.valve_default_payload
    ∧ Valve.Request.rules.defaultPayload = Consts.valve_default_payload
    ∧ Valve.Spec.noChallenge = Consts.valve_default_payload := by
  decide +kernel

/-- `Packet::new` / `to_bytes`: header `u32::MAX` big-endian, kind, payload = `Valve.packetBytes`; = SPEC `header` -/
theorem C09_consts_valve_packet_header (kind : Nat) (payload : Bytes) :
    Valve.packetBytes kind payload = Consts.valve_packet_header ++ [UInt8.ofNat kind] ++ payload
    ∧ Valve.Spec.header = Consts.valve_packet_header := ⟨rfl, rfl⟩

/-- the SPEC's three A2S requests are the source's header, kinds and payloads -/
theorem C09_consts_valve_spec_requests :
    [Valve.Spec.a2sInfoRequest, Valve.Spec.a2sPlayerRequest Valve.Spec.noChallenge, Valve.Spec.a2sRulesRequest Valve.Spec.noChallenge]
      = List.zipWith (fun k p => Consts.valve_packet_header ++ [UInt8.ofNat k.2] ++ p) Consts.valve_request_kinds
          [Consts.valve_info_payload, Consts.valve_default_payload, Consts.valve_default_payload] := by
  decide +kernel

/-- `static PACKET_SIZE: usize = 6144` = `Valve.PACKET_SIZE` (the size of every receive, `C09_valve_conforms`) -/
theorem C09_consts_valve_packet_size : Valve.PACKET_SIZE = Consts.valve_packet_size := rfl

/-- `while packet.kind == 0x41`: a reply of any other kind ends the exchange, a reply of that kind is answered by
the request carrying its payload (the model's loop, for every reply) -/
theorem C09_consts_valve_challenge_kind (ext : Valve.Ext) (s : Sock) (engine : Valve.Engine) (protocol kind fuel : Nat)
    (p : Valve.Packet) (w : Net) :
    (p.kind ≠ Consts.valve_challenge_kind →
      Valve.challengeLoop ext s engine protocol kind (fuel + 1) p w = (.ok p.payload, w))
    ∧ (p.kind = Consts.valve_challenge_kind →
      Valve.challengeLoop ext s engine protocol kind (fuel + 1) p w
        = (do
            Gd.send s (Valve.packetBytes kind (if kind == 0x54 then Valve.infoPayload ++ p.payload else p.payload))
            let reply ← Valve.receive ext s engine protocol
            Valve.challengeLoop ext s engine protocol kind fuel reply) w) := by
  constructor
  · intro h
    exact C09_valve_no_more_after_answer ext s engine protocol kind fuel p h w
  · intro h
    have h' : (p.kind == 0x41) = true := by simpa [Consts.valve_challenge_kind] using h
    simp only [Valve.challengeLoop, h', ↓reduceIte]

/-- SPEC: a challenge reply is a reply of that kind -/
theorem C09_consts_valve_spec_challenge (c : Bytes) :
    Valve.Spec.challengeReply c = Valve.Spec.reply Consts.valve_challenge_kind c := rfl

/-! ### GameSpy 1 / 2 / 3 -/

/-- `socket.send(b"\\status\\xserverquery")` = `Gs1.statusRequest` = the SPEC's request -/
theorem C09_consts_gs1_request :
    Gs1.statusRequest = Consts.gs1_status_request ∧ Gs1.Spec.requests = [Consts.gs1_status_request] := by decide +kernel

theorem C09_consts_gs1_packet_size : Gs1.PACKET_SIZE = Consts.gs1_packet_size := rfl

/-- `[0xFE, 0xFD, 0x00, 0x00, 0x00, 0x00, 0x01, 0xFF, 0xFF, 0xFF]` = `Gs2.request` = the SPEC's request -/
theorem C09_consts_gs2_request :
    Gs2.request = Consts.gs2_request ∧ Gs2.Spec.requests = [Consts.gs2_request] := by decide +kernel

theorem C09_consts_gs2_packet_size : Gs2.PACKET_SIZE = Consts.gs2_packet_size := rfl

/-- `THIS_SESSION_ID`, `PACKET_SIZE`, `DEFAULT_PAYLOAD` -/
theorem C09_consts_gs3_constants :
    Gs3.SESSION_ID = Consts.gs3_session_id ∧ Gs3.PACKET_SIZE = Consts.gs3_packet_size
    ∧ Gs3.DEFAULT_PAYLOAD = Consts.gs3_default_payload
    ∧ Gs3.Spec.sessionId = natBE 4 Consts.gs3_session_id := by decide +kernel

/-- `RequestPacket { header: 65277, kind, session_id: THIS_SESSION_ID, challenge, payload }.to_bytes()` =
`Gs3.requestBytes`, for every kind, challenge and payload -/
theorem C09_consts_gs3_request_packet (kind : Nat) (challenge : Option Int) (payload : Option Bytes) :
    Gs3.requestBytes kind challenge payload
      = natBE 2 Consts.gs3_request_header ++ [UInt8.ofNat kind] ++ natBE 4 Consts.gs3_session_id
        ++ (match challenge with | some c => natBE 4 (ofSigned 32 c) | none => [])
        ++ (match payload with | some p => p | none => []) := rfl

/-- the handshake is sent with kind 9 and answered into a 16-byte buffer as kind 9; the data request has kind 0 and
is answered as kind 0 (what `makeInitialHandshake` / `sendDataRequest` / the receive loop of the model do) -/
theorem C09_consts_gs3_kinds (s : Sock) (payload : Bytes) (challenge : Option Int) :
    Gs3.makeInitialHandshake s = (do
        Gd.send s (Gs3.requestBytes Consts.gs3_handshake_kind none none)
        let data ← Gs3.receive s (some (Consts.gs3_handshake_receive.getD 0 0)) (Consts.gs3_handshake_receive.getD 1 0)
        parse Gs3.parseChallenge data)
    ∧ Gs3.sendDataRequest s payload challenge = Gd.send s (Gs3.requestBytes Consts.gs3_data_kind challenge (some payload))
    ∧ Consts.gs3_handshake_receive.length = 2 := ⟨rfl, rfl, rfl⟩

/-- SPEC: handshake and data request from the source's header, kinds, session id and payload (∀ challenges) -/
theorem C09_consts_gs3_spec_requests (c : Int) :
    Gs3.Spec.handshakeRequest
      = natBE 2 Consts.gs3_request_header ++ [UInt8.ofNat Consts.gs3_handshake_kind] ++ natBE 4 Consts.gs3_session_id
    ∧ Gs3.Spec.dataRequest c
      = natBE 2 Consts.gs3_request_header ++ [UInt8.ofNat Consts.gs3_data_kind] ++ natBE 4 Consts.gs3_session_id
        ++ (if c = 0 then [] else natBE 4 (ofSigned 32 c)) ++ Consts.gs3_default_payload := ⟨rfl, rfl⟩

/-! ### Quake -/

/-- `get_send_header` of the three clients = `Quake.Version.sendHeader` -/
theorem C09_consts_quake_send_headers :
    [("One", Quake.Version.one.sendHeader), ("Two", Quake.Version.two.sendHeader), ("Three", Quake.Version.three.sendHeader)]
      = Consts.quake_send_headers := by decide +kernel

/-- `[&[0xFF, 0xFF, 0xFF, 0xFF], send header, &[0x00]].concat()` = `Quake.request` = the SPEC's request -/
theorem C09_consts_quake_request (v : Quake.Version) :
    Quake.request v = (Consts.quake_request_frame.getD 0 []) ++ v.sendHeader ++ (Consts.quake_request_frame.getD 1 [])
    ∧ Quake.Spec.request v = (Consts.quake_request_frame.getD 0 []) ++ v.sendHeader ++ (Consts.quake_request_frame.getD 1 [])
    ∧ Consts.quake_request_frame.length = 2 := by
  cases v <;> decide +kernel

theorem C09_consts_quake_packet_size : Quake.PACKET_SIZE = Consts.quake_packet_size := rfl

/-! ### Unreal 2 -/

/-- `enum PacketKind { ServerInfo = 0, MutatorsAndRules = 1, Players = 2 }` = `Unreal2.PacketKind.code` -/
theorem C09_consts_unreal2_packet_kinds :
    [("ServerInfo", Unreal2.PacketKind.serverInfo.code), ("MutatorsAndRules", Unreal2.PacketKind.mutatorsAndRules.code),
     ("Players", Unreal2.PacketKind.players.code)] = Consts.unreal2_packet_kinds := by rfl

/-- `[0x79, 0, 0, 0, packet_type as u8]` = `Unreal2.requestBytes` = the SPEC's request -/
theorem C09_consts_unreal2_request (k : Unreal2.PacketKind) :
    Unreal2.requestBytes k = Consts.unreal2_request_prefix ++ [UInt8.ofNat k.code]
    ∧ Unreal2.Spec.request k.code = Consts.unreal2_request_prefix ++ [UInt8.ofNat k.code] := by
  cases k <;> decide +kernel

theorem C09_consts_unreal2_packet_size : Unreal2.PACKET_SIZE = Consts.unreal2_packet_size := rfl

/-! ### Minecraft -/

/-- Bedrock: the unconnected ping = `Mc.bedrockRequest` = the SPEC's -/
theorem C09_consts_mc_bedrock_request :
    Mc.bedrockRequest = Consts.mc_bedrock_request ∧ Mc.Spec.bedrockRequests = [Consts.mc_bedrock_request] := by decide +kernel

/-- legacy 1.6 / 1.4 / beta 1.8: `send_initial_request` = `Mc.legacyRequest` = the SPEC's -/
theorem C09_consts_mc_legacy_requests :
    [("v1_6", Mc.legacyRequest .v1_6), ("v1_4", Mc.legacyRequest .v1_4), ("vb1_8", Mc.legacyRequest .vb1_8)]
      = Consts.mc_legacy_requests
    ∧ [("v1_6", Mc.Spec.legacyRequests .v1_6), ("v1_4", Mc.Spec.legacyRequests .v1_4), ("vb1_8", Mc.Spec.legacyRequests .vb1_8)]
      = Consts.mc_legacy_requests.map (fun p => (p.1, [p.2])) := by decide +kernel

/-- Java: packet id and next state of the handshake, the status request, the (payload-less) ping =
`Mc.javaHandshakePayload` / `javaSendStatusRequest` / `javaSendPingRequest` -/
theorem C09_consts_mc_java_packet_ids (s : Sock) :
    Consts.mc_java_packet_ids = [("handshake_id", [0x00]), ("next_state", [0x01]), ("status", [0x00]), ("ping", [0x01])]
    ∧ Mc.javaSendStatusRequest s = Mc.javaSend s [0x00] ∧ Mc.javaSendPingRequest s = Mc.javaSend s [0x01] :=
  ⟨by rfl, rfl, rfl⟩

/-- `impl Default for RequestSettings`: host name `gamedig`, protocol version -1 = `Mc.RequestSettings.default` -/
theorem C09_consts_mc_request_settings_default :
    [("hostname", Mc.RequestSettings.default.hostname), ("protocol_version", intDec Mc.RequestSettings.default.protocolVersion)]
      = Consts.mc_request_settings_default.map (fun p => (p.1, asciiBytes p.2)) := by decide +kernel

/-- `port_or_java_default` / `port_or_bedrock_default` = the dispatch model's defaults -/
theorem C09_consts_mc_default_ports :
    [("java", Dispatch.mcJavaDefaultPort), ("bedrock", Dispatch.mcBedrockDefaultPort)] = Consts.mc_default_ports := by rfl

/-! ### single games -/

/-- FFOW: `get_request_data(&Engine::GoldSrc(true), 0, 0x46, "LSQ")` = `Ffow.KIND` / `Ffow.lsq`; SPEC `lsqRequest` -/
theorem C09_consts_ffow_request :
    [("goldsrc_force", [1]), ("protocol", [0]), ("kind", [UInt8.ofNat Ffow.KIND]), ("payload", Ffow.lsq)] = Consts.ffow_request
    ∧ Ffow.Spec.lsqRequest = Consts.valve_packet_header ++ [UInt8.ofNat Ffow.KIND] ++ Ffow.lsq := by decide +kernel

/-- JC2M: the payload given to `GameSpy3::new_custom` = `Jc2m.PAYLOAD`; SPEC: its data request ends with it -/
theorem C09_consts_jc2m_payload (c : Int) :
    Jc2m.PAYLOAD = Consts.jc2m_payload
    ∧ Jc2m.Spec.dataRequest c = [0xFE, 0xFD, 0x00] ++ Gs3.Spec.sessionId ++ (if c = 0 then [] else natBE 4 (ofSigned 32 c))
        ++ Consts.jc2m_payload := ⟨rfl, rfl⟩

/-- Savage 2: `socket.send(&[0x01])` -/
theorem C09_consts_savage2_request :
    Savage2.request = Consts.savage2_request ∧ Savage2.Spec.infoRequest = Consts.savage2_request := by decide +kernel

/-- Mindustry: `[-2i8 as u8, 1i8 as u8]`, `MAX_BUFFER_SIZE` -/
theorem C09_consts_mindustry_request :
    Mindustry.ping = Consts.mindustry_ping ∧ Mindustry.Spec.pingRequest = Consts.mindustry_ping
    ∧ Mindustry.MAX_BUFFER_SIZE = Consts.mindustry_max_buffer_size := by decide +kernel

/-- the `port.unwrap_or(n)` of every hand-written game module = the model's `DEFAULT_PORT`s = the SPEC's -/
theorem C09_consts_game_default_ports :
    [("ffow", Ffow.DEFAULT_PORT), ("jc2m", Jc2m.DEFAULT_PORT), ("savage2", Savage2.DEFAULT_PORT),
     ("theship", TheShip.DEFAULT_PORT), ("battalion1944", Battalion.DEFAULT_PORT), ("eco", Eco.DEFAULT_PORT),
     ("mindustry", Mindustry.DEFAULT_PORT)] = Consts.game_default_ports
    ∧ [("ffow", Ffow.Spec.defaultPort), ("jc2m", Jc2m.DEFAULT_PORT), ("savage2", Savage2.Spec.defaultPort),
     ("theship", TheShip.Spec.defaultPort), ("battalion1944", Battalion.Spec.defaultPort), ("eco", Eco.Spec.defaultPort),
     ("mindustry", Mindustry.Spec.defaultPort)] = Consts.game_default_ports := ⟨by rfl, by rfl⟩

/-- `Engine::new(2400)` (The Ship), `Engine::new(489_940)` (Battalion 1944) -/
theorem C09_consts_game_engines :
    [("theship", TheShip.ENGINE), ("battalion1944", Battalion.ENGINE)]
      = Consts.game_engines.map (fun p => (p.1, Valve.Engine.new p.2)) := by rfl

/-- Eco: the path of the document -/
theorem C09_consts_eco_path : Eco.PATH = Consts.eco_path := by rfl

/-! ### the master server -/

/-- `default_master_address()`: port 27011 = `Master.masterPort` -/
theorem C09_consts_master_port : Consts.master_default_address[4]? = some Master.masterPort := by rfl

/-- `construct_payload`: `'1'`, region, seed ip, `':'`, seed port, NUL, filters = `Master.constructPayload`; no filters =
one NUL -/
theorem C09_consts_master_payload (region : Nat) (filters seedIp : Bytes) (seedPort : Nat) :
    Master.constructPayload region filters seedIp seedPort
      = Consts.master_payload_frame.getD 0 [] ++ [UInt8.ofNat region] ++ seedIp ++ Consts.master_payload_frame.getD 1 []
        ++ natDec seedPort ++ Consts.master_payload_frame.getD 2 [] ++ filters
    ∧ Master.filterBytesOf none = Consts.master_payload_frame.getD 3 []
    ∧ Consts.master_payload_frame.length = 4 := ⟨rfl, rfl, rfl⟩

/-- the seed of the first page and the end marker: `"0.0.0.0"` everywhere = `Master.zeroIp` -/
theorem C09_consts_master_zero_address :
    Consts.master_zero_address.map asciiBytes = List.replicate 4 Master.zeroIp := rfl

/-- `self.socket.receive(Some(1400))`: the buffer of `Master.querySpecific` -/
theorem C09_consts_master_receive_size (s : Sock) (region : Nat) (fb ip : Bytes) (port : Nat) :
    Master.querySpecific s region fb ip port = (do
      Gd.send s (Master.constructPayload region fb ip port)
      let data ← Gd.recv s (some Consts.master_receive_size)
      parse Master.parsePage data) := rfl

/-! ### the transport -/

/-- `const DEFAULT_PACKET_SIZE: usize = 1024`: what `receive(None)` (Savage 2, Bedrock) reads of a datagram -/
theorem C09_consts_socket_default_packet_size (s : Sock) (hudp : s.tcp = false) (d : Bytes) (rest : List Delivery) (w : Net)
    (h : w.conns.getD s.id [] = .data d :: rest) :
    (Gd.recv s none w).1 = .ok (d.take Consts.socket_default_packet_size) := by
  simp only [Gd.recv, h, hudp]
  rfl

example : Consts.valve_challenge_kind = 0x41 := rfl
example : (Gd.recv ⟨0, 1, false⟩ none ⟨[], [[.data [1, 2, 3]]], [], []⟩).1 = .ok [1, 2, 3] := rfl
