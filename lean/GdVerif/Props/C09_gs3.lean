import GdVerif.Lemmas.Gs3Extra
/-
  C09 (GameSpy 3) — requests are the protocol's, go to the right port, and echo the challenge.

  SPEC: `GdVerif/Spec/Gs3.lean` (`handshakeRequest`, `dataRequest`, `handshakeReply`), the reference
  reading being node-gamedig `gamespy3.js`: the server sends its challenge as decimal text; the data
  request carries it as a big-endian i32, and the text `0` means "no challenge": no challenge bytes.
-/
open Gd Gd.Gs3

/-- The two requests are byte for byte the specification's, for every challenge value in i32. -/
theorem C09_gs3_request_bytes (c : Int) :
    requestBytes 9 none none = Spec.handshakeRequest
    ∧ requestBytes 0 (if c = 0 then none else some c) (some DEFAULT_PAYLOAD) = Spec.dataRequest c :=
  ⟨handshakeRequest_eq, dataRequest_eq c⟩

/-- what the exchange may log (`QueryEvOk`, socket 0), spelled out event by event -/
theorem C09_gs3_event {port : Nat} (e : Ev) : QueryEvOk port 0 DEFAULT_PAYLOAD e →
    match e with
    | .opened c tcp p _ => c = 0 ∧ tcp = false ∧ p = port
    | .send c p data _ => c = 0 ∧ p = port ∧
        (data = Spec.handshakeRequest ∨ ∃ ch : Option Int, data = requestBytes 0 ch (some DEFAULT_PAYLOAD))
    | .recv c size _ => c = 0 ∧ (size = some 16 ∨ size = some 2048) := by
  cases e with
  | opened c tcp p r => exact id
  | send c p d f => exact fun h => ⟨h.1, h.2.1, h.2.2.imp (fun h3 => h3.trans handshakeRequest_eq) id⟩
  | recv c s gt => exact id

/-- Whatever the server does (any script, any send faults), every datagram `query` emits goes out of
the one UDP socket it opened, to the port it was given, and is the handshake request or the data
request with the default payload (with or without a challenge); receives use the 16-byte and the
2048-byte buffer; nothing else is done to the transport. -/
theorem C09_gs3_conforms (port retries : Nat) (script : List ConnScript) (faults : List Bool) :
    ∀ e ∈ (query port retries (Net.init script faults)).2.log,
      match e with
      | .opened c tcp p _ => c = 0 ∧ tcp = false ∧ p = port
      | .send c p data _ => c = 0 ∧ p = port ∧
          (data = Spec.handshakeRequest ∨ ∃ ch : Option Int, data = requestBytes 0 ch (some DEFAULT_PAYLOAD))
      | .recv c size _ => c = 0 ∧ (size = some 16 ∨ size = some 2048) := by
  intro e he
  rw [query_eq] at he
  exact C09_gs3_event e ((exchange_run port retries _ false _ buildResponse_ne script faults).2 e he)

/-- The same for `query_vars`. -/
theorem C09_gs3_vars_conforms (port retries : Nat) (script : List ConnScript) (faults : List Bool) :
    ∀ e ∈ (queryVars port retries (Net.init script faults)).2.log,
      match e with
      | .opened c tcp p _ => c = 0 ∧ tcp = false ∧ p = port
      | .send c p data _ => c = 0 ∧ p = port ∧
          (data = Spec.handshakeRequest ∨ ∃ ch : Option Int, data = requestBytes 0 ch (some DEFAULT_PAYLOAD))
      | .recv c size _ => c = 0 ∧ (size = some 16 ∨ size = some 2048) := by
  intro e he
  rw [queryVars_eq] at he
  exact C09_gs3_event e ((exchange_run port retries _ false _ buildVars_ne script faults).2 e he)

/-- The challenge is understood, for EVERY i32 value `c`: the server's handshake reply carrying the
decimal text of `c`, as it lands in the client's 16-byte buffer (for `-2147483648` the final NUL
does not fit), is decoded to `c` — and to "no challenge" for `0`. -/
theorem C09_gs3_challenge_decoded (c : Int) (hlo : -(2 ^ 31 : Int) ≤ c) (hhi : c < 2 ^ 31) :
    ((readHeader 9).run ((Spec.handshakeReply c).take 16) >>= fun d => parseChallenge.run d)
      = .ok (if c = 0 then none else some c) :=
  handshake_decoded c hlo hhi

/-- Challenge echo, for EVERY i32 value `c` (no enumeration): in an attempt where the server answers
the handshake with the decimal text of `c` (and no send fails), whatever else the server sends
afterwards, the client sends exactly two datagrams: the handshake request, then the data request
`FE FD 00 <session id> <c as big-endian i32> FF FF FF 01` — without the four challenge bytes when
`c = 0` — and nothing else. -/
theorem C09_gs3_echo (c : Int) (hlo : -(2 ^ 31 : Int) ≤ c) (hhi : c < 2 ^ 31)
    (s : Sock) (hudp : s.tcp = false) (w : Net) (later : List Bytes)
    (hq : w.conns.getD s.id [] = .data (Spec.handshakeReply c) :: later.map .data) (hf : w.faults = []) :
    sentOf (getServerPacketsImpl s DEFAULT_PAYLOAD false w).2.log
      = sentOf w.log ++ [Spec.handshakeRequest, Spec.dataRequest c] := by
  rw [(impl_after_handshake s hudp DEFAULT_PAYLOAD w c hlo hhi later hq hf).2,
    (C09_gs3_request_bytes c).1, (C09_gs3_request_bytes c).2]

/-- the encoding of the echoed challenge is the two's-complement big-endian i32: decoding the four
bytes gives `c` back, for every i32 `c` -/
theorem C09_gs3_challenge_bytes (c : Int) (hlo : -(2 ^ 31 : Int) ≤ c) (hhi : c < 2 ^ 31) :
    (readSigned .big 4).run (natBE 4 (ofSigned 32 c)) = .ok c :=
  (decodes_signed .big 4 (by omega) c (by simpa using hlo) (by simpa using hhi)).run

/-- Nothing else is sent: in the whole exchange with the SPEC's server for a well-formed state
(whatever the arrival order of the data packets), the datagrams `query` and `query_vars` send are
exactly the SPEC's request list — the handshake request and one data request carrying the challenge. -/
theorem C09_gs3_nothing_else (cfg : Spec.Config) (st : Spec.State) (h : Spec.wf cfg st = true) (port retries : Nat)
    (arrival : List Bytes) (harr : arrival.Perm (Spec.dataPackets cfg st)) :
    sentOf (query port retries (Net.init [.opened ((Spec.handshakeReply cfg.challenge :: arrival).map .data)] [])).2.log
      = Spec.requests cfg
    ∧ sentOf (queryVars port retries (Net.init [.opened ((Spec.handshakeReply cfg.challenge :: arrival).map .data)] [])).2.log
      = Spec.requests cfg := by
  rw [query_eq, queryVars_eq]
  exact ⟨(exchange_spec cfg st h port retries buildResponse arrival harr).2,
    (exchange_spec cfg st h port retries buildVars arrival harr).2⟩

/-- The same when the server also sends field sections the client has no place for (`Spec.ConfigX`,
any allowed extra sections at any positions): the two requests and nothing else. -/
theorem C09_gs3_nothing_else_extra (cfg : Spec.ConfigX) (st : Spec.State) (h : Spec.wfX cfg st = true) (port retries : Nat)
    (arrival : List Bytes) (harr : arrival.Perm (Spec.dataPacketsX cfg st)) :
    sentOf (query port retries (Net.init [.opened ((Spec.handshakeReply cfg.challenge :: arrival).map .data)] [])).2.log
      = Spec.requestsX cfg
    ∧ sentOf (queryVars port retries (Net.init [.opened ((Spec.handshakeReply cfg.challenge :: arrival).map .data)] [])).2.log
      = Spec.requestsX cfg := by
  rw [query_eq, queryVars_eq]
  exact ⟨(exchangeX_spec cfg st h port retries buildResponse arrival harr).2,
    (exchangeX_spec cfg st h port retries buildVars arrival harr).2⟩

-- non-vacuity: a negative challenge, and the one that does not fit the buffer with its NUL
example : Spec.dataRequest (-2) = [0xFE, 0xFD, 0, 0, 0, 0, 1, 0xFF, 0xFF, 0xFF, 0xFE, 0xFF, 0xFF, 0xFF, 0x01] := by decide +kernel
example : Spec.dataRequest 0 = [0xFE, 0xFD, 0, 0, 0, 0, 1, 0xFF, 0xFF, 0xFF, 0x01] := by decide +kernel
