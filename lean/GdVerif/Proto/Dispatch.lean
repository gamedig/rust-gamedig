import GdVerif.Proto.Games
import GdVerif.Proto.Battalion
import GdVerif.Proto.Gs1
import GdVerif.Proto.Gs2
import GdVerif.Proto.Gs3
import GdVerif.Proto.Quake
import GdVerif.Proto.Unreal2
import GdVerif.Proto.Savage2
import GdVerif.Proto.TheShip
import GdVerif.Proto.Ffow
import GdVerif.Proto.Jc2m
import GdVerif.Proto.Mindustry
import GdVerif.Proto.Minecraft
import GdVerif.Proto.Eco
import GdVerif.Proto.Settings
import GdVerif.Gen.Games
/-
  MODEL of the definition-driven dispatch `games/query.rs::query_with_timeout_and_extra_settings`, statement
  for statement, for every arm that exists without the `tls` feature (Epic and Minetest are behind it and are
  not built by the harness), and of the per-game modules: the `game_query_fn!` macros of
  protocols/{valve,gamespy,quake,unreal2}/mod.rs and the hand-written modules games/{savage2, theship, ffow,
  jc2m, mindustry, eco, minecraft, battalion1944}.

  Three call paths of C14:
    * `generic`        — `query_with_timeout_and_extra_settings(game, ip, port, timeout, extra)`,
    * `moduleQuery`    — `games::<module>::query(ip, port)` (default timeout settings),
    * `protocolQuery`  — the protocol's own query function, explicit port, the definition's parameters.

  Everything below the entry points (`Valve.query`, `Gs1.query`, …) is the family's model.  Eco's HTTP client
  (ureq + serde) is a parameter here (`Ext.ecoFetch`), and theorems about the dispatch quantify over it.
  `Proto/Http.lean` models that client and Eco's query on its own; no theorem connects the two models.
-/
namespace Gd.Dispatch
open Gd

/-! ### `ExtraRequestSettings` and its conversions (protocols/types.rs, */types.rs) -/

/-- `ExtraRequestSettings` -/
structure Extra where
  hostname : Option Bytes
  protocolVersion : Option Int
  gatherPlayers : Option Toggle
  gatherRules : Option Toggle
  checkAppId : Option Bool
  deriving Repr, DecidableEq

/-- `valve::GatheringSettings::into_extra` -/
def valveIntoExtra (g : Valve.Gather) : Extra :=
  ⟨none, none, some g.players, some g.rules, some g.checkAppId⟩

/-- `unreal2::GatheringSettings::into_extra` -/
def unreal2IntoExtra (g : Unreal2.Gather) : Extra :=
  ⟨none, none, some g.players, some g.mutatorsAndRules, none⟩

/-- `impl From<ExtraRequestSettings> for valve::GatheringSettings` (`unwrap_or(default.<field>)`) -/
def Extra.toValve (e : Extra) : Valve.Gather :=
  { players := e.gatherPlayers.getD Valve.Gather.default.players,
    rules := e.gatherRules.getD Valve.Gather.default.rules,
    checkAppId := e.checkAppId.getD Valve.Gather.default.checkAppId }

/-- `impl From<ExtraRequestSettings> for unreal2::GatheringSettings` -/
def Extra.toUnreal2 (e : Extra) : Unreal2.Gather :=
  { players := e.gatherPlayers.getD Unreal2.Gather.default.players,
    mutatorsAndRules := e.gatherRules.getD Unreal2.Gather.default.mutatorsAndRules }

/-- `impl From<ExtraRequestSettings> for minecraft::RequestSettings` -/
def Extra.toMinecraft (e : Extra) : Mc.RequestSettings :=
  { hostname := e.hostname.getD Mc.RequestSettings.default.hostname,
    protocolVersion := e.protocolVersion.getD Mc.RequestSettings.default.protocolVersion }

/-- `EcoRequestSettings` (`Default`: no host name) -/
structure EcoSettings where
  hostname : Option Bytes
  deriving Repr, DecidableEq

def EcoSettings.default : EcoSettings := ⟨none⟩

/-- `impl From<ExtraRequestSettings> for EcoRequestSettings` -/
def Extra.toEco (e : Extra) : EcoSettings := ⟨e.hostname⟩

/-- `TimeoutSettings::get_retries_or_default` -/
def retriesOf (t : Option Settings.Timeout) : Nat :=
  match t with
  | some t => t.retries
  | none => Settings.default.retries

/-! ### what is not modelled here: parameters -/

structure Ext where
  valve : Valve.Ext
  mc : Mc.Ext
  /-- `HttpClient::new(address, timeout, settings)?.get_json::<Root>("/frontpage", None)` — ureq and serde: destination
  port, timeout settings, `Host` name ↦ any computation over the transport -/
  ecoFetch : Nat → Option Settings.Timeout → Option Bytes → Q Eco.Info

/-! ### the protocol entry points as the dispatch calls them (optional settings resolved where the code resolves them) -/

/-- `protocols::valve::query(addr, engine, gather_settings, timeout_settings)`: `gather_settings.unwrap_or_default()` -/
def valveQuery (ext : Valve.Ext) (port : Nat) (engine : Valve.Engine) (gather : Option Valve.Gather)
    (t : Option Settings.Timeout) : Q Valve.Response :=
  Valve.query ext port engine (gather.getD Valve.Gather.default) (retriesOf t)

/-- `protocols::gamespy::{one, two, three}::query(addr, timeout_settings)` -/
def gs1Query (port : Nat) (t : Option Settings.Timeout) : Q Gs1.Response := Gs1.query port (retriesOf t)
def gs2Query (port : Nat) (t : Option Settings.Timeout) : Q Gs2.Response := Gs2.query port (retriesOf t)
def gs3Query (port : Nat) (t : Option Settings.Timeout) : Q Gs3.Response := Gs3.query port (retriesOf t)

/-- `protocols::quake::{one, two, three}::query(addr, timeout_settings)` -/
def quakeQuery (v : Quake.Version) (port : Nat) (t : Option Settings.Timeout) : Q Quake.Response :=
  Quake.query port v (retriesOf t)

/-- `protocols::unreal2::query(addr, &gather_settings, timeout_settings)` -/
def unreal2Query (port : Nat) (g : Unreal2.Gather) (t : Option Settings.Timeout) : Q Unreal2.Response :=
  Unreal2.query port g (retriesOf t)

/-- `savage2::query_with_timeout(address, port, timeout_settings)`: `port.unwrap_or(11235)` -/
def savage2QueryWithTimeout (port : Option Nat) (_t : Option Settings.Timeout) : Q Savage2.Response :=
  Savage2.query (port.getD Savage2.DEFAULT_PORT)

/-- `theship::query_with_timeout(address, port, timeout_settings)`: `port.unwrap_or(27015)` -/
def theShipQueryWithTimeout (ext : Valve.Ext) (port : Option Nat) (t : Option Settings.Timeout) : Q TheShip.Response :=
  TheShip.query ext (port.getD TheShip.DEFAULT_PORT) (retriesOf t)

/-- `ffow::query_with_timeout(address, port, timeout_settings)`: `port.unwrap_or(5478)` -/
def ffowQueryWithTimeout (ext : Valve.Ext) (port : Option Nat) (t : Option Settings.Timeout) : Q Ffow.Response :=
  Ffow.query ext (port.getD Ffow.DEFAULT_PORT) (retriesOf t)

/-- `jc2m::query_with_timeout(address, port, timeout_settings)` (`Jc2m.query` takes the optional port itself) -/
def jc2mQueryWithTimeout (port : Option Nat) (t : Option Settings.Timeout) : Q Jc2m.Response :=
  Jc2m.query port (retriesOf t)

/-- `mindustry::query(ip, port, &timeout_settings)`: `port.unwrap_or(DEFAULT_PORT)`, then `query_with_retries` -/
def mindustryQuery (port : Option Nat) (t : Option Settings.Timeout) : Q Mindustry.ServerData :=
  Mindustry.query (port.getD Mindustry.DEFAULT_PORT) (retriesOf t)

/-- `minecraft::protocol::query_java(addr, timeout, request_settings)`: `request_settings.unwrap_or_default()` -/
def mcQueryJava (ext : Mc.Ext) (port : Nat) (t : Option Settings.Timeout) (st : Option Mc.RequestSettings) :
    Q Mc.JavaResponse :=
  Mc.queryJava ext port (st.getD Mc.RequestSettings.default) (retriesOf t)

/-- `minecraft::protocol::query_bedrock(addr, timeout)` -/
def mcQueryBedrock (port : Nat) (t : Option Settings.Timeout) : Q Mc.BedrockResponse := Mc.queryBedrock port (retriesOf t)

/-- `minecraft::protocol::query_legacy_specific(group, addr, timeout)` -/
def mcQueryLegacySpecific (g : Mc.LegacyGroup) (port : Nat) (t : Option Settings.Timeout) : Q Mc.JavaResponse :=
  Mc.queryLegacySpecific g port (retriesOf t)

/-- `minecraft::protocol::query_legacy(addr, timeout)` -/
def mcQueryLegacy (port : Nat) (t : Option Settings.Timeout) : Q Mc.JavaResponse := Mc.queryLegacy port (retriesOf t)

/-- `minecraft::protocol::query(addr, timeout, request_settings)` (auto-detect; every probe gets the same address) -/
def mcQueryAuto (ext : Mc.Ext) (port : Nat) (t : Option Settings.Timeout) (st : Option Mc.RequestSettings) :
    Q Mc.JavaResponse :=
  Mc.queryAuto ext port (st.getD Mc.RequestSettings.default) (retriesOf t)

/-- `eco::query_with_timeout_and_extra_settings(address, port, &timeout, extra)`: `port.unwrap_or(3001)`,
`extra_settings.unwrap_or_default().into()`, `get_json("/frontpage")`, `response.into()` -/
def ecoQuery (ext : Ext) (port : Option Nat) (t : Option Settings.Timeout) (st : Option EcoSettings) : Q Eco.Response := do
  let root ← ext.ecoFetch (port.getD Eco.DEFAULT_PORT) t (st.getD EcoSettings.default).hostname
  pure (Eco.fromRoot root)

/-! ### the definitions table's types (games/types.rs, protocols/types.rs) -/

inductive GameSpyVersion | one | two | three
  deriving Repr, DecidableEq

/-- `ProprietaryProtocol` (without `Minetest`: `tls` feature) -/
inductive Proprietary
  | savage2 | theShip | ffow | jc2m | mindustry
  | minecraft (version : Option Mc.Server)
  | eco
  deriving Repr, DecidableEq

/-- `Protocol` (without `Epic`: `tls` feature) -/
inductive Protocol
  | valve (engine : Valve.Engine)
  | gamespy (version : GameSpyVersion)
  | quake (version : Quake.Version)
  | unreal2
  | proprietary (p : Proprietary)
  deriving Repr, DecidableEq

/-- `Game` (the name plays no part in a query) -/
structure Game where
  defaultPort : Nat
  protocol : Protocol
  requestSettings : Extra
  deriving Repr, DecidableEq

/-- what `Box<dyn CommonResponse>` holds: one response type per family; `valveGame` is what the Valve game modules
return (`valve::game::Response`) -/
inductive Response
  | valve (r : Valve.Response)
  | valveGame (r : Games.GameResponse)
  | gs1 (r : Gs1.Response)
  | gs2 (r : Gs2.Response)
  | gs3 (r : Gs3.Response)
  | quake (r : Quake.Response)
  | unreal2 (r : Unreal2.Response)
  | savage2 (r : Savage2.Response)
  | theShip (r : TheShip.Response)
  | ffow (r : Ffow.Response)
  | jc2m (r : Jc2m.Response)
  | mindustry (r : Mindustry.ServerData)
  | mcJava (r : Mc.JavaResponse)
  | mcBedrock (r : Mc.BedrockResponse)
  | eco (r : Eco.Response)

/-- `.map(Box::new)?` -/
def boxed (f : α → Response) (q : Q α) : Q Response := Games.mapQ f q

/-! ### `games::query::query_with_timeout_and_extra_settings` -/

def generic (ext : Ext) (game : Game) (port : Option Nat) (timeout : Option Settings.Timeout)
    (extra : Option Extra) : Q Response :=
  -- let socket_addr = SocketAddr::new(*address, port.unwrap_or(game.default_port));
  let socketPort := port.getD game.defaultPort
  match game.protocol with
  | .valve engine =>
    boxed .valve (valveQuery ext.valve socketPort engine
      ((extra.orElse fun _ => some game.requestSettings).map Extra.toValve) timeout)
  | .gamespy .one => boxed .gs1 (gs1Query socketPort timeout)
  | .gamespy .two => boxed .gs2 (gs2Query socketPort timeout)
  | .gamespy .three => boxed .gs3 (gs3Query socketPort timeout)
  | .quake v => boxed .quake (quakeQuery v socketPort timeout)
  | .unreal2 =>
    boxed .unreal2 (unreal2Query socketPort ((extra.map Extra.toUnreal2).getD Unreal2.Gather.default) timeout)
  | .proprietary .savage2 => boxed .savage2 (savage2QueryWithTimeout port timeout)
  | .proprietary .theShip => boxed .theShip (theShipQueryWithTimeout ext.valve port timeout)
  | .proprietary .ffow => boxed .ffow (ffowQueryWithTimeout ext.valve port timeout)
  | .proprietary .jc2m => boxed .jc2m (jc2mQueryWithTimeout port timeout)
  | .proprietary .mindustry => boxed .mindustry (mindustryQuery port timeout)
  | .proprietary (.minecraft (some .java)) =>
    boxed .mcJava (mcQueryJava ext.mc socketPort timeout (extra.map Extra.toMinecraft))
  | .proprietary (.minecraft (some .bedrock)) => boxed .mcBedrock (mcQueryBedrock socketPort timeout)
  | .proprietary (.minecraft (some (.legacy group))) =>
    boxed .mcJava (mcQueryLegacySpecific group socketPort timeout)
  | .proprietary (.minecraft none) =>
    boxed .mcJava (mcQueryAuto ext.mc socketPort timeout (extra.map Extra.toMinecraft))
  | .proprietary .eco => boxed .eco (ecoQuery ext port timeout (extra.map Extra.toEco))

/-- `games::query::query_with_timeout` -/
def genericWithTimeout (ext : Ext) (game : Game) (port : Option Nat) (timeout : Option Settings.Timeout) : Q Response :=
  generic ext game port timeout none

/-- `games::query::query` -/
def genericQuery (ext : Ext) (game : Game) (port : Option Nat) : Q Response := generic ext game port none none

/-! ### the per-game modules -/

/-- one constructor per kind of module -/
inductive Module
  /-- `valve::game_query_fn!(name, engine, default_port, gathering_settings)` -/
  | valve (defaultPort : Nat) (engine : Valve.Engine) (gather : Valve.Gather)
  /-- `gamespy::game_query_fn!(version, default_port)` -/
  | gamespy (version : GameSpyVersion) (defaultPort : Nat)
  /-- `quake::game_query_fn!(version, default_port)` -/
  | quake (version : Quake.Version) (defaultPort : Nat)
  /-- `unreal2::game_query_fn!(default_port)` -/
  | unreal2 (defaultPort : Nat)
  /-- the hand-written modules' `query(address, port)` (`mindustry::query(address, port, &None)`) -/
  | savage2 | theShip | ffow | jc2m | mindustry | eco
  /-- `games::minecraft::{query, query_java(.., None), query_bedrock, query_legacy_specific(group, ..)}` -/
  | minecraft (version : Option Mc.Server)
  /-- `games::battalion1944::query` -/
  | battalion1944
  deriving Repr, DecidableEq

/-- `port_or_java_default` / `port_or_bedrock_default` of games/minecraft/mod.rs -/
def mcJavaDefaultPort : Nat := 25565
def mcBedrockDefaultPort : Nat := 19132

/-- `games::minecraft::query_java(address, port, request_settings)` -/
def mcModuleJava (ext : Mc.Ext) (port : Option Nat) (st : Option Mc.RequestSettings) : Q Mc.JavaResponse :=
  mcQueryJava ext (port.getD mcJavaDefaultPort) none st

/-- `games::minecraft::query_bedrock(address, port)` -/
def mcModuleBedrock (port : Option Nat) : Q Mc.BedrockResponse := mcQueryBedrock (port.getD mcBedrockDefaultPort) none

/-- `games::minecraft::query_legacy(address, port)` -/
def mcModuleLegacy (port : Option Nat) : Q Mc.JavaResponse := mcQueryLegacy (port.getD mcJavaDefaultPort) none

/-- `games::minecraft::query_legacy_specific(group, address, port)` -/
def mcModuleLegacySpecific (g : Mc.LegacyGroup) (port : Option Nat) : Q Mc.JavaResponse :=
  mcQueryLegacySpecific g (port.getD mcJavaDefaultPort) none

/-- `games::minecraft::query(address, port)`: the module's own probes, each with the default port of its variant -/
def mcModuleAuto (ext : Mc.Ext) (port : Option Nat) : Q Mc.JavaResponse :=
  Mc.orElse (mcModuleJava ext port none) id <|
  Mc.orElse (mcModuleBedrock port) Mc.JavaResponse.fromBedrock <|
  Mc.orElse (mcModuleLegacy port) id <|
  Q.fail .autoQuery

/-- `games::<module>::query(address, port)` -/
def moduleQuery (ext : Ext) (m : Module) (port : Option Nat) : Q Response :=
  match m with
  | .valve defaultPort engine gather =>
    -- valve::query(&SocketAddr::new(*address, port.unwrap_or($default_port)), $engine, Some($gathering_settings), None)?
    -- Ok(game::Response::new_from_valve_response(valve_response))
    boxed .valveGame (Games.mapQ Games.gameView (valveQuery ext.valve (port.getD defaultPort) engine (some gather) none))
  | .gamespy .one defaultPort => boxed .gs1 (gs1Query (port.getD defaultPort) none)
  | .gamespy .two defaultPort => boxed .gs2 (gs2Query (port.getD defaultPort) none)
  | .gamespy .three defaultPort => boxed .gs3 (gs3Query (port.getD defaultPort) none)
  | .quake v defaultPort => boxed .quake (quakeQuery v (port.getD defaultPort) none)
  | .unreal2 defaultPort => boxed .unreal2 (unreal2Query (port.getD defaultPort) Unreal2.Gather.default none)
  | .savage2 => boxed .savage2 (savage2QueryWithTimeout port none)
  | .theShip => boxed .theShip (theShipQueryWithTimeout ext.valve port none)
  | .ffow => boxed .ffow (ffowQueryWithTimeout ext.valve port none)
  | .jc2m => boxed .jc2m (jc2mQueryWithTimeout port none)
  | .mindustry => boxed .mindustry (mindustryQuery port none)
  | .eco => boxed .eco (ecoQuery ext port none none)
  | .minecraft none => boxed .mcJava (mcModuleAuto ext.mc port)
  | .minecraft (some .java) => boxed .mcJava (mcModuleJava ext.mc port none)
  | .minecraft (some .bedrock) => boxed .mcBedrock (mcModuleBedrock port)
  | .minecraft (some (.legacy g)) => boxed .mcJava (mcModuleLegacySpecific g port)
  | .battalion1944 => boxed .valveGame (Battalion.query ext.valve (port.getD Battalion.DEFAULT_PORT))

/-- how a generic result compares with a module's: Valve game modules return the documented conversion
`game::Response::new_from_valve_response` of the protocol response; every other module returns the protocol's type -/
def Response.view : Response → Response
  | .valve r => .valveGame (Games.gameView r)
  | r => r

/-! ### the protocol's own query function with explicit parameters -/

/-- The protocol-level call a user of `protocols::*` / of the game's own protocol function writes for a definition:
explicit port, the definition's parameters (`gameSettings` = the definition's request settings, read by the Valve
protocol only), the caller's extra settings converted for that protocol when there are any, the protocol's defaults
otherwise. -/
def protocolQuery (ext : Ext) (p : Protocol) (gameSettings : Extra) (extra : Option Extra) (port : Nat)
    (timeout : Option Settings.Timeout) : Q Response :=
  match p with
  | .valve engine =>
    boxed .valve (Valve.query ext.valve port engine
      (match extra with | some e => e.toValve | none => gameSettings.toValve) (retriesOf timeout))
  | .gamespy .one => boxed .gs1 (Gs1.query port (retriesOf timeout))
  | .gamespy .two => boxed .gs2 (Gs2.query port (retriesOf timeout))
  | .gamespy .three => boxed .gs3 (Gs3.query port (retriesOf timeout))
  | .quake v => boxed .quake (Quake.query port v (retriesOf timeout))
  | .unreal2 =>
    boxed .unreal2 (Unreal2.query port
      (match extra with | some e => e.toUnreal2 | none => Unreal2.Gather.default) (retriesOf timeout))
  | .proprietary .savage2 => boxed .savage2 (Savage2.query port)
  | .proprietary .theShip => boxed .theShip (TheShip.query ext.valve port (retriesOf timeout))
  | .proprietary .ffow => boxed .ffow (Ffow.query ext.valve port (retriesOf timeout))
  | .proprietary .jc2m => boxed .jc2m (Jc2m.query (some port) (retriesOf timeout))
  | .proprietary .mindustry => boxed .mindustry (Mindustry.query port (retriesOf timeout))
  | .proprietary (.minecraft (some .java)) =>
    boxed .mcJava (Mc.queryJava ext.mc port
      (match extra with | some e => e.toMinecraft | none => Mc.RequestSettings.default) (retriesOf timeout))
  | .proprietary (.minecraft (some .bedrock)) => boxed .mcBedrock (Mc.queryBedrock port (retriesOf timeout))
  | .proprietary (.minecraft (some (.legacy g))) => boxed .mcJava (Mc.queryLegacySpecific g port (retriesOf timeout))
  | .proprietary (.minecraft none) =>
    boxed .mcJava (Mc.queryAuto ext.mc port
      (match extra with | some e => e.toMinecraft | none => Mc.RequestSettings.default) (retriesOf timeout))
  | .proprietary .eco =>
    boxed .eco (do
      let root ← ext.ecoFetch port timeout (extra.bind (·.hostname))
      pure (Eco.fromRoot root))

/-- the arms that hand the optional port on to the game's own function, which applies ITS default -/
def ownDefaultPort : Protocol → Option Nat
  | .proprietary .savage2 => some Savage2.DEFAULT_PORT
  | .proprietary .theShip => some TheShip.DEFAULT_PORT
  | .proprietary .ffow => some Ffow.DEFAULT_PORT
  | .proprietary .jc2m => some Jc2m.DEFAULT_PORT
  | .proprietary .mindustry => some Mindustry.DEFAULT_PORT
  | .proprietary .eco => some Eco.DEFAULT_PORT
  | _ => none

/-! ### from the generated rows to the model's types -/

def toggleOf : Gen.Tog → Toggle
  | .skip => .skip | .try_ => .try_ | .enforce => .enforce

def engineOf : Gen.EngineTag → Valve.Engine
  | .source appid dedicated => .source (some (appid, dedicated))
  | .goldSrc force => .goldSrc force

def mcServerOf : Gen.McTag → Option Mc.Server
  | .auto => none | .java => some .java | .bedrock => some .bedrock
  | .legacy16 => some (.legacy .v1_6) | .legacy14 => some (.legacy .v1_4) | .legacyB18 => some (.legacy .vb1_8)

def protocolOf : Gen.ProtoTag → Option Protocol
  | .valve e _ _ _ => some (.valve (engineOf e))
  | .gs1 => some (.gamespy .one) | .gs2 => some (.gamespy .two) | .gs3 => some (.gamespy .three)
  | .quake1 => some (.quake .one) | .quake2 => some (.quake .two) | .quake3 => some (.quake .three)
  | .unreal2 => some .unreal2
  | .savage2 => some (.proprietary .savage2) | .theShip => some (.proprietary .theShip)
  | .ffow => some (.proprietary .ffow) | .jc2m => some (.proprietary .jc2m)
  | .mindustry => some (.proprietary .mindustry) | .eco => some (.proprietary .eco)
  | .minecraft k => some (.proprietary (.minecraft (mcServerOf k)))
  | .other => none

/-- the row's `request_settings`: `GatheringSettings { … }.into_extra()` for a Valve row that names them, the macro's
default `GatheringSettings::default().into_extra()` otherwise -/
def requestSettingsOf : Gen.ProtoTag → Extra
  | .valve _ p r c => valveIntoExtra ⟨toggleOf p, toggleOf r, c⟩
  | _ => valveIntoExtra Valve.Gather.default

/-- a row of `Gen.gameDefs` as a `Game` -/
def Game.ofRow (row : Gen.GameRow) : Option Game :=
  (protocolOf row.tag).map fun p => ⟨row.port, p, requestSettingsOf row.tag⟩

/-- a row of `Gen.gameMods` as a `Module`.  The hand-written modules carry their default port as a literal in
their source (and in their model); a hand-written Valve module is `battalion1944` (the only one: its row has
that engine).  -/
def Module.ofRow (row : Gen.GameRow) : Option Module :=
  match row.tag, row.hand with
  | .valve e p r c, false => some (.valve row.port (engineOf e) ⟨toggleOf p, toggleOf r, c⟩)
  | .valve e _ _ _, true => if engineOf e = Battalion.ENGINE then some .battalion1944 else none
  | .gs1, false => some (.gamespy .one row.port)
  | .gs2, false => some (.gamespy .two row.port)
  | .gs3, false => some (.gamespy .three row.port)
  | .quake1, false => some (.quake .one row.port)
  | .quake2, false => some (.quake .two row.port)
  | .quake3, false => some (.quake .three row.port)
  | .unreal2, false => some (.unreal2 row.port)
  | .savage2, true => some .savage2
  | .theShip, true => some .theShip
  | .ffow, true => some .ffow
  | .jc2m, true => some .jc2m
  | .mindustry, true => some .mindustry
  | .eco, true => some .eco
  | .minecraft k, true => some (.minecraft (mcServerOf k))
  | _, _ => none

/-- the default port a module's source applies when none is given (first probe for the auto-detect) and the
one of its Bedrock probe: what the translator must have read for that module's row -/
def Module.defaultPorts : Module → Nat × Nat
  | .valve p _ _ => (p, p)
  | .gamespy _ p => (p, p)
  | .quake _ p => (p, p)
  | .unreal2 p => (p, p)
  | .savage2 => (Savage2.DEFAULT_PORT, Savage2.DEFAULT_PORT)
  | .theShip => (TheShip.DEFAULT_PORT, TheShip.DEFAULT_PORT)
  | .ffow => (Ffow.DEFAULT_PORT, Ffow.DEFAULT_PORT)
  | .jc2m => (Jc2m.DEFAULT_PORT, Jc2m.DEFAULT_PORT)
  | .mindustry => (Mindustry.DEFAULT_PORT, Mindustry.DEFAULT_PORT)
  | .eco => (Eco.DEFAULT_PORT, Eco.DEFAULT_PORT)
  | .minecraft none => (mcJavaDefaultPort, mcBedrockDefaultPort)
  | .minecraft (some .bedrock) => (mcBedrockDefaultPort, mcBedrockDefaultPort)
  | .minecraft (some _) => (mcJavaDefaultPort, mcJavaDefaultPort)
  | .battalion1944 => (Battalion.DEFAULT_PORT, Battalion.DEFAULT_PORT)

end Gd.Dispatch
