import GdVerif.Proto.Dispatch
import GdVerif.Gen.Arms
/-
  SEMANTICS of the translated glue (`Gen/Arms.lean`, vocabulary `Proto/ArmsTm.lean`): an evaluator of the term language
  over the model's value types, the semantics of `Option::{map, or, or_else, unwrap_or, unwrap_or_default}`, of struct
  literals / struct update, and of each conversion impl AS TRANSLATED (the evaluator looks the conversions, the defaults
  and the `into_extra` helpers up in the generated tables — nothing about them is written here by hand).

  An evaluated arm is a `Call`: which entry point of the model, with which port / optional port, engine, settings value and
  timeout settings.  `Call.run` hands the call to the wrappers of `Proto/Dispatch.lean`.  `Props/C14_arms.lean` proves that
  evaluating the translated arm of a game's protocol gives, for every argument value, exactly the call the hand-written
  `Dispatch.generic` makes.

  Evaluation is partial (`Option`): a term that is ill-formed for this semantics (a field of something that is not a
  struct, `map` on something that is not an `Option`, a callee given arguments of the wrong kind …) evaluates to `none`;
  nothing is defaulted.
-/
namespace Gd.Arms
open Gd Gd.Dispatch

/-! ### values -/

mutual
inductive Val
  /-- the caller's `IpAddr` (one address: the model's transport is keyed by port) -/
  | addr
  /-- `SocketAddr::new(address, port)` -/
  | sock (port : Nat)
  /-- a `u16` -/
  | num (n : Nat)
  | int (i : Int)
  | bool (b : Bool)
  | tog (t : Toggle)
  | str (b : Bytes)
  | none_
  | some_ (v : Val)
  | record (ty : Ty) (fields : Fields)
  | timeout (t : Settings.Timeout)
  | engine (e : Valve.Engine)
  | group (g : Mc.LegacyGroup)
  /-- enum values -/
  | ctor0 (c : Ctor)
  | ctor1 (c : Ctor) (v : Val)

inductive Fields
  | nil
  | cons (f : Field) (v : Val) (rest : Fields)
end

def Fields.get : Fields → Field → Option Val
  | .nil, _ => none
  | .cons f v rest, g => if f = g then some v else rest.get g

/-- `fs` with the field `g` replaced (only a field that is there) -/
def Fields.set : Fields → Field → Val → Fields
  | .nil, _, _ => .nil
  | .cons f v rest, g, w => if f = g then .cons f w rest else .cons f v (rest.set g w)

/-- struct update: every field of `upd` replaces the field of that name in `base` -/
def Fields.override (base : Fields) : Fields → Fields
  | .nil => base
  | .cons f v rest => (base.set f v).override rest

abbrev Env := Var → Option Val

def Env.empty : Env := fun _ => none

def Env.extend (env : Env) (x : Var) (v : Val) : Env := fun y => if y = x then some v else env y

/-- what the evaluator takes from the tables: `T::default()` and `From<ExtraRequestSettings> for T` -/
structure Sem where
  dflt : Ty → Option Val
  conv : Ty → Val → Option Val

/-! ### the evaluator -/

mutual
def evalTm (cx : Sem) (env : Env) : Tm → Option Val
  | .var v => env v
  | .field e f =>
    match evalTm cx env e with
    | some (.record _ fs) => fs.get f
    | _ => none
  | .some_ e =>
    match evalTm cx env e with
    | some v => some (.some_ v)
    | none => none
  | .none_ => some .none_
  -- Option::map with a conversion
  | .mapInto e ty =>
    match evalTm cx env e with
    | some .none_ => some .none_
    | some (.some_ v) =>
      match cx.conv ty v with
      | some r => some (.some_ r)
      | none => none
    | _ => none
  -- Option::map with a closure
  | .mapFn e x body =>
    match evalTm cx env e with
    | some .none_ => some .none_
    | some (.some_ v) =>
      match evalTm cx (env.extend (.bound x) v) body with
      | some r => some (.some_ r)
      | none => none
    | _ => none
  | .into e ty =>
    match evalTm cx env e with
    | some v => cx.conv ty v
    | none => none
  -- Option::or / Option::or_else (no effects: eager and lazy agree)
  | .or_ e d =>
    match evalTm cx env e with
    | some (.some_ v) => some (.some_ v)
    | some .none_ => evalTm cx env d
    | _ => none
  | .orElse e d =>
    match evalTm cx env e with
    | some (.some_ v) => some (.some_ v)
    | some .none_ => evalTm cx env d
    | _ => none
  | .unwrapOr e d =>
    match evalTm cx env e with
    | some (.some_ v) => some v
    | some .none_ => evalTm cx env d
    | _ => none
  | .unwrapOrDefault e ty =>
    match evalTm cx env e with
    | some (.some_ v) => some v
    | some .none_ => cx.dflt ty
    | _ => none
  | .defaultOf ty => cx.dflt ty
  | .sockAddr ip p =>
    match evalTm cx env ip, evalTm cx env p with
    | some .addr, some (.num n) => some (.sock n)
    | _, _ => none
  | .struct ty fs =>
    match evalFields cx env fs with
    | some vs => some (.record ty vs)
    | none => none
  | .update ty fs base =>
    match evalFields cx env fs, evalTm cx env base with
    | some vs, some (.record ty' b) => if ty = ty' then some (.record ty (b.override vs)) else none
    | _, _ => none
  | .tog t => some (.tog t)
  | .bool b => some (.bool b)
  | .int i => some (.int i)
  | .str b => some (.str b)
  | .letIn x e body =>
    match evalTm cx env e with
    | some v => evalTm cx (env.extend x v) body
    | none => none

def evalFields (cx : Sem) (env : Env) : TmFields → Option Fields
  | .nil => some .nil
  | .cons f e rest =>
    match evalTm cx env e, evalFields cx env rest with
    | some v, some vs => some (.cons f v vs)
    | _, _ => none
end

/-! ### the generated tables as the evaluator's context -/

def lookup (tbl : List (Ty × Tm)) (ty : Ty) : Option Tm :=
  match tbl.find? (fun p => p.1 = ty) with
  | some p => some p.2
  | none => none

def sem0 : Sem := ⟨fun _ => none, fun _ _ => none⟩

/-- `T::default()` as translated (closed struct literals) -/
def dfltOf (ty : Ty) : Option Val :=
  match lookup Gen.Arms.defaults ty with
  | some t => evalTm sem0 Env.empty t
  | none => none

def sem1 : Sem := ⟨dfltOf, fun _ _ => none⟩

/-- `<T as From<ExtraRequestSettings>>::from(value)` as translated -/
def convOf (ty : Ty) (value : Val) : Option Val :=
  match lookup Gen.Arms.convs ty with
  | some t => evalTm sem1 (Env.empty.extend .value value) t
  | none => none

/-- `T::into_extra(self)` as translated -/
def intoExtraOf (ty : Ty) (self_ : Val) : Option Val :=
  match lookup Gen.Arms.intoExtras ty with
  | some t => evalTm sem1 (Env.empty.extend .self_ self_) t
  | none => none

/-- the context the arms are evaluated in -/
def sem : Sem := ⟨dfltOf, convOf⟩

/-! ### model values ↔ evaluator values -/

def encOpt (f : α → Val) : Option α → Val
  | none => .none_
  | some a => .some_ (f a)

def decOpt (f : Val → Option α) : Val → Option (Option α)
  | .none_ => some none
  | .some_ v =>
    match f v with
    | some a => some (some a)
    | none => none
  | _ => none

def encExtra (e : Extra) : Val :=
  .record .extra (.cons .hostname (encOpt .str e.hostname) (.cons .protocolVersion (encOpt .int e.protocolVersion)
    (.cons .gatherPlayers (encOpt .tog e.gatherPlayers) (.cons .gatherRules (encOpt .tog e.gatherRules)
    (.cons .checkAppId (encOpt .bool e.checkAppId) .nil)))))

def decStr : Val → Option Bytes
  | .str b => some b
  | _ => none

def decInt : Val → Option Int
  | .int i => some i
  | _ => none

def decTog : Val → Option Toggle
  | .tog t => some t
  | _ => none

def decBool : Val → Option Bool
  | .bool b => some b
  | _ => none

def decNum : Val → Option Nat
  | .num n => some n
  | _ => none

def decTimeout : Val → Option Settings.Timeout
  | .timeout t => some t
  | _ => none

def decExtra : Val → Option Extra
  | .record .extra fs =>
    match fs.get .hostname, fs.get .protocolVersion, fs.get .gatherPlayers, fs.get .gatherRules, fs.get .checkAppId with
    | some h, some pv, some gp, some gr, some ca =>
      match decOpt decStr h, decOpt decInt pv, decOpt decTog gp, decOpt decTog gr, decOpt decBool ca with
      | some h, some pv, some gp, some gr, some ca => some ⟨h, pv, gp, gr, ca⟩
      | _, _, _, _, _ => none
    | _, _, _, _, _ => none
  | _ => none

def encValveGather (g : Valve.Gather) : Val :=
  .record .valveGather (.cons .players (.tog g.players) (.cons .rules (.tog g.rules) (.cons .checkAppId (.bool g.checkAppId) .nil)))

def decValveGather : Val → Option Valve.Gather
  | .record .valveGather fs =>
    match fs.get .players, fs.get .rules, fs.get .checkAppId with
    | some (.tog p), some (.tog r), some (.bool c) => some ⟨p, r, c⟩
    | _, _, _ => none
  | _ => none

def encUnreal2Gather (g : Unreal2.Gather) : Val :=
  .record .unreal2Gather (.cons .players (.tog g.players) (.cons .mutatorsAndRules (.tog g.mutatorsAndRules) .nil))

def decUnreal2Gather : Val → Option Unreal2.Gather
  | .record .unreal2Gather fs =>
    match fs.get .players, fs.get .mutatorsAndRules with
    | some (.tog p), some (.tog r) => some ⟨p, r⟩
    | _, _ => none
  | _ => none

def decMcSettings : Val → Option Mc.RequestSettings
  | .record .mcRequestSettings fs =>
    match fs.get .hostname, fs.get .protocolVersion with
    | some (.str h), some (.int pv) => some ⟨h, pv⟩
    | _, _ => none
  | _ => none

def encMcSettings (st : Mc.RequestSettings) : Val :=
  .record .mcRequestSettings (.cons .hostname (.str st.hostname) (.cons .protocolVersion (.int st.protocolVersion) .nil))

def encEcoSettings (st : EcoSettings) : Val :=
  .record .ecoRequestSettings (.cons .hostname (encOpt .str st.hostname) .nil)

def decEcoSettings : Val → Option EcoSettings
  | .record .ecoRequestSettings fs =>
    match fs.get .hostname with
    | some h =>
      match decOpt decStr h with
      | some h => some ⟨h⟩
      | none => none
    | none => none
  | _ => none

def encQuakeVersion : Quake.Version → Val
  | .one => .ctor0 .quakeOne | .two => .ctor0 .quakeTwo | .three => .ctor0 .quakeThree

def encGameSpyVersion : GameSpyVersion → Val
  | .one => .ctor0 .gsOne | .two => .ctor0 .gsTwo | .three => .ctor0 .gsThree

def encMcServer : Mc.Server → Val
  | .java => .ctor0 .mcJava
  | .bedrock => .ctor0 .mcBedrock
  | .legacy g => .ctor1 .mcLegacy (.group g)

def encOptServer : Option Mc.Server → Val
  | none => .ctor0 .optNone
  | some s => .ctor1 .optSome (encMcServer s)

def encProprietary : Proprietary → Val
  | .savage2 => .ctor0 .propSavage2
  | .theShip => .ctor0 .propTheShip
  | .ffow => .ctor0 .propFfow
  | .jc2m => .ctor0 .propJc2m
  | .mindustry => .ctor0 .propMindustry
  | .minecraft v => .ctor1 .propMinecraft (encOptServer v)
  | .eco => .ctor0 .propEco

/-- a `Protocol` value as the constructor tree the patterns are matched against -/
def encProtocol : Protocol → Val
  | .valve e => .ctor1 .protocolValve (.engine e)
  | .gamespy v => .ctor1 .protocolGamespy (encGameSpyVersion v)
  | .quake v => .ctor1 .protocolQuake (encQuakeVersion v)
  | .unreal2 => .ctor0 .protocolUnreal2
  | .proprietary p => .ctor1 .protocolProprietary (encProprietary p)

def encGame (g : Game) : Val :=
  .record .game (.cons .defaultPort (.num g.defaultPort) (.cons .protocol (encProtocol g.protocol)
    (.cons .requestSettings (encExtra g.requestSettings) .nil)))

/-! ### patterns -/

/-- matching: the variables the pattern binds, `none` when it does not match -/
def Pat.matches : Pat → Val → Option (List (Var × Val))
  | .wild, _ => some []
  | .bind x, v => some [(x, v)]
  | .ctor0 c, .ctor0 c' => if c = c' then some [] else none
  | .ctor1 c p, .ctor1 c' v => if c = c' then p.matches v else none
  | _, _ => none

/-- `match`: the FIRST arm whose pattern matches -/
def selectArm : List Arm → Val → Option (Arm × List (Var × Val))
  | [], _ => none
  | a :: rest, v =>
    match a.pat.matches v with
    | some binds => some (a, binds)
    | none => selectArm rest v

/-- how many arms match a value -/
def countArms (arms : List Arm) (v : Val) : Nat := (arms.filter fun a => (a.pat.matches v).isSome).length

/-! ### calls -/

/-- an entry point of the model with its arguments (the wrappers of `Proto/Dispatch.lean`) -/
inductive Call
  | valveQuery (port : Nat) (engine : Valve.Engine) (gather : Option Valve.Gather) (t : Option Settings.Timeout)
  | gs1Query (port : Nat) (t : Option Settings.Timeout)
  | gs2Query (port : Nat) (t : Option Settings.Timeout)
  | gs3Query (port : Nat) (t : Option Settings.Timeout)
  | quakeQuery (v : Quake.Version) (port : Nat) (t : Option Settings.Timeout)
  | unreal2Query (port : Nat) (g : Unreal2.Gather) (t : Option Settings.Timeout)
  | savage2QueryWithTimeout (port : Option Nat) (t : Option Settings.Timeout)
  | theShipQueryWithTimeout (port : Option Nat) (t : Option Settings.Timeout)
  | ffowQueryWithTimeout (port : Option Nat) (t : Option Settings.Timeout)
  | jc2mQueryWithTimeout (port : Option Nat) (t : Option Settings.Timeout)
  | mindustryQuery (port : Option Nat) (t : Option Settings.Timeout)
  | mcQueryJava (port : Nat) (t : Option Settings.Timeout) (st : Option Mc.RequestSettings)
  | mcQueryBedrock (port : Nat) (t : Option Settings.Timeout)
  | mcQueryLegacySpecific (g : Mc.LegacyGroup) (port : Nat) (t : Option Settings.Timeout)
  | mcQueryAuto (port : Nat) (t : Option Settings.Timeout) (st : Option Mc.RequestSettings)
  | ecoQuery (port : Option Nat) (t : Option Settings.Timeout) (st : Option EcoSettings)
  deriving Repr, DecidableEq

/-- the call, made (`.map(Box::new)?` included) -/
def Call.run (ext : Ext) : Call → Q Response
  | .valveQuery port engine gather t => boxed .valve (Dispatch.valveQuery ext.valve port engine gather t)
  | .gs1Query port t => boxed .gs1 (Dispatch.gs1Query port t)
  | .gs2Query port t => boxed .gs2 (Dispatch.gs2Query port t)
  | .gs3Query port t => boxed .gs3 (Dispatch.gs3Query port t)
  | .quakeQuery v port t => boxed .quake (Dispatch.quakeQuery v port t)
  | .unreal2Query port g t => boxed .unreal2 (Dispatch.unreal2Query port g t)
  | .savage2QueryWithTimeout port t => boxed .savage2 (Dispatch.savage2QueryWithTimeout port t)
  | .theShipQueryWithTimeout port t => boxed .theShip (Dispatch.theShipQueryWithTimeout ext.valve port t)
  | .ffowQueryWithTimeout port t => boxed .ffow (Dispatch.ffowQueryWithTimeout ext.valve port t)
  | .jc2mQueryWithTimeout port t => boxed .jc2m (Dispatch.jc2mQueryWithTimeout port t)
  | .mindustryQuery port t => boxed .mindustry (Dispatch.mindustryQuery port t)
  | .mcQueryJava port t st => boxed .mcJava (Dispatch.mcQueryJava ext.mc port t st)
  | .mcQueryBedrock port t => boxed .mcBedrock (Dispatch.mcQueryBedrock port t)
  | .mcQueryLegacySpecific g port t => boxed .mcJava (Dispatch.mcQueryLegacySpecific g port t)
  | .mcQueryAuto port t st => boxed .mcJava (Dispatch.mcQueryAuto ext.mc port t st)
  | .ecoQuery port t st => boxed .eco (Dispatch.ecoQuery ext port t st)

/-- callee + evaluated arguments ↦ call: every argument must be a value of the kind the callee's parameter has -/
def Call.decode : Callee → List Val → Option Call
  | .valveQuery, [.sock p, .engine e, g, t] =>
    match decOpt decValveGather g, decOpt decTimeout t with
    | some g, some t => some (.valveQuery p e g t)
    | _, _ => none
  | .gs1Query, [.sock p, t] => (decOpt decTimeout t).map (.gs1Query p)
  | .gs2Query, [.sock p, t] => (decOpt decTimeout t).map (.gs2Query p)
  | .gs3Query, [.sock p, t] => (decOpt decTimeout t).map (.gs3Query p)
  | .quake1Query, [.sock p, t] => (decOpt decTimeout t).map (.quakeQuery .one p)
  | .quake2Query, [.sock p, t] => (decOpt decTimeout t).map (.quakeQuery .two p)
  | .quake3Query, [.sock p, t] => (decOpt decTimeout t).map (.quakeQuery .three p)
  | .unreal2Query, [.sock p, g, t] =>
    match decUnreal2Gather g, decOpt decTimeout t with
    | some g, some t => some (.unreal2Query p g t)
    | _, _ => none
  | .savage2QueryWithTimeout, [.addr, p, t] =>
    match decOpt decNum p, decOpt decTimeout t with
    | some p, some t => some (.savage2QueryWithTimeout p t)
    | _, _ => none
  | .theShipQueryWithTimeout, [.addr, p, t] =>
    match decOpt decNum p, decOpt decTimeout t with
    | some p, some t => some (.theShipQueryWithTimeout p t)
    | _, _ => none
  | .ffowQueryWithTimeout, [.addr, p, t] =>
    match decOpt decNum p, decOpt decTimeout t with
    | some p, some t => some (.ffowQueryWithTimeout p t)
    | _, _ => none
  | .jc2mQueryWithTimeout, [.addr, p, t] =>
    match decOpt decNum p, decOpt decTimeout t with
    | some p, some t => some (.jc2mQueryWithTimeout p t)
    | _, _ => none
  | .mindustryQuery, [.addr, p, t] =>
    match decOpt decNum p, decOpt decTimeout t with
    | some p, some t => some (.mindustryQuery p t)
    | _, _ => none
  | .mcQueryJava, [.sock p, t, st] =>
    match decOpt decTimeout t, decOpt decMcSettings st with
    | some t, some st => some (.mcQueryJava p t st)
    | _, _ => none
  | .mcQueryBedrock, [.sock p, t] => (decOpt decTimeout t).map (.mcQueryBedrock p)
  | .mcQueryLegacySpecific, [.group g, .sock p, t] => (decOpt decTimeout t).map (.mcQueryLegacySpecific g p)
  | .mcQueryAuto, [.sock p, t, st] =>
    match decOpt decTimeout t, decOpt decMcSettings st with
    | some t, some st => some (.mcQueryAuto p t st)
    | _, _ => none
  | .ecoQuery, [.addr, p, t, st] =>
    match decOpt decNum p, decOpt decTimeout t, decOpt decEcoSettings st with
    | some p, some t, some st => some (.ecoQuery p t st)
    | _, _, _ => none
  | _, _ => none

/-- the timeout settings a call carries -/
def Call.timeout : Call → Option Settings.Timeout
  | .valveQuery _ _ _ t | .gs1Query _ t | .gs2Query _ t | .gs3Query _ t | .quakeQuery _ _ t | .unreal2Query _ _ t
  | .savage2QueryWithTimeout _ t | .theShipQueryWithTimeout _ t | .ffowQueryWithTimeout _ t | .jc2mQueryWithTimeout _ t
  | .mindustryQuery _ t | .mcQueryJava _ t _ | .mcQueryBedrock _ t | .mcQueryLegacySpecific _ _ t | .mcQueryAuto _ t _
  | .ecoQuery _ t _ => t

/-- the port argument of a call: `inl p` = a socket address with port `p`; `inr p` = the optional port handed on (the callee
applies its own default) -/
def Call.portArg : Call → Nat ⊕ Option Nat
  | .valveQuery p _ _ _ | .gs1Query p _ | .gs2Query p _ | .gs3Query p _ | .quakeQuery _ p _ | .unreal2Query p _ _
  | .mcQueryJava p _ _ | .mcQueryBedrock p _ | .mcQueryLegacySpecific _ p _ | .mcQueryAuto p _ _ => .inl p
  | .savage2QueryWithTimeout p _ | .theShipQueryWithTimeout p _ | .ffowQueryWithTimeout p _ | .jc2mQueryWithTimeout p _
  | .mindustryQuery p _ | .ecoQuery p _ _ => .inr p

/-! ### evaluating an arm -/

/-- the parameters of `query_with_timeout_and_extra_settings` -/
def baseEnv (game : Game) (port : Option Nat) (timeout : Option Settings.Timeout) (extra : Option Extra) : Env :=
  ((((Env.empty.extend .game (encGame game)).extend .address .addr).extend .port (encOpt .num port)).extend
    .timeoutSettings (encOpt .timeout timeout)).extend .extraSettings (encOpt encExtra extra)

def bindAll (env : Env) : List (Var × Val) → Env
  | [] => env
  | (x, v) :: rest => bindAll (env.extend x v) rest

/-- the `let`s in scope of the call, in order -/
def evalLets (cx : Sem) (env : Env) : List (Var × Tm) → Option Env
  | [] => some env
  | (x, t) :: rest =>
    match evalTm cx env t with
    | some v => evalLets cx (env.extend x v) rest
    | none => none

def evalArgs (cx : Sem) (env : Env) : List Tm → Option (List Val)
  | [] => some []
  | t :: rest =>
    match evalTm cx env t, evalArgs cx env rest with
    | some v, some vs => some (v :: vs)
    | _, _ => none

def evalArm (env : Env) (a : Arm) : Option Call :=
  match evalLets sem env a.lets with
  | some env' =>
    match evalArgs sem env' a.args with
    | some vs => Call.decode a.callee vs
    | none => none
  | none => none

/-- THE TRANSLATION of `query_with_timeout_and_extra_settings`, evaluated: the first arm of the generated table whose
pattern matches the game's protocol, its `let`s and arguments evaluated on the caller's values -/
def translatedCall (game : Game) (port : Option Nat) (timeout : Option Settings.Timeout) (extra : Option Extra) :
    Option Call :=
  match selectArm Gen.Arms.arms (encProtocol game.protocol) with
  | some (a, binds) => evalArm (bindAll (baseEnv game port timeout extra) binds) a
  | none => none

/-- … and made -/
def translated (ext : Ext) (game : Game) (port : Option Nat) (timeout : Option Settings.Timeout) (extra : Option Extra) :
    Option (Q Response) :=
  (translatedCall game port timeout extra).map (Call.run ext)

/-! ### the hand-written model's call, as data -/

/-- what `Dispatch.generic` calls (read off its definition; `generic_eq_run` in `Lemmas/Arms.lean` proves it) -/
def genericCall (game : Game) (port : Option Nat) (timeout : Option Settings.Timeout) (extra : Option Extra) : Call :=
  let socketPort := port.getD game.defaultPort
  match game.protocol with
  | .valve engine =>
    .valveQuery socketPort engine ((extra.orElse fun _ => some game.requestSettings).map Extra.toValve) timeout
  | .gamespy .one => .gs1Query socketPort timeout
  | .gamespy .two => .gs2Query socketPort timeout
  | .gamespy .three => .gs3Query socketPort timeout
  | .quake v => .quakeQuery v socketPort timeout
  | .unreal2 => .unreal2Query socketPort ((extra.map Extra.toUnreal2).getD Unreal2.Gather.default) timeout
  | .proprietary .savage2 => .savage2QueryWithTimeout port timeout
  | .proprietary .theShip => .theShipQueryWithTimeout port timeout
  | .proprietary .ffow => .ffowQueryWithTimeout port timeout
  | .proprietary .jc2m => .jc2mQueryWithTimeout port timeout
  | .proprietary .mindustry => .mindustryQuery port timeout
  | .proprietary (.minecraft (some .java)) => .mcQueryJava socketPort timeout (extra.map Extra.toMinecraft)
  | .proprietary (.minecraft (some .bedrock)) => .mcQueryBedrock socketPort timeout
  | .proprietary (.minecraft (some (.legacy group))) => .mcQueryLegacySpecific group socketPort timeout
  | .proprietary (.minecraft none) => .mcQueryAuto socketPort timeout (extra.map Extra.toMinecraft)
  | .proprietary .eco => .ecoQuery port timeout (extra.map Extra.toEco)

/-! ### the wrappers and the module macros -/

/-- arguments of a wrapper (`query`, `query_with_timeout`), evaluated on the wrapper's parameters -/
def evalWrapper (w : Wrapper) (game : Game) (port : Option Nat) (timeout : Option Settings.Timeout) : Option (List Val) :=
  evalArgs sem (baseEnv game port timeout none) w.args

/-- a `game_query_fn!` body, evaluated on the module's `address`, `port` and the macro's parameters -/
def evalModArm (m : String × Option String × Callee × List Tm × Option String) (port : Option Nat) (defaultPort : Nat)
    (engine : Valve.Engine) (gather : Valve.Gather) : Option Call :=
  let env := ((((Env.empty.extend .address .addr).extend .port (encOpt .num port)).extend .mDefaultPort (.num defaultPort)).extend
    .mEngine (.engine engine)).extend .mGatheringSettings (encValveGather gather)
  match evalArgs sem env m.2.2.2.1 with
  | some vs => Call.decode m.2.2.1 vs
  | none => none

/-- arguments of a hand-written module's wrapper, evaluated on its parameters (`timeout` is read by eco's
`query_with_timeout` only: the other wrappers have no such parameter, and the translator refuses a variable that is not
in scope) -/
def evalHandWrapper (args : List Tm) (port : Option Nat) (timeout : Option Settings.Timeout) : Option (List Val) :=
  evalArgs sem (((Env.empty.extend .address .addr).extend .port (encOpt .num port)).extend .timeoutSettings
    (encOpt .timeout timeout)) args

/-- a closed term of the tables (the macro defaults), evaluated -/
def evalClosed (t : Option Tm) : Option Val :=
  match t with
  | some t => evalTm sem Env.empty t
  | none => none

end Gd.Arms
