import GdVerif.Proto.Settings
/-
  MODEL of `crates/lib/src/socket.rs` (the `packet_capture` feature off: `UdpSocket = UdpSocketImpl`,
  `TcpSocket = TcpSocketImpl`; the `cfg(gamedig_verif)` prologues return `None` when no script is installed and are not
  part of the code).

  This is the refinement of the abstract transport (`GdVerif/Net.lean`: open / send / receive events) into the calls
  socket.rs makes on `std::net`: which local address a UDP socket binds for which remote, `send_to` (never `connect`) on
  UDP, `connect` / `connect_timeout` on TCP, which duration goes to which socket option and when, the receive buffer,
  the TCP read loop, and the mapping of I/O errors to `GDErrorKind`.

  `std::net` and the kernel are a PARAMETER (`Os`): every answer is a function of everything the client did before
  (the history of calls) and of the call's arguments; the theorems quantify over all such behaviours.  What a
  `read_to_end` is answered is a finite stream of answers (`Stream`): behaviours under which the call never returns
  (a peer that writes for ever, an endless run of EINTR) are not executions of `receive` at all.
  Model what the code does, oddities included:
    * UDP sockets are never connected: `recv_from` accepts a datagram from ANY source, the source is discarded;
    * TCP `send` is ONE `write`, its count is discarded (a partial write is reported as success);
    * TCP `receive` ignores `size` except as a capacity, reads to the end of the stream and throws away what it has
      read when a read fails (a timeout included);
    * every I/O error of an operation becomes the one `GDErrorKind` of that operation, whatever its `io::ErrorKind`.
-/
namespace Gd.SockRs
open Gd.Settings (Duration Timeout readAndWriteOrDefaults connectOrDefault)

/-! ### Addresses -/

/-- `std::net::SocketAddr`: `V4(ip, port)` / `V6(ip (eight segments), port, flowinfo, scope_id)` -/
inductive Addr where
  | v4 (a b c d : UInt8) (port : Nat)
  | v6 (s0 s1 s2 s3 s4 s5 s6 s7 : UInt16) (port flow scope : Nat)
  deriving DecidableEq, Repr

namespace Addr

def isV6 : Addr → Bool
  | .v4 .. => false
  | .v6 .. => true

def port : Addr → Nat
  | .v4 _ _ _ _ p => p
  | .v6 _ _ _ _ _ _ _ _ p _ _ => p

/-- `::ffff:a.b.c.d`, an IPv4 host named by its IPv4-mapped IPv6 address -/
def isMapped : Addr → Bool
  | .v6 0 0 0 0 0 0xffff _ _ _ _ _ => true
  | _ => false

/-- `0.0.0.0` / `::` -/
def isUnspecified : Addr → Bool
  | .v4 0 0 0 0 _ => true
  | .v6 0 0 0 0 0 0 0 0 _ _ _ => true
  | _ => false

/-- `127.0.0.0/8` / `::1` -/
def isLoopback : Addr → Bool
  | .v4 127 _ _ _ _ => true
  | .v6 0 0 0 0 0 0 0 1 _ _ _ => true
  | _ => false

end Addr

/-- `"0.0.0.0:0"` -/
def anyV4 : Addr := .v4 0 0 0 0 0
/-- `"[::]:0"` (a dual-stack wildcard unless the system sets IPV6_V6ONLY by default: it also reaches IPv4 hosts
through their IPv4-mapped addresses) -/
def anyV6 : Addr := .v6 0 0 0 0 0 0 0 0 0 0 0

/-! ### `std::io` -/

/-- `io::ErrorKind` (the kinds a socket call can produce, `other` for the rest) -/
inductive IoKind
  | connectionRefused | connectionReset | connectionAborted | hostUnreachable | networkUnreachable | networkDown
  | notConnected | addrInUse | addrNotAvailable | brokenPipe | wouldBlock | timedOut | invalidInput | interrupted
  | permissionDenied | outOfMemory | unexpectedEof | writeZero | unsupported | other
  deriving DecidableEq, Repr

def allIoKinds : List IoKind :=
  [.connectionRefused, .connectionReset, .connectionAborted, .hostUnreachable, .networkUnreachable, .networkDown,
   .notConnected, .addrInUse, .addrNotAvailable, .brokenPipe, .wouldBlock, .timedOut, .invalidInput, .interrupted,
   .permissionDenied, .outOfMemory, .unexpectedEof, .writeZero, .unsupported, .other]

inductive IoRes (α : Type) where
  | ok (a : α)
  | error (k : IoKind)
  deriving Repr

/-- one call on `std::net` with its arguments -/
inductive Call
  | bindUdp (loc : Addr)
  | connect (remote : Addr)
  | connectTimeout (remote : Addr) (d : Duration)
  | setReadTimeout (d : Option Duration)
  | setWriteTimeout (d : Option Duration)
  | sendTo (data : Bytes) (remote : Addr)
  | recvFrom (buflen : Nat)
  | write (data : Bytes)
  | read (buflen : Nat)
  deriving DecidableEq, Repr

/-- What the successive `read` calls of one `read_to_end` are answered. -/
inductive Stream
  /-- the peer has closed: this and every later read returns `Ok(0)` -/
  | closed
  /-- `d` is available: the read returns its first `min (buffer length) |d|` bytes, the rest stays available
  (`d = []`: the read returns `Ok(0)`) -/
  | data (d : Bytes) (rest : Stream)
  /-- the read returns `Err(k)` (`wouldBlock` / `timedOut`: the read timeout expired) -/
  | fail (k : IoKind) (rest : Stream)
  deriving Repr

def Stream.size : Stream → Nat
  | .closed => 0
  | .data d rest => d.length + 1 + rest.size
  | .fail _ rest => 1 + rest.size

/-- `std::net` + the kernel + the peer: the answer to every call, as a function of the calls made before it. -/
structure Os where
  bind : List Call → Addr → IoRes Unit
  /-- `connect` (`none`) / `connect_timeout` (`some d`) -/
  connect : List Call → Addr → Option Duration → IoRes Unit
  setRead : List Call → Option Duration → IoRes Unit
  setWrite : List Call → Option Duration → IoRes Unit
  /-- the number of bytes sent -/
  sendTo : List Call → Bytes → Addr → IoRes Nat
  /-- the datagram at the head of the queue (whole) and where it came from -/
  recvFrom : List Call → Nat → IoRes (Bytes × Addr)
  /-- the number of bytes written -/
  write : List Call → Bytes → IoRes Nat
  /-- the answers to the reads of the `read_to_end` that starts now -/
  reads : List Call → Stream
  /-- std's `read_to_end`: the length of the spare buffer it offers to the next read, less one, given the capacity the
  vector was created with and the number of bytes read so far (never an empty buffer) -/
  bufPolicy : Nat → Nat → Nat

/-- `DEFAULT_PACKET_SIZE` -/
def DEFAULT_PACKET_SIZE : Nat := 1024

/-- `isize::MAX + 1`: `vec![0; n]` / `Vec::with_capacity(n)` panic ("capacity overflow") from here on.  (An allocation
the allocator refuses aborts the process; sizes are constants of the protocols — C13's subject.) -/
def CAPACITY_LIMIT : Nat := 2 ^ 63

/-! ### `apply_timeout` (the same body in both impls) -/

/-- `let (read, write) = get_read_and_write_or_defaults(..); set_read_timeout(read).unwrap(); set_write_timeout(write).unwrap()` -/
def applyTimeout (os : Os) (t : Option Timeout) (h : List Call) : Res Unit × List Call :=
  let rw := readAndWriteOrDefaults t
  let h1 := h ++ [.setReadTimeout rw.1]
  match os.setRead h rw.1 with
  | .error _ => (.crash, h1)
  | .ok () =>
    let h2 := h1 ++ [.setWriteTimeout rw.2]
    match os.setWrite h1 rw.2 with
    | .error _ => (.crash, h2)
    | .ok () => (.ok (), h2)

/-! ### `UdpSocketImpl` -/

/-- the local address: `match address { V4(_) => "0.0.0.0:0", V6(_) => "[::]:0" }` -/
def localFor (address : Addr) : Addr :=
  match address with
  | .v4 .. => anyV4
  | .v6 .. => anyV6

/-- `UdpSocketImpl::new(address, timeout_settings)` -/
def udpNew (os : Os) (address : Addr) (t : Option Timeout) (h : List Call) : Res Unit × List Call :=
  let h1 := h ++ [.bindUdp (localFor address)]
  match os.bind h (localFor address) with
  | .error _ => (.err .socketBind, h1)
  | .ok () => applyTimeout os t h1

/-- `UdpSocketImpl::send(data)`: `send_to(data, self.address)`, the count is discarded -/
def udpSend (os : Os) (address : Addr) (data : Bytes) (h : List Call) : Res Unit × List Call :=
  let h1 := h ++ [.sendTo data address]
  match os.sendTo h data address with
  | .error _ => (.err .packetSend, h1)
  | .ok _ => (.ok (), h1)

/-- `UdpSocketImpl::receive(size)`: `vec![0; size.unwrap_or(1024)]`, `recv_from`, `buf[..n].to_vec()`; the source is
discarded -/
def udpReceive (os : Os) (size : Option Nat) (h : List Call) : Res Bytes × List Call :=
  let len := size.getD DEFAULT_PACKET_SIZE
  if CAPACITY_LIMIT ≤ len then (.crash, h)
  else
    let h1 := h ++ [.recvFrom len]
    match os.recvFrom h len with
    | .error _ => (.err .packetReceive, h1)
    | .ok (d, _) =>
      -- the kernel copies at most `len` bytes into the buffer, drops the rest of the datagram and reports the count
      let n := min d.length len
      let buf := d.take len ++ List.replicate (len - n) (0 : UInt8)
      -- `buf[..n]`
      if n ≤ buf.length then (.ok (buf.take n), h1) else (.crash, h1)

/-! ### `TcpSocketImpl` -/

/-- `map_or_else(|| TcpStream::connect(address), |timeout| TcpStream::connect_timeout(address, timeout))` -/
def connectCall (address : Addr) (c : Option Duration) : Call :=
  match c with
  | some d => .connectTimeout address d
  | none => .connect address

/-- `TcpSocketImpl::new`: `get_connect_or_default(..).map_or_else(|| connect(address), |t| connect_timeout(address, t))` -/
def tcpNew (os : Os) (address : Addr) (t : Option Timeout) (h : List Call) : Res Unit × List Call :=
  let c := connectOrDefault t
  let h1 := h ++ [connectCall address c]
  match os.connect h address c with
  | .error _ => (.err .socketConnect, h1)
  | .ok () => applyTimeout os t h1

/-- `TcpSocketImpl::send(data)`: `self.socket.write(data)`, the count is discarded -/
def tcpSend (os : Os) (data : Bytes) (h : List Call) : Res Unit × List Call :=
  let h1 := h ++ [.write data]
  match os.write h data with
  | .error _ => (.err .packetSend, h1)
  | .ok _ => (.ok (), h1)

/-- std's `read_to_end` over the answers `s`: a read of 0 bytes ends it with what was read, `Interrupted` is tried
again, any other error ends it (the caller drops the vector).  `fuel`: see `tcpReceive`. -/
def readLoop (os : Os) (cap : Nat) : Nat → Bytes → Stream → List Call → Res Bytes × List Call
  | 0, _, _, h => (.crash, h)
  | fuel + 1, acc, s, h =>
    let len := os.bufPolicy cap acc.length + 1
    let h1 := h ++ [.read len]
    match s with
    | .closed => (.ok acc, h1)
    | .data d rest =>
      if d.isEmpty then (.ok acc, h1)
      else readLoop os cap fuel (acc ++ d.take len) (if d.length ≤ len then rest else .data (d.drop len) rest) h1
    | .fail k rest =>
      if k = .interrupted then readLoop os cap fuel acc rest h1 else (.err .packetReceive, h1)

/-- `TcpSocketImpl::receive(size)`: `Vec::with_capacity(size.unwrap_or(1024))`, `read_to_end`.  The loop is given the
measure of the stream as fuel (every read consumes an answer or at least one available byte); running out of it would
be a loop that does not end — `readLoop_spec` (Lemmas/Socket.lean) shows it is not reached. -/
def tcpReceive (os : Os) (size : Option Nat) (h : List Call) : Res Bytes × List Call :=
  let cap := size.getD DEFAULT_PACKET_SIZE
  if CAPACITY_LIMIT ≤ cap then (.crash, h)
  else readLoop os cap ((os.reads h).size + 1) [] (os.reads h) h

/-! ### One socket's life: `new`, then any sequence of sends and receives (an error does not end it: `retry_on_timeout`
runs its closure again over the same socket) -/

inductive Kind | udp | tcp
  deriving DecidableEq, Repr

inductive Op
  | send (data : Bytes)
  | receive (size : Option Nat)
  deriving DecidableEq, Repr

def sockNew (k : Kind) (os : Os) (address : Addr) (t : Option Timeout) (h : List Call) : Res Unit × List Call :=
  match k with
  | .udp => udpNew os address t h
  | .tcp => tcpNew os address t h

/-- a send yields `ok []` -/
def step (k : Kind) (os : Os) (address : Addr) (op : Op) (h : List Call) : Res Bytes × List Call :=
  match k, op with
  | .udp, .send d => match udpSend os address d h with
    | (.ok (), h1) => (.ok [], h1)
    | (.err e, h1) => (.err e, h1)
    | (.crash, h1) => (.crash, h1)
  | .tcp, .send d => match tcpSend os d h with
    | (.ok (), h1) => (.ok [], h1)
    | (.err e, h1) => (.err e, h1)
    | (.crash, h1) => (.crash, h1)
  | .udp, .receive size => udpReceive os size h
  | .tcp, .receive size => tcpReceive os size h

/-- the operations in order; a panic ends everything -/
def runOps (k : Kind) (os : Os) (address : Addr) : List Op → List Call → List (Res Bytes) × List Call
  | [], h => ([], h)
  | op :: rest, h =>
    match step k os address op h with
    | (.crash, h1) => ([.crash], h1)
    | (r, h1) =>
      let (rs, h2) := runOps k os address rest h1
      (r :: rs, h2)

/-- (result of `new`, results of the operations, every call made on `std::net`) -/
def session (k : Kind) (os : Os) (address : Addr) (t : Option Timeout) (ops : List Op) :
    Res Unit × List (Res Bytes) × List Call :=
  match sockNew k os address t [] with
  | (.ok (), h) =>
    let (rs, h') := runOps k os address ops h
    (.ok (), rs, h')
  | (e, h) => (e, [], h)

/-- the first call of a socket's life -/
def openCall (k : Kind) (address : Addr) (t : Option Timeout) : Call :=
  match k with
  | .udp => .bindUdp (localFor address)
  | .tcp => connectCall address (connectOrDefault t)

/-- `Socket::port()` -/
def sockPort (address : Addr) : Nat := address.port

/-! ### Which timeout bounds which blocking call

The kernel bounds a blocking `recv` / `read` by the socket's SO_RCVTIMEO, a blocking `send` / `write` by SO_SNDTIMEO —
the values of the LAST `set_read_timeout` / `set_write_timeout` — and `connect_timeout` by its argument; `connect` has
no bound of its own.  `timedBy` reads this off a history: the bound in force at each blocking call. -/

inductive Bound
  /-- no `set_*_timeout` was ever called on the socket: the operating system's default (block for ever) -/
  | unset
  /-- the duration in force (`none`: block for ever, by request) -/
  | set (d : Option Duration)
  deriving DecidableEq, Repr

/-- a blocking call together with the bound in force when it was made -/
inductive Blocking
  | connect (b : Bound)
  | send (b : Bound)
  | recv (b : Bound)
  deriving DecidableEq, Repr

def timedByAux : Bound → Bound → List Call → List Blocking
  | _, _, [] => []
  | r, w, c :: rest =>
    match c with
    | .bindUdp _ => timedByAux r w rest
    | .connect _ => .connect (.set none) :: timedByAux r w rest
    | .connectTimeout _ d => .connect (.set (some d)) :: timedByAux r w rest
    | .setReadTimeout d => timedByAux (.set d) w rest
    | .setWriteTimeout d => timedByAux r (.set d) rest
    | .sendTo _ _ => .send w :: timedByAux r w rest
    | .write _ => .send w :: timedByAux r w rest
    | .recvFrom _ => .recv r :: timedByAux r w rest
    | .read _ => .recv r :: timedByAux r w rest

def timedBy (h : List Call) : List Blocking := timedByAux .unset .unset h

/-- what the settings ask for: connect by the connect duration, every send by the write duration, every receive by the
read duration (the defaults when there are no settings) -/
def Blocking.asAsked (t : Option Timeout) : Blocking → Bool
  | .connect b => b == .set (connectOrDefault t)
  | .send b => b == .set (readAndWriteOrDefaults t).2
  | .recv b => b == .set (readAndWriteOrDefaults t).1

/-! ### The abstract transport as an operating system

`GdVerif/Net.lean` scripts a socket as `refused` / `opened deliveries` plus send faults.  `udpAnswer` / `tcpAnswer` are the
answers of `std::net` that script stands for; `Props/C12_socket.lean` shows that socket.rs on top of a system that answers
so yields exactly the results of `Net`'s `openSock` / `send` / `recv`. -/

/-- what `recv_from` is answered when the abstract queue of the socket is `q` (`src`: where datagrams come from) -/
def udpAnswer (src : Addr) (q : List Delivery) : IoRes (Bytes × Addr) :=
  match q with
  | .data d :: _ => .ok (d, src)
  | _ => .error .wouldBlock

/-- what a `read_to_end` is answered: `data d` = the peer writes `d` and closes, `silence` = it writes nothing and keeps
the connection open, an exhausted script = it has closed -/
def tcpAnswer (q : List Delivery) : Stream :=
  match q with
  | .data d :: _ => .data d .closed
  | .silence :: _ => .fail .wouldBlock .closed
  | [] => .closed

/-! ### What `read_to_end` amounts to (specification of the loop) -/

/-- everything up to the end of the stream, or the failure of the first read that fails other than by `Interrupted` -/
def Stream.outcome : Stream → Bytes → Res Bytes
  | .closed, acc => .ok acc
  | .data d rest, acc => if d.isEmpty then .ok acc else rest.outcome (acc ++ d)
  | .fail k rest, acc => if k = .interrupted then rest.outcome acc else .err .packetReceive

end Gd.SockRs
