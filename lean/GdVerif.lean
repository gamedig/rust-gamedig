-- GENERATED by tools/xlate.py: every module of the project
import GdVerif.Base
import GdVerif.Buffer
import GdVerif.Gen.AllocSites
import GdVerif.Gen.Arms
import GdVerif.Gen.Consts
import GdVerif.Gen.Games
import GdVerif.Gen.Views
import GdVerif.Lemmas.Arms
import GdVerif.Lemmas.Battalion
import GdVerif.Lemmas.Cli
import GdVerif.Lemmas.CliBson
import GdVerif.Lemmas.CliCodec
import GdVerif.Lemmas.CliJson
import GdVerif.Lemmas.CliPlan
import GdVerif.Lemmas.Codec
import GdVerif.Lemmas.Consts
import GdVerif.Lemmas.Decimal
import GdVerif.Lemmas.Decodes
import GdVerif.Lemmas.Dispatch
import GdVerif.Lemmas.Ffow
import GdVerif.Lemmas.FfowFaults
import GdVerif.Lemmas.Gs1
import GdVerif.Lemmas.Gs1Block
import GdVerif.Lemmas.Gs1Cost
import GdVerif.Lemmas.Gs1Decode
import GdVerif.Lemmas.Gs1Faults
import GdVerif.Lemmas.Gs1Query
import GdVerif.Lemmas.Gs1Response
import GdVerif.Lemmas.Gs1Spec
import GdVerif.Lemmas.Gs2
import GdVerif.Lemmas.Gs2Block
import GdVerif.Lemmas.Gs2Cost
import GdVerif.Lemmas.Gs2Faults
import GdVerif.Lemmas.Gs2Query
import GdVerif.Lemmas.Gs3
import GdVerif.Lemmas.Gs3Block
import GdVerif.Lemmas.Gs3Cost
import GdVerif.Lemmas.Gs3Cut
import GdVerif.Lemmas.Gs3CutFaults
import GdVerif.Lemmas.Gs3Exchange
import GdVerif.Lemmas.Gs3Extra
import GdVerif.Lemmas.Gs3Faults
import GdVerif.Lemmas.Gs3Legacy
import GdVerif.Lemmas.Gs3Reassembly
import GdVerif.Lemmas.Gs3Response
import GdVerif.Lemmas.Gs3Safe
import GdVerif.Lemmas.Gs3Tables
import GdVerif.Lemmas.Gs3Whole
import GdVerif.Lemmas.GsMap
import GdVerif.Lemmas.GsSafe
import GdVerif.Lemmas.GsText
import GdVerif.Lemmas.Http
import GdVerif.Lemmas.HttpIpv6
import GdVerif.Lemmas.IdCheck
import GdVerif.Lemmas.Jc2m
import GdVerif.Lemmas.Jc2mFaults
import GdVerif.Lemmas.Master
import GdVerif.Lemmas.MasterPaging
import GdVerif.Lemmas.MasterRounds
import GdVerif.Lemmas.MasterSafe
import GdVerif.Lemmas.MasterSound
import GdVerif.Lemmas.McBlock
import GdVerif.Lemmas.McCost
import GdVerif.Lemmas.McFaults
import GdVerif.Lemmas.McQ
import GdVerif.Lemmas.McSafe
import GdVerif.Lemmas.McUnits
import GdVerif.Lemmas.Mindustry
import GdVerif.Lemmas.MindustryFaults
import GdVerif.Lemmas.Minecraft
import GdVerif.Lemmas.Par
import GdVerif.Lemmas.QBlock
import GdVerif.Lemmas.QBounds
import GdVerif.Lemmas.QCost
import GdVerif.Lemmas.QFlags
import GdVerif.Lemmas.QLogic
import GdVerif.Lemmas.QSteps
import GdVerif.Lemmas.QStepsG
import GdVerif.Lemmas.QStepsN
import GdVerif.Lemmas.Quake
import GdVerif.Lemmas.QuakeBlock
import GdVerif.Lemmas.QuakeCost
import GdVerif.Lemmas.QuakeDecode
import GdVerif.Lemmas.QuakeFaults
import GdVerif.Lemmas.QuakeSafe
import GdVerif.Lemmas.QuakeText
import GdVerif.Lemmas.Reader
import GdVerif.Lemmas.ReaderU2
import GdVerif.Lemmas.Reassembly
import GdVerif.Lemmas.Savage2
import GdVerif.Lemmas.SmallBlock
import GdVerif.Lemmas.SmallCost
import GdVerif.Lemmas.SmallLogic
import GdVerif.Lemmas.Socket
import GdVerif.Lemmas.Text
import GdVerif.Lemmas.TheShip
import GdVerif.Lemmas.Unreal2
import GdVerif.Lemmas.Unreal2Block
import GdVerif.Lemmas.Unreal2Cost
import GdVerif.Lemmas.Unreal2Faults
import GdVerif.Lemmas.Unreal2Query
import GdVerif.Lemmas.Unreal2Safe
import GdVerif.Lemmas.Unreal2Text
import GdVerif.Lemmas.Utf
import GdVerif.Lemmas.Valve
import GdVerif.Lemmas.ValveBlock
import GdVerif.Lemmas.ValveCost
import GdVerif.Lemmas.ValveFaults
import GdVerif.Lemmas.ValveKind
import GdVerif.Lemmas.ValveSafe
import GdVerif.Lemmas.ValveSilent
import GdVerif.Lemmas.ValveWhole
import GdVerif.Lemmas.ValveWhole2
import GdVerif.Lemmas.VarInt
import GdVerif.Net
import GdVerif.Props.C01
import GdVerif.Props.C01_battalion
import GdVerif.Props.C01_dispatch
import GdVerif.Props.C01_ffow
import GdVerif.Props.C01_gs1
import GdVerif.Props.C01_gs2
import GdVerif.Props.C01_gs3
import GdVerif.Props.C01_jc2m
import GdVerif.Props.C01_master
import GdVerif.Props.C01_mindustry
import GdVerif.Props.C01_minecraft
import GdVerif.Props.C01_quake
import GdVerif.Props.C01_savage2
import GdVerif.Props.C01_theship
import GdVerif.Props.C01_unreal2
import GdVerif.Props.C02
import GdVerif.Props.C02_consts
import GdVerif.Props.C02_whole
import GdVerif.Props.C03
import GdVerif.Props.C03_consts
import GdVerif.Props.C04_consts
import GdVerif.Props.C04_gs1
import GdVerif.Props.C04_gs2
import GdVerif.Props.C04_gs3
import GdVerif.Props.C05
import GdVerif.Props.C05_consts
import GdVerif.Props.C06
import GdVerif.Props.C06_consts
import GdVerif.Props.C07_battalion
import GdVerif.Props.C07_consts
import GdVerif.Props.C07_eco
import GdVerif.Props.C07_ffow
import GdVerif.Props.C07_jc2m
import GdVerif.Props.C07_mindustry
import GdVerif.Props.C07_savage2
import GdVerif.Props.C07_theship
import GdVerif.Props.C08
import GdVerif.Props.C08_gs1
import GdVerif.Props.C08_gs3
import GdVerif.Props.C08_unreal2
import GdVerif.Props.C09
import GdVerif.Props.C09_battalion
import GdVerif.Props.C09_consts
import GdVerif.Props.C09_eco
import GdVerif.Props.C09_ffow
import GdVerif.Props.C09_gs1
import GdVerif.Props.C09_gs2
import GdVerif.Props.C09_gs3
import GdVerif.Props.C09_http
import GdVerif.Props.C09_master
import GdVerif.Props.C09_mindustry
import GdVerif.Props.C09_minecraft
import GdVerif.Props.C09_quake
import GdVerif.Props.C09_savage2
import GdVerif.Props.C09_socket
import GdVerif.Props.C09_theship
import GdVerif.Props.C09_unreal2
import GdVerif.Props.C10
import GdVerif.Props.C10_ffow
import GdVerif.Props.C10_ffow_whole
import GdVerif.Props.C10_gs1
import GdVerif.Props.C10_gs1_whole
import GdVerif.Props.C10_gs2
import GdVerif.Props.C10_gs2_whole
import GdVerif.Props.C10_gs3
import GdVerif.Props.C10_gs3_whole
import GdVerif.Props.C10_jc2m_whole
import GdVerif.Props.C10_mcbedrock_whole
import GdVerif.Props.C10_mcjava_whole
import GdVerif.Props.C10_mclegacy_whole
import GdVerif.Props.C10_mindustry
import GdVerif.Props.C10_mindustry_whole
import GdVerif.Props.C10_minecraft
import GdVerif.Props.C10_quake
import GdVerif.Props.C10_quake_whole
import GdVerif.Props.C10_theship
import GdVerif.Props.C10_theship_whole
import GdVerif.Props.C10_unreal2
import GdVerif.Props.C10_unreal2_whole
import GdVerif.Props.C10_valve_whole
import GdVerif.Props.C11
import GdVerif.Props.C11_consts
import GdVerif.Props.C11_unreal2
import GdVerif.Props.C12
import GdVerif.Props.C12_battalion
import GdVerif.Props.C12_ffow
import GdVerif.Props.C12_gs1
import GdVerif.Props.C12_gs2
import GdVerif.Props.C12_gs3
import GdVerif.Props.C12_http
import GdVerif.Props.C12_jc2m
import GdVerif.Props.C12_mindustry
import GdVerif.Props.C12_minecraft
import GdVerif.Props.C12_quake
import GdVerif.Props.C12_savage2
import GdVerif.Props.C12_socket
import GdVerif.Props.C12_theship
import GdVerif.Props.C12_unreal2
import GdVerif.Props.C12_valve
import GdVerif.Props.C13
import GdVerif.Props.C13_battalion
import GdVerif.Props.C13_consts
import GdVerif.Props.C13_ffow
import GdVerif.Props.C13_gs1
import GdVerif.Props.C13_gs2
import GdVerif.Props.C13_gs3
import GdVerif.Props.C13_jc2m
import GdVerif.Props.C13_master
import GdVerif.Props.C13_mindustry
import GdVerif.Props.C13_minecraft
import GdVerif.Props.C13_quake
import GdVerif.Props.C13_savage2
import GdVerif.Props.C13_theship
import GdVerif.Props.C13_unreal2
import GdVerif.Props.C13_valve
import GdVerif.Props.C14
import GdVerif.Props.C14_arms
import GdVerif.Props.C14_cli
import GdVerif.Props.C14_dispatch
import GdVerif.Props.C15
import GdVerif.Props.C16
import GdVerif.Props.C16_consts
import GdVerif.Props.C16_master
import GdVerif.Props.C17
import GdVerif.Props.C17_unreal2
import GdVerif.Props.C18
import GdVerif.Props.C18_cli
import GdVerif.Props.C18_consts
import GdVerif.Props.C18_http
import GdVerif.Props.C18_socket
import GdVerif.Props.C19
import GdVerif.Props.C19_bson
import GdVerif.Props.C19_cli
import GdVerif.Props.C20
import GdVerif.Proto.ArmsSem
import GdVerif.Proto.ArmsTm
import GdVerif.Proto.Battalion
import GdVerif.Proto.Cli
import GdVerif.Proto.CliBson
import GdVerif.Proto.CliCodec
import GdVerif.Proto.CliJson
import GdVerif.Proto.CliPlan
import GdVerif.Proto.Dispatch
import GdVerif.Proto.Eco
import GdVerif.Proto.Ffow
import GdVerif.Proto.Games
import GdVerif.Proto.Gs1
import GdVerif.Proto.Gs2
import GdVerif.Proto.Gs3
import GdVerif.Proto.GsCommon
import GdVerif.Proto.Http
import GdVerif.Proto.IdCheck
import GdVerif.Proto.Jc2m
import GdVerif.Proto.Master
import GdVerif.Proto.McCodec
import GdVerif.Proto.Mindustry
import GdVerif.Proto.Minecraft
import GdVerif.Proto.Quake
import GdVerif.Proto.ReaderOps
import GdVerif.Proto.Savage2
import GdVerif.Proto.Settings
import GdVerif.Proto.Socket
import GdVerif.Proto.TheShip
import GdVerif.Proto.Unreal2
import GdVerif.Proto.Valve
import GdVerif.Proto.Views
import GdVerif.Run.Arms
import GdVerif.Run.Battalion
import GdVerif.Run.Cli
import GdVerif.Run.CliBson
import GdVerif.Run.CliPlan
import GdVerif.Run.Common
import GdVerif.Run.Dispatch
import GdVerif.Run.Eco
import GdVerif.Run.EcoJson
import GdVerif.Run.Faults
import GdVerif.Run.Ffow
import GdVerif.Run.FfowFaults
import GdVerif.Run.Games
import GdVerif.Run.GenBattalion
import GdVerif.Run.GenEco
import GdVerif.Run.GenFfow
import GdVerif.Run.GenGs1
import GdVerif.Run.GenGs2
import GdVerif.Run.GenGs3
import GdVerif.Run.GenHttp
import GdVerif.Run.GenJc2m
import GdVerif.Run.GenLib
import GdVerif.Run.GenMaster
import GdVerif.Run.GenMindustry
import GdVerif.Run.GenMinecraft
import GdVerif.Run.GenQuake
import GdVerif.Run.GenSavage2
import GdVerif.Run.GenTheShip
import GdVerif.Run.GenUnreal2
import GdVerif.Run.GenValve
import GdVerif.Run.Gs1
import GdVerif.Run.Gs1Faults
import GdVerif.Run.Gs2
import GdVerif.Run.Gs2Faults
import GdVerif.Run.Gs3
import GdVerif.Run.Gs3Faults
import GdVerif.Run.Http
import GdVerif.Run.IdCheck
import GdVerif.Run.Jc2m
import GdVerif.Run.Jc2mFaults
import GdVerif.Run.Master
import GdVerif.Run.McFaults
import GdVerif.Run.McJson
import GdVerif.Run.Mindustry
import GdVerif.Run.MindustryFaults
import GdVerif.Run.Minecraft
import GdVerif.Run.Net
import GdVerif.Run.Quake
import GdVerif.Run.QuakeFaults
import GdVerif.Run.Reader
import GdVerif.Run.Real
import GdVerif.Run.Savage2
import GdVerif.Run.Settings
import GdVerif.Run.Small
import GdVerif.Run.Socket
import GdVerif.Run.TheShip
import GdVerif.Run.TheShipFaults
import GdVerif.Run.Unreal2
import GdVerif.Run.Unreal2Faults
import GdVerif.Run.Valve
import GdVerif.Run.ValveFaults
import GdVerif.Run.Views
import GdVerif.Spec.Battalion
import GdVerif.Spec.Eco
import GdVerif.Spec.Faults
import GdVerif.Spec.FaultsN
import GdVerif.Spec.Ffow
import GdVerif.Spec.Gs1
import GdVerif.Spec.Gs1Faults
import GdVerif.Spec.Gs2
import GdVerif.Spec.Gs2Faults
import GdVerif.Spec.Gs3
import GdVerif.Spec.Gs3Faults
import GdVerif.Spec.GsText
import GdVerif.Spec.Jc2m
import GdVerif.Spec.Jc2mFaults
import GdVerif.Spec.Master
import GdVerif.Spec.McFaults
import GdVerif.Spec.Mindustry
import GdVerif.Spec.MindustryFaults
import GdVerif.Spec.Minecraft
import GdVerif.Spec.Quake
import GdVerif.Spec.QuakeFaults
import GdVerif.Spec.Savage2
import GdVerif.Spec.TheShip
import GdVerif.Spec.Unreal2
import GdVerif.Spec.Unreal2Faults
import GdVerif.Spec.Valve
import GdVerif.Spec.ValveFaults
import GdVerif.Spec.Views
